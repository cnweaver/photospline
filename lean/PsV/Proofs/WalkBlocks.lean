import PsV.Model.WalkBlocks
import PsV.Proofs.SyncSelect
import PsV.Proofs.MixedRadix
import PsV.Proofs.ListBasics
/-!
# The result loop of `walk_descents` over blocks of workers (part (a) of `PsV/Model/WalkBlocks.lean`)

With the test as written the loop is one scan over the trial indices in the order it visits them (`blockLoop_eq_fold`),
and the blocks tile `0 … n_alpha − 1` (`trialIndices_prefix`, `trial_pair_unique`), so it is C12's sequential selection
for every number of workers; with the multiplier `n_blocks` and one worker no started pair passes the last-trial test
(`blockLoopL_wrong_prefix`).  The sequential line search `walkScan` of the state machine returns the distance of the
index that selection picks (`walkScan_select`), which is all `NnlsTerm` and `Props/C11` know of it.  Part (b) of the model
file, the rows added to the factor, is the subject of `FactorRows`.
-/
namespace PsV.Nnls
open PsV.Sync

theorem selStepL_self (less : Nat → Nat → Bool) (m : Nat) (acc : Acc) (k : Nat) (v : Option Nat) :
    selStepL less m acc k k v = selStep less m acc k v := by
  rcases acc with ⟨a1, a2⟩
  cases a2 <;> cases v <;> cases a1 <;> rfl

theorem blocks_cover (c : Cfg) (hn : 0 < c.n) : c.m ≤ c.blocks * c.n :=
  Nat.le_of_not_lt fun hx => Nat.lt_irrefl _ ((lt_blocks_iff c hn c.blocks).mpr hx)

/-- quotient and remainder by the number of workers (`walk_last_trial_unique` is the index `n_alpha - 1`) -/
theorem trial_pair_unique (c : Cfg) (hn : 0 < c.n) (t : Nat) (ht : t < c.m) :
    ∃ i j, i < c.blocks ∧ j < c.active i ∧ j < c.n ∧ i * c.n + j = t ∧
      ∀ i' j', i' < c.blocks → j' < c.active i' → i' * c.n + j' = t → i' = i ∧ j' = j := by
  have hdm : t / c.n * c.n + t % c.n = t := by
    rw [Nat.mul_comm]; exact Nat.div_add_mod _ _
  have hmod : t % c.n < c.n := Nat.mod_lt _ hn
  refine ⟨t / c.n, t % c.n, (lt_blocks_iff c hn _).mpr (Nat.lt_of_le_of_lt (Nat.div_mul_le_self _ _) ht),
    (active_spec c _ _).mpr ⟨hmod, hdm.symm ▸ ht⟩, hmod, hdm, fun i' j' _ hj' h => ?_⟩
  exact Permute.mul_add_inj (Nat.lt_of_lt_of_le hj' (active_le c i')) hmod (h.trans hdm.symm)

theorem blockLoop_eq_fold (c : Cfg) :
    blockLoop c = (trialIndices c).foldl (fun a k => selStep c.less c.m a k (some k)) (none, none) := by
  unfold blockLoop blockLoopL trialIndices scanL
  rw [List.foldl_flatMap]
  refine congrArg (fun f => List.foldl f _ _) (funext fun acc => funext fun i => ?_)
  rw [List.foldl_map]
  exact congrArg (fun f => List.foldl f _ _) (funext fun a => funext fun j => selStepL_self _ _ _ _ _)

theorem trialIndices_prefix (c : Cfg) (hn : 0 < c.n) : ∀ B, B ≤ c.blocks →
    ((List.range B).flatMap fun i => (List.range (c.active i)).map fun j => i * c.n + j)
      = List.range (min (B * c.n) c.m) := by
  intro B
  induction B with
  | zero => intro _; simp
  | succ B ih =>
    intro hB
    have hlt : B * c.n < c.m := (lt_blocks_iff c hn B).mp hB
    rw [List.range_succ, List.flatMap_append, ih (Nat.le_of_lt hB), Nat.min_eq_left (Nat.le_of_lt hlt)]
    simp only [List.flatMap_cons, List.flatMap_nil, List.append_nil]
    rw [← blk_add_active c B hlt, List.range_add]

theorem blocks_one (c : Cfg) (h1 : c.n = 1) : c.blocks = c.m := by
  unfold Cfg.blocks; rw [h1]; simp

theorem active_one (c : Cfg) (h1 : c.n = 1) (i : Nat) (hi : i < c.m) : c.active i = 1 := by
  rw [Cfg.active, h1, Nat.mul_one, Nat.min_eq_left (Nat.sub_pos_of_lt hi)]

/-- no started (block, worker) pair passes the test `i*n_blocks + j == n_alpha-1` when there is one worker and `n_alpha ≥ 2` -/
theorem wrong_multiplier_never_last (c : Cfg) (h1 : c.n = 1) (hm : 2 ≤ c.m) (i j : Nat) (hi : i < c.blocks)
    (hj : j < c.active i) : i * c.blocks + j ≠ c.m - 1 := by
  rw [blocks_one c h1] at hi ⊢
  rw [active_one c h1 i hi] at hj
  obtain rfl : j = 0 := Nat.lt_one_iff.mp hj
  rcases Nat.eq_zero_or_pos i with rfl | hp
  · omega
  · have : c.m ≤ i * c.m := Nat.le_mul_of_pos_left _ hp
    omega

theorem scanL_one (c : Cfg) (h1 : c.n = 1) (mult : Nat) (val : Nat → Option Nat) (i : Nat) (hi : i < c.m) (acc : Acc) :
    scanL c mult val i acc = selStepL c.less c.m acc (i * c.n + 0) (i * mult + 0) (val 0) := by
  rw [scanL, active_one c h1 i hi]
  rfl

theorem selStepL_skip {less : Nat → Nat → Bool} {m k l v b : Nat} (hk : k ≠ 0) (hred : less v b = false)
    (hl : l ≠ m - 1) : selStepL less m (some b, none) k l (some v) = (some b, none) := by
  simp [selStepL, hk, hred, hl]

/-- with that test and no residual-reducing trial, `success` is never set: after block 0 the accumulator stays `(some 0, none)` -/
theorem blockLoopL_wrong_prefix (c : Cfg) (h1 : c.n = 1) (hm : 2 ≤ c.m)
    (hno : ∀ k, 1 ≤ k → k < c.m → c.less k 0 = false) : ∀ B, 1 ≤ B → B ≤ c.blocks →
    (List.range B).foldl (fun acc i => scanL c c.blocks (fun j => some (i * c.n + j)) i acc) (none, none)
      = (some 0, none) := by
  intro B
  induction B with
  | zero => exact fun h => absurd h (Nat.not_succ_le_zero 0)
  | succ B ih =>
    intro _ hB
    have hBm : B < c.m := blocks_one c h1 ▸ hB
    rw [List.range_succ, List.foldl_append, List.foldl_cons, List.foldl_nil, scanL_one c h1 _ _ B hBm]
    rcases Nat.eq_zero_or_pos B with rfl | hp
    · rw [Nat.zero_mul]; rfl
    · rw [ih hp (Nat.le_of_lt hB), h1, Nat.mul_one]
      exact selStepL_skip (Nat.pos_iff_ne_zero.mp hp) (hno B hp hBm)
        (wrong_multiplier_never_last c h1 hm B 0 hB (by rw [active_one c h1 B hBm]; exact Nat.one_pos))

/-- the sequential line search of the state machine returns the distance of the trial index that C12's sequential
selection picks: given the index (first that reduces the residual, else the last), `walkScan` is read off it -/
theorem walkScan_first_or_last (E : B3Env) (inF : Nat → Bool) (x xF : Nat → Rat) (res0 : Rat) :
    ∀ (as : List Rat) (k : Nat), k < as.length →
      (∀ j, j < k → ¬ E.resid inF (trialVal inF x xF (as.getD j 0)) < res0) →
      (E.resid inF (trialVal inF x xF (as.getD k 0)) < res0 ∨ k + 1 = as.length) →
      walkScan E inF x xF res0 as
        = (as.getD k 0, decide (E.resid inF (trialVal inF x xF (as.getD k 0)) < res0)) := by
  intro as
  induction as with
  | nil => exact fun k h => absurd h (Nat.not_lt_zero _)
  | cons a rest ih =>
    intro k h hbefore hk
    cases rest with
    | nil =>
      obtain rfl : k = 0 := Nat.lt_one_iff.mp h
      rfl
    | cons b rest =>
      rw [walkScan]
      cases k with
      | zero =>
        have ha := hk.resolve_right fun h => nomatch h
        exact (if_pos ha).trans (congrArg _ (decide_eq_true ha).symm)
      | succ k =>
        exact (if_neg (hbefore 0 (Nat.succ_pos _))).trans (ih k (Nat.lt_of_succ_lt_succ h)
          (fun j hj => hbefore (j + 1) (Nat.succ_lt_succ hj)) (hk.imp id Nat.succ.inj))

theorem walkScan_select (E : B3Env) (inF : Nat → Bool) (x xF : Nat → Rat) (res0 : Rat) (as : List Rat) (has : as ≠ []) :
    ∃ k, k < as.length ∧
      selectSeq (walkLess E inF x xF res0 as) (as.length + 1)
        = (some 0, some (some (k + 1), walkLess E inF x xF res0 as (k + 1) 0)) ∧
      walkScan E inF x xF res0 as = (as.getD k 0, walkLess E inF x xF res0 as (k + 1) 0) := by
  obtain ⟨k, hk1, hkm, hsel, hor, hbefore⟩ := selectSeq_spec (walkLess E inF x xF res0 as) (as.length + 1)
    (Nat.succ_le_succ (List.length_pos_iff.mpr has))
  obtain ⟨k, rfl⟩ := Nat.exists_eq_add_of_le' hk1
  exact ⟨k, Nat.lt_of_succ_lt_succ hkm, hsel,
    walkScan_first_or_last E inF x xF res0 as k (Nat.lt_of_succ_lt_succ hkm)
      (fun j hj => of_decide_eq_false (hbefore (j + 1) (Nat.succ_pos _) (Nat.succ_lt_succ hj)).1)
      (hor.imp of_decide_eq_true id)⟩

theorem walkScan_spec (E : B3Env) (inF : Nat → Bool) (x xF : Nat → Rat) (res0 : Rat) (as : List Rat) (has : as ≠ []) :
    (walkScan E inF x xF res0 as).1 ∈ as ∧
    ((walkScan E inF x xF res0 as).2 = true ↔
      E.resid inF (trialVal inF x xF (walkScan E inF x xF res0 as).1) < res0) := by
  obtain ⟨k, hk, _, heq⟩ := walkScan_select E inF x xF res0 as has
  rw [heq]
  exact ⟨getD_mem hk 0, decide_eq_true_iff⟩

end PsV.Nnls
