import PsV.Proofs.RoundingAcc
import PsV.Proofs.EvalSpec
/-!
# Forward error of evaluation under rounding: derivative rows, and the assembly of rows and walk

`bspline_deriv_nonzero` at a point of the fully supported range: the values of degree `n-1` come from
`bsplvb` with relative error (`bsplvb_relerr`, `1 + 7(n-1)` roundings); every quotient
`n·B/(t_{i+n} − t_i)` adds 4 roundings (conversion of `n`, product, knot difference, quotient) and keeps
the relative error; the **difference** of two quotients is then known only up to `Acc` with the sum of the
two quotients as majorant, and difference + store add 2 more: `7n` roundings against the majorant row
`bsplineDerivNonzeroAbs`.  Value rows are their own majorant (`1 + 7n` roundings), so the walk analysis
`walk_err3` runs with `kr = 1 + 7·maxorder` for every mixture of value / derivative rows and gives the
same constant as plain evaluation.

The assembly with the walk covers every derivative bitmask at points of the fully supported range (plain evaluation is
the bitmask 0, whose majorant is the evaluation of the coefficient magnitudes), and value evaluation at every point the
lookup accepts.
-/
namespace PsV
variable {F : Type} [Field F] [LinearOrder F] [IsStrictOrderedRing F]
variable {ε : F} {fl st : F → F}

section
variable (hε : 0 ≤ ε) (hfl : ∀ a, RelErr ε 1 a (fl a)) (hst : ∀ a, RelErr ε 1 a (st a))
include hε hfl

/-- `n*temp/(knot difference)`: conversion, product, difference, quotient — 4 roundings -/
theorem quot_relerr (n k : Nat) (tE tR Δ : F) (ht : RelErr ε k tE tR) :
    RelErr ε (k + 4) ((n : F) * tE / Δ) (fl (fl (fl (n : F) * tR) / fl Δ)) := by
  have h1 := RelErr.round hε hfl (RelErr.mul hε (hfl (n : F)) ht)
  have h2 := RelErr.round hε hfl (RelErr.div hε h1 (hfl Δ))
  exact h2.mono hε (by omega)

theorem quot_acc (n k : Nat) (tE tR lo hi : F) (ht : RelErr ε k tE tR) (ht0 : 0 ≤ tE) (hΔ : lo ≤ hi) :
    Acc ε (k + 4) ((n : F) * tE / (hi - lo)) ((n : F) * tE / (hi - lo)) (fl (fl (fl (n : F) * tR) / fl (hi - lo))) :=
  Acc.of_relerr_nonneg hε (quot_relerr hε hfl n k tE tR (hi - lo) ht)
    (div_nonneg (mul_nonneg (Nat.cast_nonneg n) ht0) (sub_nonneg.2 hΔ))

include hst

theorem derivMid_row3 (t : Int → F) (left : Int) (n k : Nat) :
    ∀ (vsE vsR : List F) (i : Nat) (tE tR : F),
      List.Forall₂ (RelErr ε k) vsE vsR → (∀ b ∈ vsE, 0 ≤ b) → RelErr ε k tE tR → 0 ≤ tE →
      (∀ m : Nat, i ≤ m → m ≤ i + vsE.length → t (left + m - n) ≤ t (left + m)) →
      Row3 ε (k + 6) (@derivMidAbs F (Arith.ofField F) t left n i tE vsE)
        (@derivMid F (Arith.ofField F) t left n i tE vsE)
        (@derivMid F (Arith.rounded fl st) t left n i tR vsR) := by
  intro vsE
  induction vsE with
  | nil =>
    intro vsR i tE tR h _ ht ht0 hk
    cases h
    simp only [derivMid, derivMidAbs, of_rnd, of_div, of_mul, of_sub, of_ofNat, rd_rnd, rd_div, rd_mul, rd_sub, rd_ofNat]
    exact ⟨(Acc.relerr_right hε (quot_acc hε hfl n k tE tR _ _ ht ht0 (hk i (le_refl _) (by simp))) (hst _)).mono hε
      (by omega), trivial⟩
  | cons v vs ih =>
    intro vsR i tE tR h hnn ht ht0 hk
    cases h with
    | cons hv hvs =>
      rename_i vR vsR'
      simp only [derivMid, derivMidAbs, of_rnd, of_div, of_mul, of_sub, of_add, of_ofNat, rd_rnd, rd_div, rd_mul, rd_sub, rd_ofNat]
      have hv0 : 0 ≤ v := hnn v (by simp)
      have hΔ2 := hk (i + 1) (by omega) (by simp)
      rw [Nat.cast_succ, ← add_assoc] at hΔ2
      have hd := Acc.relerr_right hε (Acc.sub (quot_acc hε hfl n k tE tR _ _ ht ht0 (hk i (le_refl _) (by omega)))
        (quot_acc hε hfl n k v vR _ _ hv hv0 hΔ2)) (relerr_stfl hε hfl hst _)
      exact ⟨hd.mono hε (by omega), ih vsR' (i + 1) v vR hvs (fun b hb => hnn b (by simp [hb])) hv hv0
        (fun m h1 h2 => hk m (by omega) (by simp only [List.length_cons]; omega))⟩

theorem derivCombine_row3 (t : Int → F) (left : Int) (n k : Nat) (v0E v0R : F) (vsE vsR : List F)
    (hv0 : RelErr ε k v0E v0R) (h0 : 0 ≤ v0E) (hvs : List.Forall₂ (RelErr ε k) vsE vsR) (hnn : ∀ b ∈ vsE, 0 ≤ b)
    (hk : ∀ m : Nat, 1 ≤ m → m ≤ 1 + vsE.length → t (left + m - n) ≤ t (left + m)) :
    Row3 ε (k + 6) (@derivCombineAbs F (Arith.ofField F) t left n (v0E :: vsE))
      (@derivCombine F (Arith.ofField F) t left n (v0E :: vsE))
      (@derivCombine F (Arith.rounded fl st) t left n (v0R :: vsR)) := by
  simp only [derivCombine, derivCombineAbs, of_rnd, of_div, of_mul, of_sub, of_neg, of_ofNat, rd_rnd, rd_div, rd_mul, rd_sub,
    rd_neg, rd_ofNat]
  have hΔ := hk 1 (le_refl _) (by omega)
  rw [Nat.cast_one] at hΔ
  have h1 := RelErr.round hε hfl (RelErr.mul hε (hfl (n : F)) hv0)
  have h2 := RelErr.div hε (RelErr.neg h1) (hfl (t (left + 1) - t (left + 1 - n)))
  have h3 := RelErr.round hε hst (RelErr.round hε hfl h2)
  have hacc := Acc.of_relerr hε h3
  have e : |(-((n : F) * v0E)) / (t (left + 1) - t (left + 1 - n))| = (n : F) * v0E / (t (left + 1) - t (left + 1 - n)) := by
    rw [neg_div, abs_neg, abs_of_nonneg (div_nonneg (mul_nonneg (Nat.cast_nonneg n) h0) (sub_nonneg.2 hΔ))]
  rw [e] at hacc
  exact ⟨hacc.mono hε (by omega), derivMid_row3 hε hfl hst t left n k vsE vsR 1 v0E v0R hvs hnn hv0 h0 hk⟩

theorem derivCombine_row3_list (t : Int → F) (left : Int) (n k : Nat) (vsE vsR : List F) (hvs : RelRow ε k vsE vsR)
    (hk : ∀ m : Nat, 1 ≤ m → m ≤ vsE.length → t (left + m - n) ≤ t (left + m)) :
    Row3 ε (k + 6) (@derivCombineAbs F (Arith.ofField F) t left n vsE) (@derivCombine F (Arith.ofField F) t left n vsE)
      (@derivCombine F (Arith.rounded fl st) t left n vsR) := by
  obtain ⟨hvs, hnn⟩ := hvs
  cases hvs with
  | nil => trivial
  | cons h0 hs =>
    exact derivCombine_row3 hε hfl hst t left n k _ _ _ _ h0 (hnn _ (by simp)) hs (fun b hb => hnn b (by simp [hb]))
      (fun m h1 h2 => hk m h1 (by simp only [List.length_cons]; omega))

theorem bsplineDerivNonzero_row3 (d : Dim F) (x : F) (c : Nat) (h : Interior d x c) :
    Row3 ε (7 * d.order)
      (@bsplineDerivNonzeroAbs F (Arith.ofField F) d.knots d.nknots x c d.order)
      (@bsplineDerivNonzero F (Arith.ofField F) d.knots d.nknots x c d.order)
      (@bsplineDerivNonzero F (Arith.rounded fl st) d.knots d.nknots x c d.order) ∧
    (@bsplineDerivNonzero F (Arith.ofField F) d.knots d.nknots x c d.order).length = d.order + 1 := by
  obtain ⟨lo, hi, hl, hr, _, hmono⟩ := h
  refine ⟨?_, @localRow_len F (Arith.ofField F) d x c .deriv1⟩
  unfold bsplineDerivNonzero bsplineDerivNonzeroAbs
  by_cases ho : d.order = 0
  · simp only [ho, if_true, of_rnd, of_zero, rd_rnd, rd_zero, (hst 0).zero_left]
    exact ⟨Acc.zero _, trivial⟩
  · simp only [ho, if_false]
    rw [marginShift_inst, marginShift_stay (A := Arith.ofField F) d.knots d.nknots x c d.order
        (fun _ => decide_eq_false (not_lt.2 hl)) (fun _ => decide_eq_false (not_lt.2 hr)),
      rearrange_interior (A := Arith.ofField F) d.nknots c d.order _ (by exact_mod_cast lo) (by exact_mod_cast hi),
      rearrange_interior (A := Arith.ofField F) d.nknots c d.order _ (by exact_mod_cast lo) (by exact_mod_cast hi),
      rearrange_interior (A := Arith.rounded fl st) d.nknots c d.order _ (by exact_mod_cast lo) (by exact_mod_cast hi)]
    have hvals := bsplvb_relerr hε hfl hst d.knots x c d.order
      (fun m hm => le_trans hr (hmono _ _ (by omega) (by omega) (by omega)))
      (fun m hm => le_trans (hmono _ _ (by omega) (by omega) (by omega)) hl)
    have hrow := derivCombine_row3_list hε hfl hst d.knots (c : Int) d.order _ _ _ hvals
      (fun m _ hm => by
        rw [@bsplvb_len F (Arith.ofField F)] at hm
        exact hmono _ _ (by omega) (by omega) (by omega))
    exact hrow.mono hε (by omega)

end

section
variable (hε : 0 ≤ ε) (hfl : ∀ a, RelErr ε 1 a (fl a)) (hst : ∀ a, RelErr ε 1 a (st a))
include hε hfl hst

theorem rows3_rel (n : Nat) : ∀ (ds : List (Dim F)) (xs : List F) (cs : List Nat) (ms : List BasisMode),
    AllInterior ds xs cs → (∀ d ∈ ds, d.order ≤ n) → ms.length = ds.length →
    (∀ m ∈ ms, m = BasisMode.value ∨ m = BasisMode.deriv1) →
    Rows3 ε (1 + 7 * n)
      (@rowsAbs F (Arith.ofField F) ds xs cs ms)
      (@rows F (Arith.ofField F) ds xs cs ms)
      (@rows F (Arith.rounded fl st) ds xs cs ms) ∧
    nterms (@rows F (Arith.ofField F) ds xs cs ms) ≤ blockSize ds ∧
    (@rows F (Arith.ofField F) ds xs cs ms).length = ds.length := by
  intro ds
  induction ds with
  | nil =>
    intro xs cs ms _ _ _ _
    cases xs <;> cases cs <;> cases ms <;> simp [rows, rowsAbs, Rows3, nterms, blockSize]
  | cons d ds ih =>
    intro xs cs ms h hn hl hms
    match xs, cs, h, ms, hl with
    | x :: xs, c :: cs, ⟨hd, hrest⟩, m :: ms, hl =>
      obtain ⟨i1, i2, i3⟩ := ih xs cs ms hrest (fun e he => hn e (by simp [he])) (by simpa using hl)
        (fun m' hm' => hms m' (by simp [hm']))
      have hdn : d.order ≤ n := hn d (by simp)
      have hrow : Row3 ε (1 + 7 * n) (@localRowAbs F (Arith.ofField F) d x c m) (@localRow F (Arith.ofField F) d x c m)
          (@localRow F (Arith.rounded fl st) d x c m) := by
        rcases hms m (by simp) with rfl | rfl
        · exact ((bsplvbSimple_relerr hε hfl hst d x c hd).row3 hε).mono hε (by omega)
        · exact (bsplineDerivNonzero_row3 hε hfl hst d x c hd).1.mono hε (by omega)
      have hnt := nterms_cons_le d.stride (@localRow F (Arith.ofField F) d x c m) _ _ i2 (blockSize_pos ds)
      rw [@localRow_len F (Arith.ofField F) d x c m] at hnt
      simp only [rows, rowsAbs]
      exact ⟨⟨rfl, rfl, hrow, i1⟩, hnt, congrArg (· + 1) i3⟩

theorem evalModes_rounding (T : Table F) (xs : List F) (cs : List Nat) (n : Nat) (ms : List BasisMode)
    (hint : AllInterior T.dims xs cs) (hn : ∀ d ∈ T.dims, d.order ≤ n) (hl : ms.length = T.dims.length)
    (hms : ∀ m ∈ ms, m = BasisMode.value ∨ m = BasisMode.deriv1) :
    Acc ε (3 + T.dims.length * (7 * n + 3) + 2 * blockSize T.dims)
      (@evalModesAbs F (Arith.ofField F) ⟨T.dims, fun i => |T.coef i|⟩ xs cs ms)
      (@evalModes F (Arith.ofField F) T xs cs ms)
      (@evalModes F (Arith.rounded fl st) T xs cs ms) := by
  obtain ⟨hrel, hnt, hlen⟩ := rows3_rel hε hfl hst n T.dims xs cs ms hint hn hl hms
  exact walk_rounding hε hfl hst T.coef n _ _ _ _ _ hrel hlen hnt _

theorem ndsplineeval_mask_rounding (T : Table F) (xs : List F) (cs : List Nat) (n mask : Nat)
    (hint : AllInterior T.dims xs cs) (hn : ∀ d ∈ T.dims, d.order ≤ n) :
    Acc ε (3 + T.dims.length * (7 * n + 3) + 2 * blockSize T.dims)
      (@ndsplineevalAbs F (Arith.ofField F) ⟨T.dims, fun i => |T.coef i|⟩ xs cs mask)
      (@ndsplineeval F (Arith.ofField F) T xs cs mask)
      (@ndsplineeval F (Arith.rounded fl st) T xs cs mask) :=
  evalModes_rounding hε hfl hst T xs cs n (maskModes T.dims.length mask) hint hn (maskModes_length _ _) (maskModes_mem _ _)

end

section all
attribute [local instance] Arith.ofField
variable (hε : 0 ≤ ε) (hfl : ∀ a, RelErr ε 1 a (fl a)) (hst : ∀ a, RelErr ε 1 a (st a))
include hε hfl hst

/-- value rows are their own majorants -/
theorem rows3_all (n : Nat) : ∀ (ds : List (Dim F)) (xs : List F) (cs : List Nat),
    AllOK ds xs cs → (∀ d ∈ ds, d.order ≤ n) →
    Rows3 ε (1 + 7 * n)
      (@rows F (Arith.ofField F) ds xs cs (List.replicate ds.length .value))
      (@rows F (Arith.ofField F) ds xs cs (List.replicate ds.length .value))
      (@rows F (Arith.rounded fl st) ds xs cs (List.replicate ds.length .value)) ∧
    nterms (@rows F (Arith.ofField F) ds xs cs (List.replicate ds.length .value)) ≤ blockSize ds ∧
    (@rows F (Arith.ofField F) ds xs cs (List.replicate ds.length .value)).length = ds.length := by
  intro ds
  induction ds with
  | nil => intro xs cs _ _; simp [rows, Rows3, nterms, blockSize]
  | cons d ds ih =>
    intro xs cs h hn
    match xs, cs, h with
    | x :: xs, c :: cs, ⟨⟨_, hc, hnd⟩, hrest⟩ =>
      obtain ⟨i1, i2, i3⟩ := ih xs cs hrest (fun e he => hn e (by simp [he]))
      have hrow := bsplvbSimple_relerr_all hε hfl hst d.knots d.nknots x c d.order hc hnd
      have hnt := nterms_cons_le d.stride (localRow d x c .value) _ _ i2 (blockSize_pos ds)
      rw [localRow_len d x c .value] at hnt
      have hdn : d.order ≤ n := hn d (by simp)
      simp only [List.length_cons, List.replicate_succ, rows]
      exact ⟨⟨rfl, rfl, (hrow.row3 hε).mono hε (by omega), i1⟩, hnt, congrArg (· + 1) i3⟩

theorem ndsplineeval_rounding_all (T : Table F) (xs : List F) (cs : List Nat) (n : Nat)
    (hok : AllOK T.dims xs cs) (hn : ∀ d ∈ T.dims, d.order ≤ n) :
    Acc ε (3 + T.dims.length * (7 * n + 3) + 2 * blockSize T.dims)
      (@ndsplineeval F (Arith.ofField F) ⟨T.dims, fun i => |T.coef i|⟩ xs cs 0)
      (@ndsplineeval F (Arith.ofField F) T xs cs 0)
      (@ndsplineeval F (Arith.rounded fl st) T xs cs 0) := by
  unfold ndsplineeval
  rw [maskModes_zero]
  obtain ⟨hrel, hnt, hlen⟩ := rows3_all hε hfl hst n T.dims xs cs hok hn
  exact walk_rounding hε hfl hst T.coef n _ _ _ _ _ hrel hlen hnt _

end all

/-! The dimensions of the non-vacuity examples of C01 and C02 have the knots `0, 1, 2, …`. -/

theorem dimWF_intKnots (o nk s : Nat) (h : 2 * o + 2 ≤ nk) : (⟨o, nk, nk - o - 1, s, fun i => (i : Rat)⟩ : Dim Rat).WF :=
  ⟨h, rfl, fun _ _ _ hij _ => Int.cast_le.mpr hij⟩

theorem interior_intKnots (o nk na s c : Nat) (x : Rat) (h1 : o ≤ c) (h2 : c + o + 2 ≤ nk) (h3 : (c : Rat) ≤ x)
    (h4 : x ≤ c + 1) : Interior (⟨o, nk, na, s, fun i => (i : Rat)⟩ : Dim Rat) x c :=
  ⟨h1, h2, by simpa using h3, by simpa using h4, by simp, fun _ _ _ hab _ => Int.cast_le.mpr hab⟩

end PsV
