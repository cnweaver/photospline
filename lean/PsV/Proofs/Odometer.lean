import PsV.Model.Walk
/-!
The odometer loops of `ndsplineeval_core` and of its templated clones compute the nested block walk `PsV.walk` (the
recursion the evaluation theorems C01/C02/C05 are stated about), for **every** arithmetic: no algebraic law is used, both
sides perform the same operations on the same operands in the same order, so the results are bit-identical under any
deterministic arithmetic.

The loops are first stripped of the incrementally updated `basis_tree` (`absSteps`: digits, `tablepos`, result,
with an arbitrary chunk function).  Running the lowest digit through one full row is one step of the odometer
without that digit whose chunk is the whole row (`absSteps_lift`); when the chunk is a nested walk that row is
the next level of the walk (`peel_walk`), so peeling the digits one by one builds the walk over all rows.
-/
namespace PsV
open Arith
variable {α : Type} [A : Arith α]

theorem loopGeneric_eq_templated (coef : Int → α) (ds : List (ODim α)) (last : List α) (N : Nat) :
    ∀ (f n : Nat) (s : OdoState α), n + (f + 1) = N →
      loopGeneric coef ds last N (f + 1) n s = loopTemplated coef ds last f s
  | 0, n, s, h => by simp only [loopGeneric, h, if_true, loopTemplated]
  | f + 1, n, s, h => by
    have hn : n + 1 ≠ N := by omega
    simp only [loopGeneric, hn, if_false, loopTemplated]
    exact loopGeneric_eq_templated coef ds last N f (n + 1) _ (by omega)

omit A in
theorem advance_carry (d : ODim α) (R : List (ODim α)) (a : Nat) (ps : List Nat) (tp : Int) :
    advance (d :: R) (a :: ps) tp = carry (d :: R) ((a + 1) :: ps) (tp + d.stride) := rfl

/-- The idea of the file: a carry is an `advance` of the remaining odometer from the rewound `tablepos`; `carry` is only
the shape the C loop gives it. -/
theorem advance_cons (d : ODim α) (R : List (ODim α)) (a : Nat) (ps : List Nat) (tp : Int) :
    advance (d :: R) (a :: ps) tp =
      if d.order < a + 1 then
        (0 :: (advance R ps (tp + d.stride - ((a + 1 : Nat) : Int) * d.stride)).1,
          (advance R ps (tp + d.stride - ((a + 1 : Nat) : Int) * d.stride)).2.1,
          (advance R ps (tp + d.stride - ((a + 1 : Nat) : Int) * d.stride)).2.2 + 1)
      else ((a + 1) :: ps, tp + d.stride, 0) := by
  cases R with
  | nil => rfl
  | cons e R' =>
    cases ps with
    | nil => rfl
    | cons q qs => 
      rw [advance_carry, carry, advance_carry,
        show tp + d.stride - ((a + 1 : Nat) : Int) * d.stride + e.stride
          = tp + d.stride + e.stride - ((a + 1 : Nat) : Int) * d.stride by omega]

theorem advance_length : ∀ (ds : List (ODim α)) (p : List Nat) (tp : Int), (advance ds p tp).1.length = p.length
  | [], _, _ => rfl
  | _ :: _, [], _ => rfl
  | d :: R, a :: ps, tp => by
    rw [advance_cons]
    split
    · exact congrArg (· + 1) (advance_length R ps _)
    · rfl

theorem advance_drop : ∀ (ds : List (ODim α)) (p : List Nat) (tp : Int),
    (advance ds p tp).1.drop ((advance ds p tp).2.2 + 1) = p.drop ((advance ds p tp).2.2 + 1)
  | [], _, _ => rfl
  | _ :: _, [], _ => rfl
  | d :: R, a :: ps, tp => by
    rw [advance_cons]
    split
    · exact advance_drop R ps _
    · rfl

/-- `basis_tree[ndim-1]` for given digits -/
def top (ds : List (ODim α)) (pos : List Nat) : α := (treeOf ds pos).headD A.zero

theorem top_cons (d : ODim α) (R : List (ODim α)) (a : Nat) (p : List Nat) :
    top (d :: R) (a :: p) = smul (top R p) (d.at a) := rfl

theorem treeOf_cons (d : ODim α) (R : List (ODim α)) (a : Nat) (ps : List Nat) :
    treeOf (d :: R) (a :: ps) = smul (top R ps) (d.at a) :: treeOf R ps := rfl

theorem rebuild_zero (ds : List (ODim α)) (ps : List Nat) (bt : List α) : rebuild 0 ds ps bt = bt := by
  unfold rebuild; rfl

theorem rebuild_cons (m : Nat) (d : ODim α) (R : List (ODim α)) (a : Nat) (ps : List Nat) (b : α) (bt : List α) :
    rebuild (m + 1) (d :: R) (a :: ps) (b :: bt) =
      smul ((rebuild m R ps bt).headD A.zero) (d.at a) :: rebuild m R ps bt := rfl

theorem rebuild_treeOf : ∀ (m : Nat) (ds : List (ODim α)) (p p' : List Nat), p'.length = p.length →
    p'.drop m = p.drop m → rebuild m ds p' (treeOf ds p) = treeOf ds p'
  | 0, ds, p, p', _, h => by rw [rebuild_zero, show p' = p from h]
  | _ + 1, [], _, _, _, _ => rfl
  | _ + 1, _ :: _, [], [], _, _ => rfl
  | m + 1, d :: R, a :: ps, a' :: ps', hl, h => by
    rw [treeOf_cons, rebuild_cons, rebuild_treeOf m R ps ps' (Nat.succ.inj hl) h]; rfl

/-- the incremental `basis_tree` update keeps the stored tree that of the stored digits -/
theorem tick_treeOf (ds : List (ODim α)) (p : List Nat) (tp : Int) (res : α) :
    tick ds ⟨p, tp, treeOf ds p, res⟩ =
      ⟨(advance ds p tp).1, (advance ds p tp).2.1, treeOf ds (advance ds p tp).1, res⟩ := by
  rw [← rebuild_treeOf _ ds p _ (advance_length ds p tp) (advance_drop ds p tp)]; rfl

theorem chunk_treeOf (coef : Int → α) (last : List α) (ds : List (ODim α)) (p : List Nat) (tp : Int) (res : α) :
    chunk coef last ⟨p, tp, treeOf ds p, res⟩ = ⟨p, tp, treeOf ds p, walk coef [(1, last)] (top ds p) tp res⟩ := by
  rw [walk]; rfl

/-- The odometer without its `basis_tree`: `n` rounds of "chunk, then advance" on digits, `tablepos` and result, the chunk
`C` being any function of the top of the tree (recomputed from the digits), `tablepos` and the result so far.  Every
statement below is about this; `loopTemplated_abs` ties the loops as written to it. -/
def absSteps (C : α → Int → α → α) (ds : List (ODim α)) : Nat → List Nat × Int × α → List Nat × Int × α
  | 0, s => s
  | n + 1, (p, tp, res) => absSteps C ds n ((advance ds p tp).1, (advance ds p tp).2.1, C (top ds p) tp res)

theorem absSteps_add (C : α → Int → α → α) (ds : List (ODim α)) :
    ∀ (a b : Nat) (s : List Nat × Int × α), absSteps C ds (a + b) s = absSteps C ds b (absSteps C ds a s)
  | 0, b, s => by rw [Nat.zero_add]; rfl
  | a + 1, b, (p, tp, res) => by rw [Nat.add_right_comm, absSteps, absSteps, absSteps_add C ds a b]

theorem loopTemplated_abs (coef : Int → α) (ds : List (ODim α)) (last : List α) :
    ∀ (k : Nat) (p : List Nat) (tp : Int) (res : α),
      loopTemplated coef ds last k ⟨p, tp, treeOf ds p, res⟩ =
        (absSteps (walk coef [(1, last)]) ds (k + 1) (p, tp, res)).2.2
  | 0, p, tp, res => by rw [loopTemplated, chunk_treeOf]; rfl
  | k + 1, p, tp, res => by
    rw [loopTemplated, chunk_treeOf, tick_treeOf, loopTemplated_abs coef ds last k]; rfl

/-- iterate the chunk over the remaining entries `a0 .. order` of the lowest digit -/
def rowFold (C : α → Int → α → α) (d : ODim α) (bt : α) : (m : Nat) → (a0 : Nat) → Int → α → α
  | 0, _, _, res => res
  | m + 1, a0, tp, res => rowFold C d bt m (a0 + 1) (tp + d.stride) (C (smul bt (d.at a0)) tp res)

/-- the chunk function of the odometer with the lowest digit `d` peeled off -/
def peel (C : α → Int → α → α) (d : ODim α) : α → Int → α → α :=
  fun bt tp res => rowFold C d bt (d.order + 1) 0 tp res

/-- **Block lemma.**  Running the lowest digit from `a0` to overflow performs the remaining row of chunks and
ends with one `advance` of the remaining odometer. -/
theorem absSteps_block (C : α → Int → α → α) (d : ODim α) (R : List (ODim α)) (p : List Nat) :
    ∀ (m a0 : Nat) (tp : Int) (res : α), a0 + m = d.order →
      absSteps C (d :: R) (m + 1) (a0 :: p, tp, res) =
        (0 :: (advance R p (tp - (a0 : Int) * d.stride)).1, (advance R p (tp - (a0 : Int) * d.stride)).2.1,
          rowFold C d (top R p) (m + 1) a0 tp res) := by
  have back : ∀ (a : Nat) (tp : Int), tp + d.stride - ((a + 1 : Nat) : Int) * d.stride = tp - (a : Int) * d.stride := by
    intro a tp; rw [Int.natCast_succ, Int.add_mul, Int.one_mul]; omega
  intro m
  induction m with
  | zero =>
    intro a0 tp res h
    rw [absSteps, advance_cons, if_pos (by omega), back]; rfl
  | succ m ih =>
    intro a0 tp res h
    rw [absSteps, advance_cons, if_neg (by omega), ih (a0 + 1) _ _ (by omega), back]; rfl

theorem absSteps_lift (C : α → Int → α → α) (d : ODim α) (R : List (ODim α)) :
    ∀ (n : Nat) (p : List Nat) (tp : Int) (res : α),
      absSteps C (d :: R) ((d.order + 1) * n) (0 :: p, tp, res) =
        (0 :: (absSteps (peel C d) R n (p, tp, res)).1, (absSteps (peel C d) R n (p, tp, res)).2)
  | 0, _, _, _ => rfl
  | n + 1, p, tp, res => by
    rw [Nat.mul_succ, Nat.add_comm, absSteps_add, absSteps_block C d R p d.order 0 tp res (Nat.zero_add _),
      Int.natCast_zero, Int.zero_mul, Int.sub_zero, absSteps_lift C d R n]
    rfl

def rowOf (d : ODim α) : Nat × List α := (d.stride, (List.range (d.order + 1)).map d.at)

theorem walkRow_rowFold (coef : Int → α) (d : ODim α) (rows : List (Nat × List α)) (bt : α) :
    ∀ (m a0 : Nat) (tp : Int) (res : α),
      walkRow coef d.stride rows bt ((List.range' a0 m).map d.at) tp res = rowFold (walk coef rows) d bt m a0 tp res
  | 0, _, _, _ => by rw [List.range'_zero, List.map_nil, walkRow, rowFold]
  | m + 1, a0, tp, res => by
    rw [List.range'_succ, List.map_cons, walkRow, rowFold, walkRow_rowFold coef d rows bt m]

theorem peel_walk (coef : Int → α) (d : ODim α) (rows : List (Nat × List α)) (h : rows ≠ []) :
    peel (walk coef rows) d = walk coef (rowOf d :: rows) := by
  funext bt tp res
  obtain ⟨r, rest, rfl⟩ := List.exists_cons_of_ne_nil h
  rw [rowOf, walk, List.range_eq_range', walkRow_rowFold]; rfl

theorem absSteps_walk (coef : Int → α) : ∀ (ds : List (ODim α)) (rows : List (Nat × List α)) (tp : Int) (res : α),
    rows ≠ [] →
    (absSteps (walk coef rows) ds (nchunksOf ds) (ds.map fun _ => 0, tp, res)).2.2 =
      walk coef (ds.reverse.map rowOf ++ rows) (A.rnd A.one) tp res
  | [], _, _, _, _ => rfl
  | d :: R, rows, tp, res, h => by
    rw [nchunksOf, List.map_cons, absSteps_lift, peel_walk coef d rows h,
      absSteps_walk coef R (rowOf d :: rows) tp res (List.cons_ne_nil _ _), List.reverse_cons, List.map_append,
      List.append_assoc]
    rfl

omit A in
theorem nchunksOf_pos : ∀ (ds : List (ODim α)), 1 ≤ nchunksOf ds
  | [] => Nat.le_refl 1
  | _ :: R => Nat.mul_pos (Nat.succ_pos _) (nchunksOf_pos R)

theorem coreTemplated_eq_coreGeneric (coef : Int → α) (ds : List (ODim α)) (last : List α) (start : Int) :
    coreTemplated coef ds last start (nchunksOf ds) = coreGeneric coef ds last start := by
  obtain ⟨f, hf⟩ := Nat.exists_eq_add_of_le' (nchunksOf_pos ds)
  rw [coreTemplated, coreGeneric, hf]
  exact (loopGeneric_eq_templated coef ds last _ f 0 _ (Nat.zero_add _)).symm

/-- **The templated cores' loop is the nested walk** whenever their compile-time chunk count is the
table's (which `C03_dispatch_sound_*` guarantees for the routine `get_evaluator` selects). -/
theorem coreTemplated_eq_walk (coef : Int → α) (ds : List (ODim α)) (last : List α) (start : Int) (nchunks : Nat)
    (h : nchunks = nchunksOf ds) :
    coreTemplated coef ds last start nchunks =
      walk coef (ds.reverse.map rowOf ++ [(1, last)]) (A.rnd A.one) start (A.rnd A.zero) := by
  rw [← absSteps_walk coef ds [(1, last)] start _ (List.cons_ne_nil _ _), ← Nat.sub_add_cancel (nchunksOf_pos ds), ← h]
  exact loopTemplated_abs coef ds last _ _ _ _

end PsV
