import PsV.Proofs.FitsBytes
import PsV.Proofs.ListBasics
/-! Helper lemmas for C08: what the encoder writes HDU by HDU is what the block reader reads back. -/
namespace PsV.C08

theorem endCard_length : endCard.length = 80 := by decide
theorem isEnd_endCard : isEnd endCard = true := by decide

theorem cardsOf_flatten (l : List Bytes) (hl : l.length = 36) (h : ∀ c ∈ l, c.length = 80) :
    cardsOf l.flatten = l := by
  have := map_take_drop_flatten_uniform h ([] : Bytes)
  rw [List.append_nil, hl] at this
  exact this

theorem padBlock_length (fill : Nat) (b : Bytes) : (padBlock fill b).length = roundUp b.length := by
  unfold padBlock roundUp
  rw [List.length_append, List.length_replicate]
  omega

theorem padBlock_append (fill : Nat) (p q : Bytes) (hp : p.length % 2880 = 0) :
    padBlock fill (p ++ q) = p ++ padBlock fill q := by
  unfold padBlock
  have e : (p ++ q).length % 2880 = q.length % 2880 := by
    rw [List.length_append]; omega
  rw [e, List.append_assoc]

theorem takeBlock_append (b r : Bytes) (hb : b.length = 2880) : takeBlock (b ++ r) = some (b, r) := by
  unfold takeBlock
  rw [List.take_left' hb, List.drop_left' hb, if_pos hb]

theorem splitAtEnd_none : ∀ (l : List Bytes), (∀ c ∈ l, isEnd c = false) → splitAtEnd l = none
  | [], _ => rfl
  | c :: l, h => by
    unfold splitAtEnd
    rw [h c List.mem_cons_self, splitAtEnd_none l (fun c hc => h c (List.mem_cons_of_mem _ hc))]
    rfl

theorem splitAtEnd_end : ∀ (l more : List Bytes), (∀ c ∈ l, isEnd c = false) →
    splitAtEnd (l ++ endCard :: more) = some l
  | [], more, _ => by
    rw [List.nil_append]; unfold splitAtEnd; rw [isEnd_endCard]; rfl
  | c :: l, more, h => by
    rw [List.cons_append]
    unfold splitAtEnd
    rw [h c List.mem_cons_self, splitAtEnd_end l more (fun c hc => h c (List.mem_cons_of_mem _ hc))]
    rfl

theorem header_length (cards : List Bytes) (hlen : ∀ c ∈ cards, c.length = 80) :
    (cards ++ [endCard]).flatten.length = 80 * (cards.length + 1) := by
  rw [List.flatten_append, List.length_append, length_flatten_uniform hlen, List.flatten_singleton,
    endCard_length, Nat.mul_succ]

theorem short_block (cards : List Bytes) (hlen : ∀ c ∈ cards, c.length = 80) (hn : cards.length < 36) :
    padBlock 32 (cards ++ [endCard]).flatten
      = (cards ++ endCard :: List.replicate (35 - cards.length) (List.replicate 80 32)).flatten := by
  unfold padBlock
  rw [List.append_cons cards endCard (List.replicate (35 - cards.length) _), List.flatten_append (L₁ := cards ++ [endCard]), List.flatten_replicate_replicate,
    header_length cards hlen]
  congr 2
  omega

theorem readHeader_short (cards : List Bytes) (rest : Bytes) (F : Nat)
    (hc : ∀ c ∈ cards, c.length = 80 ∧ isEnd c = false) (hn : cards.length < 36) :
    readHeader (F + 1) (padBlock 32 (cards ++ [endCard]).flatten ++ rest) = some (cards, rest) := by
  have hL80 : ∀ c ∈ cards ++ endCard :: List.replicate (35 - cards.length) (List.replicate 80 32),
      c.length = 80 := by
    intro c hm
    rcases List.mem_append.1 hm with h | h
    · exact (hc c h).1
    · rcases List.mem_cons.1 h with h | h
      · rw [h]; exact endCard_length
      · rw [(List.mem_replicate.1 h).2, List.length_replicate]
  have hL36 : (cards ++ endCard :: List.replicate (35 - cards.length) (List.replicate 80 32)).length = 36 := by
    rw [List.length_append, List.length_cons, List.length_replicate]; omega
  have hB : (cards ++ endCard :: List.replicate (35 - cards.length) (List.replicate 80 32)).flatten.length
      = 2880 := by
    rw [length_flatten_uniform hL80, hL36]
  unfold readHeader
  rw [short_block cards (fun c h => (hc c h).1) hn, takeBlock_append _ _ hB]
  simp only
  rw [cardsOf_flatten _ hL36 hL80, splitAtEnd_end _ _ fun c h => (hc c h).2]

theorem readHeader_enc (cards : List Bytes) (rest : Bytes) (F : Nat)
    (hc : ∀ c ∈ cards, c.length = 80 ∧ isEnd c = false) (hF : cards.length / 36 < F) :
    readHeader F (padBlock 32 (cards ++ [endCard]).flatten ++ rest) = some (cards, rest) := by
  induction F generalizing cards with
  | zero => omega
  | succ F ih =>
    by_cases hn : cards.length < 36
    · exact readHeader_short cards rest F hc hn
    · have hA80 : ∀ c ∈ cards.take 36, c.length = 80 := fun c h => (hc c (List.mem_of_mem_take h)).1
      have hA36 : (cards.take 36).length = 36 := by rw [List.length_take]; omega
      have hAl : (cards.take 36).flatten.length = 2880 := by rw [length_flatten_uniform hA80, hA36]
      have hBF : (cards.drop 36).length / 36 < F := by rw [List.length_drop]; omega
      have e : padBlock 32 (cards ++ [endCard]).flatten
          = (cards.take 36).flatten ++ padBlock 32 (cards.drop 36 ++ [endCard]).flatten := by
        rw [← padBlock_append 32 _ _ (by rw [hAl]), ← List.flatten_append, ← List.append_assoc,
          List.take_append_drop]
      unfold readHeader
      rw [e, List.append_assoc, takeBlock_append _ _ hAl]
      simp only
      rw [cardsOf_flatten _ hA36 hA80, splitAtEnd_none _ fun c h => (hc c (List.mem_of_mem_take h)).2]
      simp only
      rw [ih (cards.drop 36) (fun c h => hc c (List.mem_of_mem_drop h)) hBF]
      simp only [List.take_append_drop]

theorem readHdu_encHdu (cards : List Bytes) (data rest : Bytes) (F : Nat)
    (hc : ∀ c ∈ cards, c.length = 80 ∧ isEnd c = false) (hF : cards.length / 36 < F)
    (hd : dataLen cards = some data.length) :
    readHdu F (encHdu cards data ++ rest) = some (⟨cards, some data⟩, rest) := by
  unfold encHdu
  rw [readHdu_eq, List.append_assoc, readHeader_enc cards _ F hc hF]
  dsimp only
  rw [hd]
  dsimp only
  rw [List.drop_left' (padBlock_length 0 data), if_pos (by rw [List.length_append, padBlock_length]; have := roundUp_ge data.length; omega)]
  unfold padBlock
  rw [List.append_assoc, List.take_left' rfl]

theorem encHdu_length (cards : List Bytes) (data : Bytes) (hlen : ∀ c ∈ cards, c.length = 80) :
    (encHdu cards data).length = roundUp (80 * (cards.length + 1)) + roundUp data.length := by
  unfold encHdu
  rw [List.length_append, padBlock_length, padBlock_length, header_length cards hlen]

/-- an HDU as the reader finds it when its blocks are all there -/
def toHdu (p : List Bytes × Bytes) : Hdu := ⟨p.1, some p.2⟩

/-- A header with its image data that the block reader reads back: the cards are 80 columns wide, none of them is `END`,
    and the header announces as many data bytes as there are. -/
def Framed (p : List Bytes × Bytes) : Prop :=
  (∀ c ∈ p.1, c.length = 80 ∧ isEnd c = false) ∧ dataLen p.1 = some p.2.length

/-- the file that consists of the given HDUs -/
def encHdus (hs : List (List Bytes × Bytes)) : Bytes := (hs.map fun p => encHdu p.1 p.2).flatten

theorem encHdus_cons (p : List Bytes × Bytes) (hs : List (List Bytes × Bytes)) :
    encHdus (p :: hs) = encHdu p.1 p.2 ++ encHdus hs := by
  unfold encHdus; rw [List.map_cons, List.flatten_cons]

theorem encHdus_length (hs : List (List Bytes × Bytes)) (h : ∀ p ∈ hs, ∀ c ∈ p.1, c.length = 80) :
    (encHdus hs).length = (hs.map fun p => roundUp (80 * (p.1.length + 1)) + roundUp p.2.length).sum := by
  unfold encHdus
  rw [List.length_flatten, List.map_map]
  exact congrArg List.sum (List.map_congr_left fun p hp => encHdu_length p.1 p.2 (h p hp))

theorem readHdus_encHdus (F : Nat) : ∀ (hs : List (List Bytes × Bytes)) (f : Nat), hs.length < f →
    (∀ p ∈ hs, p.1.length / 36 < F) → (∀ p ∈ hs, Framed p) → readHdus F f (encHdus hs) = hs.map toHdu
  | [], f, _, _, _ => readHdus_nil F f
  | p :: hs, 0, hf, _, _ => absurd hf (by omega)
  | p :: hs, f+1, hf, hF, hok => by
    obtain ⟨h1, h2⟩ := hok p List.mem_cons_self
    rw [encHdus_cons, List.map_cons]
    unfold readHdus
    rw [readHdu_encHdu p.1 p.2 _ F h1 (hF p List.mem_cons_self) h2]
    simp only
    rw [readHdus_encHdus F hs f (by rw [List.length_cons] at hf; omega)
      (fun q hq => hF q (List.mem_cons_of_mem _ hq)) (fun q hq => hok q (List.mem_cons_of_mem _ hq))]
    rfl

/-- the two fuels `hdusOf` gives itself, one more than the number of bytes, are enough for a concatenation of encoded
    HDUs: every HDU takes at least a block, and a header of `n` cards takes more than `80 * n` bytes -/
theorem encHdus_fuel : ∀ (hs : List (List Bytes × Bytes)), (∀ p ∈ hs, ∀ c ∈ p.1, c.length = 80) →
    hs.length < (encHdus hs).length + 1 ∧ ∀ p ∈ hs, p.1.length / 36 < (encHdus hs).length + 1
  | [], _ => ⟨Nat.zero_lt_one, fun _ hp => absurd hp (by simp)⟩
  | q :: hs, h => by
    obtain ⟨ih1, ih2⟩ := encHdus_fuel hs (fun p hp => h p (List.mem_cons_of_mem _ hp))
    have g := encHdu_length q.1 q.2 (h q List.mem_cons_self)
    unfold roundUp at g
    rw [encHdus_cons, List.length_append, List.length_cons]
    refine ⟨by omega, ?_⟩
    intro p hp
    rcases List.mem_cons.1 hp with rfl | hp
    · omega
    · have := ih2 p hp; omega

theorem hdusOf_encHdus (hs : List (List Bytes × Bytes)) (hok : ∀ p ∈ hs, Framed p) :
    hdusOf (encHdus hs) = hs.map toHdu := by
  obtain ⟨g1, g2⟩ := encHdus_fuel hs (fun p hp c hc => ((hok p hp).1 c hc).1)
  exact readHdus_encHdus _ hs _ g1 g2 hok

end PsV.C08
