import PsV.Proofs.Strides
import PsV.Proofs.FitQuad
/-!
# C09: coefficient vectors of tensor-product form

`compProd dims hs i = Π_d h_d((i / stride_d) % naxes_d)`: the coefficient vector of a product of
one-dimensional splines.  With C-ordered strides
* the sum over all coefficients factorises, `Σ_i Π_d h_d(i_d) = Π_d Σ_k h_d(k)` (`sum_compProd`), hence so does the
  tensor-product spline with these coefficients (`sum_basisProd_compProd`),
* along every line of dimension `d` the vector is `h_d` times a constant, the weight of the line's position on the
  dimensions before and after `d` (`compProd_line`), so its derivative coefficients vanish when those of `h_d` do
  (`derivVanishes_compProd`).
-/
set_option linter.unusedSectionVars false
namespace PsV
open Finset Permute

section
variable {α : Type} [Field α] [LinearOrder α] [IsStrictOrderedRing α] [A : Arith α] [L : LawfulArith α]

/-- `Π_d h_d((i / stride_d) % naxes_d)` (0 when the lists differ in length) -/
def compProd : List (Dim α) → List (Nat → α) → Nat → α
  | d :: ds, h :: hs, i => h ((i / d.stride) % d.naxes) * compProd ds hs i
  | [], [], _ => 1
  | _, _, _ => 0

/-- `Π_d Σ_{k < naxes_d} h_d(k)` -/
def dimSums : List (Dim α) → List (Nat → α) → α
  | d :: ds, h :: hs => (∑ k ∈ range d.naxes, h k) * dimSums ds hs
  | [], [] => 1
  | _, _ => 0

omit [LinearOrder α] [IsStrictOrderedRing α] A L in
theorem compProd_eq_digitProd : ∀ (ds : List (Dim α)) (hs : List (Nat → α)), StridesRowMajor ds → ∀ i,
    compProd ds hs i = digitProd (ds.map (·.naxes)) hs i
  | [], [], _, _ | [], _ :: _, _, _ | _ :: _, [], _, _ => rfl
  | d :: ds, h :: hs, hst, i => by
    rw [compProd, List.map_cons, digitProd, compProd_eq_digitProd ds hs hst.tail i, hst.stride_head]

omit [LinearOrder α] [IsStrictOrderedRing α] A L in
theorem dimSums_eq : ∀ (ds : List (Dim α)) (hs : List (Nat → α)), dimSums ds hs = axisSums (ds.map (·.naxes)) hs
  | [], [] | [], _ :: _ | _ :: _, [] => rfl
  | d :: ds, h :: hs => by rw [dimSums, List.map_cons, axisSums, dimSums_eq ds hs]

theorem sum_compProd (ds : List (Dim α)) (hs : List (Nat → α)) (hst : StridesRowMajor ds) :
    ∑ i ∈ range (natProd (ds.map (·.naxes))), compProd ds hs i = dimSums ds hs := by
  rw [natProd_eq_prodL, sum_congr rfl fun i _ => compProd_eq_digitProd ds hs hst i, sum_digitProd, dimSums_eq]

/-- per dimension `k ↦ B_{d,k}(x_d)·h_d(k)` (the rest of `hs` is kept where the lists end, so that `compProd` still sees
a length mismatch) -/
def basisMulFns : List (Dim α) → List α → List (Nat → α) → List (Nat → α)
  | d :: ds, x :: xs, h :: hs =>
    (fun k => Bind (indR d.knots x) d.knots x d.order (k : Int) * h k) :: basisMulFns ds xs hs
  | _, _, hs => hs

omit [IsStrictOrderedRing α] in
theorem basisProd_mul_compProd (i : Nat) : ∀ (ds : List (Dim α)) (xs : List α) (hs : List (Nat → α)),
    xs.length = ds.length → basisProd ds xs i * compProd ds hs i = compProd ds (basisMulFns ds xs hs) i
  | [], [], [], _ => by rw [basisProd, L.one_eq, one_mul]; rfl
  | [], [], _ :: _, _ => mul_zero _
  | _ :: _, _ :: _, [], _ => mul_zero _
  | d :: ds, x :: xs, h :: hs, hx => by
    rw [basisProd, L.mul_eq, basisMulFns, compProd, compProd,
      ← basisProd_mul_compProd i ds xs hs (Nat.succ.inj hx)]
    ring

theorem sum_basisProd_compProd (ds : List (Dim α)) (xs : List α) (hs : List (Nat → α))
    (hst : StridesRowMajor ds) (hx : xs.length = ds.length) :
    ∑ i ∈ range (natProd (ds.map (·.naxes))), basisProd ds xs i * compProd ds hs i
      = dimSums ds (basisMulFns ds xs hs) := by
  rw [sum_congr rfl (fun i _ => basisProd_mul_compProd i ds xs hs hx), sum_compProd _ _ hst]

theorem derivVanishes_add (ds : List (Dim α)) (ps : List Nat) (N : Nat) (c c' : Nat → α)
    (h : DerivVanishes ds ps N c) (h' : DerivVanishes ds ps N c') :
    DerivVanishes ds ps N (fun i => c i + c' i) := by
  induction ds generalizing ps with
  | nil => cases ps <;> trivial
  | cons d ds ih =>
    cases ps with
    | nil => trivial
    | cons p ps =>
      obtain ⟨h1, h2⟩ := h
      obtain ⟨h1', h2'⟩ := h'
      refine ⟨?_, ih ps h2 h2'⟩
      intro a ha k hk b hb
      have := derivCoef_linear d.knots d.order p 1 1
        (fun m => c (a * d.naxes * d.stride + m * d.stride + b))
        (fun m => c' (a * d.naxes * d.stride + m * d.stride + b)) k
      simp only [one_mul] at this
      rw [this, h1 a ha k hk b hb, h1' a ha k hk b hb, add_zero]

theorem derivVanishes_zero (ds : List (Dim α)) (ps : List Nat) (N : Nat) :
    DerivVanishes ds ps N (fun _ => (0 : α)) := by
  induction ds generalizing ps with
  | nil => cases ps <;> trivial
  | cons d ds ih =>
    cases ps with
    | nil => trivial
    | cons p ps =>
      exact ⟨fun _ _ k _ _ _ => derivCoef_zero d.knots d.order p k, ih ps⟩

/-- per dimension: the `p_d`-th derivative coefficients of `h_d` (as a coefficient vector on the knots of `d`) vanish -/
def DimDerivVanish : List (Dim α) → List (Nat → α) → List Nat → Prop
  | d :: ds, h :: hs, p :: ps =>
    (∀ k < d.naxes - p, derivCoef d.knots d.order p h k = 0) ∧ DimDerivVanish ds hs ps
  | _, _, _ => True

omit [LinearOrder α] [IsStrictOrderedRing α] A L in
theorem compProd_length_ne (i : Nat) : ∀ (ds : List (Dim α)) (hs : List (Nat → α)), hs.length ≠ ds.length →
    compProd ds hs i = 0
  | [], [], h => absurd rfl h
  | [], _ :: _, _ | _ :: _, [], _ => rfl
  | d :: ds, h :: hs, hl => by
    rw [compProd, compProd_length_ne i ds hs (fun e => hl (congrArg Nat.succ e)), mul_zero]

omit [LinearOrder α] [IsStrictOrderedRing α] A L in
theorem compProd_line (pre : List (Dim α)) (d : Dim α) (ds : List (Dim α)) (wpre : List (Nat → α)) (h : Nat → α)
    (hs : List (Nat → α)) (hl : wpre.length = pre.length) (hst : StridesRowMajor (pre ++ d :: ds)) (a b : Nat)
    (hb : b < d.stride) {m : Nat} (hm : m < d.naxes) :
    compProd (pre ++ d :: ds) (wpre ++ h :: hs) (a * d.naxes * d.stride + m * d.stride + b)
      = digitProd (pre.map (·.naxes)) wpre a * digitProd (ds.map (·.naxes)) hs b * h m := by
  have hS := (StridesRowMajor.suffix pre hst).stride_head
  rw [hS] at hb ⊢
  rw [compProd_eq_digitProd _ _ hst, List.map_append, List.map_cons, Nat.mul_assoc, Nat.add_assoc, ← prodL,
    digitProd_append _ _ (mul_add_lt hm hb) a _ _ (hl.trans (List.length_map _).symm), digitProd_cons_block _ _ _ _ hm hb]
  ring

/-- the dimensions are walked from the front; `pre` holds those already passed -/
theorem derivVanishes_compProd_aux (N : Nat) : ∀ (ds : List (Dim α)) (hs : List (Nat → α)) (ps : List Nat)
    (pre : List (Dim α)) (wpre : List (Nat → α)), wpre.length = pre.length → StridesRowMajor (pre ++ ds) →
    DimDerivVanish ds hs ps → DerivVanishes ds ps N (compProd (pre ++ ds) (wpre ++ hs))
  | [], _, _, _, _, _, _, _ | _ :: _, _, [], _, _, _, _, _ => trivial
  | d :: ds, [], p :: ps, pre, wpre, hl, _, _ => by
    rw [show compProd (pre ++ d :: ds) (wpre ++ []) = fun _ => 0 from funext fun i =>
      compProd_length_ne i _ _ (by simp [hl])]
    exact derivVanishes_zero _ _ N
  | d :: ds, h :: hs, p :: ps, pre, wpre, hl, hst, ⟨hv1, hv2⟩ => by
    refine ⟨fun a _ k hk b hb => ?_, ?_⟩
    · rw [derivCoef_congr' d.knots d.order p _ _ k (fun m _ h2 =>
          compProd_line pre d ds wpre h hs hl hst a b hb (show m < d.naxes by omega)),
        derivCoef_scale, hv1 k hk, mul_zero]
    · have := derivVanishes_compProd_aux N ds hs ps (pre ++ [d]) (wpre ++ [h]) (by simp [hl])
        (by rwa [List.append_assoc]) hv2
      rwa [List.append_assoc, List.append_assoc] at this

theorem derivVanishes_compProd (ds : List (Dim α)) (hs : List (Nat → α)) (ps : List Nat) (N : Nat)
    (hst : StridesRowMajor ds) (hv : DimDerivVanish ds hs ps) :
    DerivVanishes ds ps N (compProd ds hs) :=
  derivVanishes_compProd_aux N ds hs ps [] [] rfl hst hv

end
end PsV
