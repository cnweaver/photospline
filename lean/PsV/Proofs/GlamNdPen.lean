import PsV.Proofs.GlamNdFlat
import PsV.Proofs.FitQuad
/-!
# C09, any number of dimensions: the penalty matrix assembled by fit.h / `calc_penalty` is the specification's
`Σ_d λ_d K_dᵀK_d`

The Kronecker chain `I ⊗ … ⊗ DᵀD ⊗ … ⊗ I` and the Gram sum of the rows of `K_d` are both, entrywise,
`[i/(n s) = j/(n s)]·[i % s = j % s]·(DᵀD)[(i/s)%n, (j/s)%n]` (`calcPenalty_eq_gram`).
-/
set_option linter.unusedSectionVars false
namespace PsV
open Finset

theorem mod_mul_eq_iff (i j n P : Nat) :
    i % (n * P) = j % (n * P) ↔ (i / P % n = j / P % n ∧ i % P = j % P) := by
  constructor
  · intro h
    refine ⟨?_, ?_⟩
    · rw [← Nat.mod_mul_left_div_self i P n, ← Nat.mod_mul_left_div_self j P n, h]
    · rw [← Nat.mod_mul_left_mod i n P, ← Nat.mod_mul_left_mod j n P, h]
  · rintro ⟨h1, h2⟩
    rw [Nat.mul_comm n P, Nat.mod_mul, Nat.mod_mul, h1, h2]

theorem line_eq_iff (a n s m b i : Nat) (hm : m < n) (hb : b < s) :
    a * n * s + m * s + b = i ↔ (a = i / (n * s) ∧ m = (i / s) % n ∧ b = i % s) := by
  rw [← Nat.add_mul]
  exact Permute.block_eq_iff a i hm hb

section
variable {α : Type} [Field α] [LinearOrder α] [IsStrictOrderedRing α] [A : Arith α] [L : LawfulArith α]

theorem kron_val (a b : Mat α) (i j : Nat) :
    (kron a b).val i j = a.val (i / b.nrow) (j / b.ncol) * b.val (i % b.nrow) (j % b.ncol) := by
  unfold kron
  simp only [L.mul_eq]

theorem eye_val (n i j : Nat) : (eye n : Mat α).val i j = if i = j then 1 else 0 := by
  unfold eye
  simp only [L.one_eq, L.zero_eq]

theorem eye_nrow (n : Nat) : (eye n : Mat α).nrow = n := rfl
theorem eye_ncol (n : Nat) : (eye n : Mat α).ncol = n := rfl

theorem foldl_kron_eye (ns : List Nat) (m : Mat α) (i j : Nat) :
    ((ns.map eye).foldl kron m).val i j
      = m.val (i / natProd ns) (j / natProd ns) * (if i % natProd ns = j % natProd ns then 1 else 0) := by
  induction ns generalizing m with
  | nil => simp [natProd, Nat.mod_one]
  | cons n ns ih =>
    rw [List.map_cons, List.foldl_cons, ih, kron_val, eye_val, eye_nrow, eye_ncol, natProd_cons]
    rw [Nat.div_div_eq_div_mul, Nat.div_div_eq_div_mul, Nat.mul_comm (natProd ns) n, mul_assoc]
    congr 1
    by_cases h : i % (n * natProd ns) = j % (n * natProd ns)
    · have h' := (mod_mul_eq_iff i j n (natProd ns)).mp h
      rw [if_pos h, if_pos h'.1, if_pos h'.2, mul_one]
    · rw [if_neg h]
      by_cases h1 : i / natProd ns % n = j / natProd ns % n
      · have h2 : ¬ i % natProd ns = j % natProd ns := fun h2 => h ((mod_mul_eq_iff i j n _).mpr ⟨h1, h2⟩)
        rw [if_neg h2, mul_zero]
      · rw [if_neg h1, zero_mul]

theorem foldl_kron_eye_eye (ns : List Nat) (a u v : Nat) :
    ((ns.map eye).foldl kron (eye a : Mat α)).val u v = if u = v then 1 else 0 := by
  rw [foldl_kron_eye, eye_val]
  by_cases h : u = v
  · subst h; simp
  · rw [if_neg h]
    by_cases h1 : u / natProd ns = v / natProd ns
    · have h2 : ¬ u % natProd ns = v % natProd ns := fun h2 => h (Nat.ext_div_mod h1 h2)
      rw [if_neg h2, mul_zero]
    · rw [if_neg h1, zero_mul]

theorem mapIdx_all_eye (l : List Nat) (f : Nat → Nat → Mat α) (h : ∀ i, i < l.length → ∀ x, f i x = eye x) :
    l.mapIdx f = l.map eye := by
  induction l generalizing f with
  | nil => rfl
  | cons x xs ih =>
    rw [List.mapIdx_cons, List.map_cons, h 0 (by simp) x,
      ih (fun i => f (i + 1)) (fun i hi y => h (i + 1) (by simpa using hi) y)]

theorem mapIdx_chain (pre post : List Nat) (n : Nat) (core : Mat α) :
    (pre ++ n :: post).mapIdx (fun i x => if i = pre.length then core else eye x)
      = pre.map eye ++ core :: post.map eye := by
  rw [List.mapIdx_append, List.mapIdx_cons]
  rw [mapIdx_all_eye pre _ (fun i hi x => by rw [if_neg (by omega)])]
  rw [mapIdx_all_eye post _ (fun i hi x => by rw [if_neg (by omega)])]
  simp

/-- `kronChain` seeds its fold with the first factor, so for `pre = []` there is no identity to the left of `core`: hence the
case split on `pre`, and the bounds `hi`, `hj`, which only that case needs (there the outer digit is read as `i / …`
without a `%`). -/
theorem kronChain_val (pre post : List Nat) (n : Nat) (core : Mat α) (hr : core.nrow = n) (hc : core.ncol = n)
    (i j : Nat) (hi : i < natProd pre * (n * natProd post)) (hj : j < natProd pre * (n * natProd post)) :
    (kronChain (pre ++ n :: post) pre.length core).val i j
      = if i / natProd post / n = j / natProd post / n ∧ i % natProd post = j % natProd post
        then core.val (i / natProd post % n) (j / natProd post % n) else 0 := by
  unfold kronChain
  simp only []
  rw [mapIdx_chain]
  cases pre with
  | nil =>
    simp only [List.map_nil, List.nil_append, natProd, Nat.one_mul] at hi hj ⊢
    rw [foldl_kron_eye]
    have hs : 0 < natProd post := by
      rcases Nat.eq_zero_or_pos (natProd post) with h | h
      · rw [h] at hi; simp at hi
      · exact h
    have hi' : i / natProd post < n := (Nat.div_lt_iff_lt_mul hs).mpr hi
    have hj' : j / natProd post < n := (Nat.div_lt_iff_lt_mul hs).mpr hj
    rw [Nat.div_eq_of_lt hi', Nat.div_eq_of_lt hj', Nat.mod_eq_of_lt hi', Nat.mod_eq_of_lt hj']
    by_cases h : i % natProd post = j % natProd post
    · rw [if_pos h, if_pos ⟨rfl, h⟩, mul_one]
    · rw [if_neg h, if_neg (fun hh => h hh.2), mul_zero]
  | cons a pre' =>
    simp only [List.map_cons, List.cons_append]
    rw [List.foldl_append, List.foldl_cons, foldl_kron_eye, kron_val, foldl_kron_eye_eye, hr, hc]
    by_cases h : i / natProd post / n = j / natProd post / n ∧ i % natProd post = j % natProd post
    · rw [if_pos h, if_pos h.1, if_pos h.2, one_mul, mul_one]
    · rw [if_neg h]
      by_cases h1 : i / natProd post / n = j / natProd post / n
      · have h2 : ¬ i % natProd post = j % natProd post := fun h2 => h ⟨h1, h2⟩
        rw [if_neg h2, mul_zero]
      · rw [if_neg h1, zero_mul, zero_mul]

/-- row `q = (a(n−p)+κ)s+b` of `K_d` at column `i`: row `κ` of the finite-difference matrix at the digit of `i`
along the dimension, if the other digits of `i` are `(a, b)`; zero otherwise -/
theorem penaltyRow_val (t : Int → α) (order p n s a κ b i : Nat) (hκ : κ < n - p) (hb : b < s) :
    penaltyRow t order p n s ((a * (n - p) + κ) * s + b) i
      = if a = i / (n * s) ∧ b = i % s then (finiteDiff t order p n).get κ ((i / s) % n) else 0 := by
  have hn : 0 < n := by omega
  rw [penaltyRow_line t order p n s a κ b i hκ hb]
  by_cases h : a = i / (n * s) ∧ b = i % s
  · rw [if_pos h, finiteDiff_get_eq_derivCoef t order p n κ _ hκ (Nat.mod_lt _ hn)]
    apply derivCoef_congr'
    intro m h1 h2
    have hm : m < n := by omega
    by_cases hm' : m = (i / s) % n
    · rw [if_pos hm', if_pos ((line_eq_iff a n s m b i hm hb).mpr ⟨h.1, hm', h.2⟩)]
    · rw [if_neg hm', if_neg (fun hh => hm' ((line_eq_iff a n s m b i hm hb).mp hh).2.1)]
  · rw [if_neg h]
    refine (derivCoef_congr' t order p _ (fun _ => 0) κ fun m h1 h2 => ?_).trans (derivCoef_zero t order p κ)
    have hm : m < n := by omega
    have hne : ¬ a * n * s + m * s + b = i := fun hh =>
      h ⟨((line_eq_iff a n s m b i hm hb).mp hh).1, ((line_eq_iff a n s m b i hm hb).mp hh).2.2⟩
    rw [if_neg hne]

theorem gram_sum (t : Int → α) (order p n s Ao i j : Nat) (hs : 0 < s) (hn : 0 < n) (hi : i < Ao * (n * s)) :
    ∑ q ∈ range (Ao * (n - p) * s), penaltyRow t order p n s q i * penaltyRow t order p n s q j
      = if i / (n * s) = j / (n * s) ∧ i % s = j % s
        then ∑ κ ∈ range (n - p), (finiteDiff t order p n).get κ ((i / s) % n) * (finiteDiff t order p n).get κ ((j / s) % n)
        else 0 := by
  have hai : i / (n * s) < Ao := (Nat.div_lt_iff_lt_mul (Nat.mul_pos hn hs)).mpr hi
  have hbi : i % s < s := Nat.mod_lt _ hs
  rw [Permute.sum_range_mul, Permute.sum_range_mul]
  rw [Finset.sum_eq_single (i / (n * s))]
  · -- the block `a = i / (n s)`
    have hinner : ∀ κ ∈ range (n - p),
        ∑ b ∈ range s, penaltyRow t order p n s ((i / (n * s) * (n - p) + κ) * s + b) i
            * penaltyRow t order p n s ((i / (n * s) * (n - p) + κ) * s + b) j
          = if i / (n * s) = j / (n * s) ∧ i % s = j % s
            then (finiteDiff t order p n).get κ ((i / s) % n) * (finiteDiff t order p n).get κ ((j / s) % n)
            else 0 := by
      intro κ hκ
      have hκ' := mem_range.mp hκ
      rw [Finset.sum_eq_single (i % s)]
      · rw [penaltyRow_val t order p n s _ κ _ i hκ' hbi, penaltyRow_val t order p n s _ κ _ j hκ' hbi,
          if_pos ⟨rfl, rfl⟩]
        by_cases h : i / (n * s) = j / (n * s) ∧ i % s = j % s
        · rw [if_pos h, if_pos h]
        · rw [if_neg h, if_neg h, mul_zero]
      · intro b hb hne
        rw [penaltyRow_val t order p n s _ κ b i hκ' (mem_range.mp hb), if_neg (fun hh => hne hh.2), zero_mul]
      · intro hh; exact absurd (mem_range.mpr hbi) hh
    rw [Finset.sum_congr rfl hinner]
    by_cases h : i / (n * s) = j / (n * s) ∧ i % s = j % s
    · simp only [if_pos h]
    · simp only [if_neg h, Finset.sum_const_zero]
  · intro a ha hne
    apply Finset.sum_eq_zero
    intro κ hκ
    apply Finset.sum_eq_zero
    intro b hb
    rw [penaltyRow_val t order p n s a κ b i (mem_range.mp hκ) (mem_range.mp hb), if_neg (fun hh => hne hh.1), zero_mul]
  · intro hh; exact absurd (mem_range.mpr hai) hh

theorem dtd_get (D : Tab2 α) (x y : Nat) (hx : x < D.m) (hy : y < D.m) :
    (dtd D).get x y = ∑ κ ∈ range D.n, D.get κ x * D.get κ y := by
  unfold dtd
  rw [tab2_get_ofFn _ hx hy, sumTo_eq_sum]
  exact Finset.sum_congr rfl (fun q _ => by rw [L.mul_eq])

theorem calcPenalty_eq_gram (pre post : List (Dim α)) (d : Dim α) (hs : StridesRowMajor (pre ++ d :: post))
    (p i j : Nat)
    (hi : i < natProd ((pre ++ d :: post).map (·.naxes))) (hj : j < natProd ((pre ++ d :: post).map (·.naxes))) :
    (calcPenalty ((pre ++ d :: post).map (·.naxes)) d.knots pre.length d.order p).val i j
      = ∑ q ∈ range (penaltyNK d p (natProd ((pre ++ d :: post).map (·.naxes)))),
          penaltyRow d.knots d.order p d.naxes d.stride q i * penaltyRow d.knots d.order p d.naxes d.stride q j := by
  have hst : d.stride = natProd (post.map (·.naxes)) := (hs.suffix pre).stride_head.trans (natProd_eq_prodL _).symm
  have hN : natProd ((pre ++ d :: post).map (·.naxes))
      = natProd (pre.map (·.naxes)) * (d.naxes * natProd (post.map (·.naxes))) := by
    rw [List.map_append, List.map_cons, ndFlat_natProd_append, natProd_cons]
  rw [hN] at hi hj ⊢
  have hpos : 0 < d.naxes * natProd (post.map (·.naxes)) := by
    rcases Nat.eq_zero_or_pos (d.naxes * natProd (post.map (·.naxes))) with h | h
    · rw [h] at hi; simp at hi
    · exact h
  have hn : 0 < d.naxes := Nat.pos_of_mul_pos_right hpos
  have hsp : 0 < natProd (post.map (·.naxes)) := Nat.pos_of_mul_pos_left hpos
  have hNK : penaltyNK d p (natProd (pre.map (·.naxes)) * (d.naxes * natProd (post.map (·.naxes))))
      = natProd (pre.map (·.naxes)) * (d.naxes - p) * natProd (post.map (·.naxes)) := by
    unfold penaltyNK
    rw [hst, Nat.mul_div_cancel _ hpos]
  rw [hNK, hst, gram_sum d.knots d.order p d.naxes _ _ i j hsp hn hi]
  have hlen : pre.length = (pre.map (·.naxes)).length := (List.length_map _).symm
  unfold calcPenalty
  rw [List.map_append, List.map_cons, hlen, getD_append_length,
    kronChain_val (pre.map (·.naxes)) (post.map (·.naxes)) d.naxes _ rfl rfl i j hi hj]
  rw [Nat.div_div_eq_div_mul, Nat.div_div_eq_div_mul, Nat.mul_comm (natProd (post.map (·.naxes))) d.naxes]
  by_cases h : i / (d.naxes * natProd (post.map (·.naxes))) = j / (d.naxes * natProd (post.map (·.naxes)))
      ∧ i % natProd (post.map (·.naxes)) = j % natProd (post.map (·.naxes))
  · rw [if_pos h, if_pos h]
    exact dtd_get (finiteDiff d.knots d.order p d.naxes) _ _ (Nat.mod_lt _ hn) (Nat.mod_lt _ hn)
  · rw [if_neg h, if_neg h]

theorem foldl_addPenalty_eq_penaltyGram (smoothing : List α) (porders : List Nat) (c : Nat → Dim α → Mat α) (N i j : Nat)
    (post : List (Dim α)) (k : Nat) (acc : α)
    (h : ∀ m d, post[m]? = some d → (c (k + m) d).val i j
        = ∑ q ∈ range (penaltyNK d (pick porders (k + m) 0) N),
            penaltyRow d.knots d.order (pick porders (k + m) 0) d.naxes d.stride q i
              * penaltyRow d.knots d.order (pick porders (k + m) 0) d.naxes d.stride q j) :
    (((post.zipIdx k).map (fun x => match x with
        | (d, idx) => if isZero (pick smoothing idx A.zero) then none
                      else some (pick smoothing idx A.zero, c idx d))).filterMap id).foldl
        (fun acc sm => A.add acc (A.mul sm.1 (sm.2.val i j))) acc
      = acc + penaltyGram post ((List.range' k post.length).map fun k => pick smoothing k 0)
          ((List.range' k post.length).map fun k => pick porders k 0) N i j := by
  induction post generalizing k acc with
  | nil => exact (add_zero acc).symm
  | cons d ds ih =>
    have h0 := h 0 d rfl
    rw [Nat.add_zero] at h0
    have ih' := fun acc' => ih (k + 1) acc' (fun m d' hm => by
      have := h (m + 1) d' hm
      rwa [show k + (m + 1) = k + 1 + m by omega] at this)
    rw [List.zipIdx_cons, List.map_cons, List.length_cons, List.range'_succ, List.map_cons, List.map_cons,
      penaltyGram_step, ← h0]
    simp only []
    by_cases hz : isZero (pick smoothing k A.zero) = true
    · have hz0 : pick smoothing k 0 = 0 := by
        have := (isZero_iff _).mp hz
        rwa [L.zero_eq] at this
      rw [if_pos hz, List.filterMap_cons_none (by rfl), ih', hz0, zero_mul, zero_add]
    · rw [if_neg hz, List.filterMap_cons_some (by rfl), List.foldl_cons, ih', L.add_eq, L.mul_eq, L.zero_eq, add_assoc]

theorem exists_eq_append_of_getElem? {β : Type} (l : List β) (m : Nat) (d : β) (h : l[m]? = some d) :
    ∃ pre post, l = pre ++ d :: post ∧ pre.length = m := by
  obtain ⟨hlt, hd⟩ := List.getElem?_eq_some_iff.mp h
  refine ⟨l.take m, l.drop (m + 1), ?_, ?_⟩
  · rw [← hd, ← List.drop_eq_getElem_cons hlt, List.take_append_drop]
  · rw [List.length_take]; omega

/-- the penalty matrix assembled by fit.h / calc_penalty (finite-difference matrix, DᵀD, Kronecker chain with identities,
scaled sum over the dimensions, zero scales skipped) is the specification's `Σ_d λ_d K_dᵀK_d`, in any number of dimensions -/
theorem penaltyMat_get_nd (dims : List (Dim α)) (smoothing : List α) (porders : List Nat)
    (hs : StridesRowMajor dims) (i j : Nat)
    (hi : i < natProd (dims.map (·.naxes))) (hj : j < natProd (dims.map (·.naxes))) :
    (penaltyMat dims smoothing porders).get i j
      = penaltyGram dims ((List.range dims.length).map fun k => pick smoothing k 0)
          ((List.range dims.length).map fun k => pick porders k 0) (natProd (dims.map (·.naxes))) i j := by
  unfold penaltyMat
  simp only []
  rw [tab2_get_ofFn _ hi hj, List.mapIdx_eq_zipIdx_map, List.range_eq_range']
  have key := foldl_addPenalty_eq_penaltyGram smoothing porders
    (fun idx d => calcPenalty (dims.map (·.naxes)) d.knots idx d.order (pick porders idx 0))
    (natProd (dims.map (·.naxes))) i j dims 0 A.zero (by
      intro m d hm
      obtain ⟨pre, post, rfl, rfl⟩ := exists_eq_append_of_getElem? dims m d hm
      rw [Nat.zero_add]
      exact calcPenalty_eq_gram pre post d hs _ i j hi hj)
  rw [L.zero_eq, zero_add] at key
  rw [L.zero_eq]
  exact key

end
end PsV
