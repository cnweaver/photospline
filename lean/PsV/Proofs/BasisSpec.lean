import PsV.Proofs.BSpline
/-!
Each basis routine of the model returns the specification's row of one polynomial piece: re-indexing turns the row of the
piece `l` the margin loops chose into the row of that piece over the block of the centre (`rearrange_pieceRow`, values and
derivatives alike); the derivative combination of `bspline_deriv_nonzero` turns the value row of degree `m` into the
first-derivative row of degree `m+1`; and the recursive `bspline_deriv` (model `bsplineDerivRec`) is the specification's
iterated formula `Dind` with the right-continuous indicator, for every knot function (exact arithmetic, `a/0 = 0` on both
sides).
-/
namespace PsV
variable {α : Type} [Field α] [LinearOrder α]
attribute [local instance] Arith.ofField

/-- the monotonicity clause of `CenterOK` and `Dim.WF` as a window of indices -/
theorem mono_window {t : Int → α} {nknots : Nat} (hmono : ∀ i j : Int, 0 ≤ i → i ≤ j → j < nknots → t i ≤ t j) :
    MonoOn t 0 ((nknots:Int) - 1) := fun a b h1 h2 h3 => hmono a b h1 h2 (by omega)

theorem indR_iff_of_shift (t : Int → α) (nknots n : Nat) (x : α) (c : Nat) (l : Int)
    (hmono : ∀ i j : Int, 0 ≤ i → i ≤ j → j < nknots → t i ≤ t j) (hs : ShiftOK t nknots n x c l)
    (h : x < t ((nknots:Int) - n - 1) ∨ x ≠ t (l + 1)) :
    ∀ i : Int, 0 ≤ i → i ≤ (nknots:Int) - 2 → (indR t x i = true ↔ i = l) := by
  obtain ⟨⟨hl0, hl1, _, _, _, _⟩, ⟨_, b1, b2⟩ | ⟨hx, b1, b2⟩⟩ := hs
  · exact fun i h0 h1 => indR_iff_eq (mono_window hmono) hl0 (by omega) b1 b2 i h0 (by omega)
  · rcases h with h | h
    · exact absurd (lt_of_lt_of_le h hx) (lt_irrefl _)
    · exact fun i h0 h1 =>
        indR_iff_eq (mono_window hmono) hl0 (by omega) b1.le (lt_of_le_of_ne b2 h) i h0 (by omega)

theorem rearrange_row (nknots n c : Nat) (l : Int)
    (F : Int → α) (hzero : ∀ i : Int, (l < i ∨ i + n < l) → F i = 0)
    (hs : ShiftIdx nknots n c l) :
    rearrange nknots l n ((List.range (n + 1)).map fun m : Nat => F (l - n + m)) =
      (List.range (n + 1)).map fun j : Nat => F ((c:Int) - n + j) := by
  rw [rearrange_eq_shift nknots l n c _ (by rw [List.length_map, List.length_range]) hs]
  refine List.map_congr_left fun j _ => ?_
  split
  · -- slot `j + (c - l)` of the row of piece `l` is function `c - n + j`
    rename_i h
    obtain ⟨m, hm⟩ := Int.eq_ofNat_of_zero_le h.1
    rw [hm, Int.toNat_natCast, List.getD_eq_getElem?_getD, List.getElem?_map, List.getElem?_range (by omega)]
    exact congrArg F (by omega)
  · -- outside the row is outside the support of the piece
    exact (hzero _ (by omega)).symm

/-- what every basis routine ends with: the row of the piece the margin loops chose, re-indexed, is the row of that
piece over the block of the centre -/
theorem rearrange_pieceRow (t : Int → α) (nknots n : Nat) (x : α) (c : Nat) (l : Int) (hs : ShiftIdx nknots n c l)
    (k : Nat) :
    rearrange nknots l n (pieceRow t x l k n) =
      (List.range (n + 1)).map fun j : Nat => Dind (indAt l) t x k n ((c:Int) - n + j) :=
  rearrange_row nknots n c l _
    (fun i h => Dind_eq_zero _ t x k n i fun q q1 q2 => indAt_of_ne (by omega)) hs

theorem bsplvbSimple_piece (t : Int → α) (nknots n : Nat) (x : α) (c : Nat)
    (hs : ShiftIdx nknots n c (marginShift t nknots x c n)) :
    bsplvbSimple t nknots x c n =
      (List.range (n + 1)).map fun j : Nat =>
        Dind (indAt (marginShift t nknots x c n)) t x 0 n ((c:Int) - n + j) := by
  rw [bsplvbSimple, bsplvb_level]
  exact rearrange_pieceRow t nknots n x c _ hs 0

/-- knot-difference derivative formula on the polynomial piece `left` -/
def DBp (t : Int → α) (x : α) (left : Int) (m : Nat) (i : Int) : α :=
  ((m + 1 : Nat) : α) * (Bp t x left m i / (t (i + m + 1) - t i) - Bp t x left m (i + 1) / (t (i + m + 2) - t (i + 1)))

theorem DBp_eq_Dind (t : Int → α) (x : α) (left : Int) (m : Nat) (i : Int) :
    DBp t x left m i = Dind (indAt left) t x 1 (m + 1) i := by
  rw [Dind_succ, DBp, Bp_eq_Bind, Bp_eq_Bind]; rfl

theorem pieceRow_one (t : Int → α) (x : α) (left : Int) (m : Nat) :
    pieceRow t x left 1 (m + 1) = (List.range (m + 2)).map fun k : Nat => DBp t x left m (left - (m + 1 : Nat) + k) :=
  List.map_congr_left fun _ _ => (DBp_eq_Dind t x left m _).symm

/-- The formula in the indexing of the rows of `bspline_deriv_nonzero`: entry `k` of the derivative row from
entries `k-1` and `k` of level `m`, with the knot differences as the C code writes them. -/
theorem DBp_row (t : Int → α) (x : α) (left : Int) (m k : Nat) :
    DBp t x left m (left - (m + 1 : Nat) + k) =
      ((m + 1 : Nat) : α) * Bp t x left m (left - m + k - 1) / (t (left + k) - t (left + k - (m + 1 : Nat)))
      - ((m + 1 : Nat) : α) * Bp t x left m (left - m + k) / (t (left + k + 1) - t (left + k + 1 - (m + 1 : Nat))) := by
  rw [DBp, show left - ((m + 1 : Nat) : Int) + k + m + 1 = left + k by omega,
    show left - ((m + 1 : Nat) : Int) + k + m + 2 = left + k + 1 by omega,
    show left - ((m + 1 : Nat) : Int) + k + 1 = left - m + k by omega,
    show left - ((m + 1 : Nat) : Int) + k = left - m + k - 1 by omega,
    show left - (m : Int) + k - 1 = left + k - (m + 1 : Nat) by omega,
    show left - (m : Int) + k = left + k + 1 - (m + 1 : Nat) by omega,
    mul_sub, mul_div_assoc, mul_div_assoc]

/-- the middle loop turns entries `i ..` of level `m` (with entry `i-1` in `temp`) into entries `i ..` of the
derivative row -/
theorem derivMid_row (t : Int → α) (x : α) (left : Int) (m : Nat) :
    ∀ (n i : Nat) (temp : α), i + n = m + 1 → temp = Bp t x left m (left - m + i - 1) →
      derivMid t left (m + 1) i temp ((List.range' i n).map fun k : Nat => Bp t x left m (left - m + k)) =
        (List.range' i (n + 1)).map fun k : Nat => DBp t x left m (left - (m + 1 : Nat) + k)
  | 0, i, temp, hi, ht => by
    obtain rfl : i = m + 1 := by omega
    rw [List.range'_zero, List.map_nil, derivMid, List.range'_one, List.map_singleton, DBp_row, ← ht,
      Bp_zero_of_not_mem t x left m _ (Or.inl (by omega)), mul_zero, zero_div, sub_zero]
    rfl
  | n + 1, i, temp, hi, ht => by
    rw [List.range'_succ, List.map_cons, derivMid, List.range'_succ (s := i), List.map_cons, DBp_row, ← ht,
      derivMid_row t x left m n (i + 1) _ (by omega) (congrArg _ (by omega))]
    rfl

theorem derivCombine_row (t : Int → α) (x : α) (left : Int) (m : Nat) :
    derivCombine t left (m + 1) (pieceRow t x left 0 m) = pieceRow t x left 1 (m + 1) := by
  -- slot 0 is `DBp_row` at `k = 0`, whose first term lies outside the support of the piece, so only the negated
  -- quotient remains; the slots from 1 on are `derivMid_row`
  rw [pieceRow_one, pieceRow_zero, List.range_eq_range', List.range'_succ, List.map_cons, derivCombine, List.range_eq_range',
    List.range'_succ, List.map_cons, Nat.zero_add,
    derivMid_row t x left m m 1 _ (Nat.add_comm 1 m) (congrArg _ (by omega)), DBp_row,
    Bp_zero_of_not_mem t x left m (left - m + (0 : Nat) - 1) (Or.inr (by omega)), mul_zero, zero_div, zero_sub,
    ← neg_div]
  simp only [Nat.cast_zero, add_zero]
  rfl

theorem bsplineDerivNonzero_piece (t : Int → α) (nknots n : Nat) (x : α) (c : Nat)
    (hs : ShiftIdx nknots n c (marginShift t nknots x c n)) :
    bsplineDerivNonzero t nknots x c n =
      (List.range (n + 1)).map fun j : Nat =>
        Dind (indAt (marginShift t nknots x c n)) t x 1 n ((c:Int) - n + j) := by
  cases n with
  | zero => rfl
  | succ m =>
    rw [bsplineDerivNonzero, if_neg (Nat.succ_ne_zero m)]
    show rearrange nknots _ (m + 1) (derivCombine t _ (m + 1) (bsplvb t x _ (m + 1))) = _
    rw [bsplvb_level, derivCombine_row]
    exact rearrange_pieceRow t nknots (m + 1) x c _ hs 1

theorem bsplineRec_eq_Bind (t : Int → α) (x : α) :
    ∀ (n : Nat) (i : Int), bsplineRec t x n i = Bind (indR t x) t x n i
  | 0, _ => rfl
  | n + 1, i => by
    rw [bsplineRec, Bind, bsplineRec_eq_Bind t x n i, bsplineRec_eq_Bind t x n (i + 1)]
    simp only [of_add, of_mul, of_div, of_sub, mul_div_right_comm]

theorem bsplineDerivRec_eq_Dind (t : Int → α) (x : α) :
    ∀ (n : Nat) (i : Int) (k : Nat), 1 ≤ k → bsplineDerivRec t x n i k = Dind (indR t x) t x k n i
  | _, _, 0, h => absurd h (by decide)
  | 0, _, _ + 1, _ => rfl
  | n + 1, i, 1, _ => by
    rw [bsplineDerivRec, if_pos (le_refl 1), bsplineRec_eq_Bind, bsplineRec_eq_Bind, Dind]
    simp only [of_sub, of_div, of_mul, of_ofNat, mul_sub, mul_div_assoc]
    rfl
  | n + 1, i, k + 2, _ => by
    rw [bsplineDerivRec, if_neg (by omega), show k + 2 - 1 = k + 1 from rfl,
      bsplineDerivRec_eq_Dind t x n i (k + 1) (by omega),
      bsplineDerivRec_eq_Dind t x n (i + 1) (k + 1) (by omega), Dind]
    simp only [of_sub, of_div, of_mul, of_ofNat, mul_sub, mul_div_assoc]

end PsV
