import PsV.Proofs.Sync
/-! The ranking function of C12: every pthread call lowers `rank` (`rank_step`, on the invariant), a spurious wake-up
raises it by at most 2 (`rank_spur`), so the rank of the initial state bounds every schedule up to three times the number
of its spurious wake-ups (`run_bound`). -/
namespace PsV.Sync

/-! `rank = rankC + Σ lw` counts, for every thread, the pthread calls it can still make on its own plus a budget for what
its calls add to the others.  Being woken adds 2 to a thread (`waiting → woken`, then re-acquire and wait again or go
on), so a broadcast may add 2 to each of the `n` workers and to the coordinator: the broadcasting worker pays
`BW = 2n + 4` for it (`lw … bcast` exceeds `lw … unlock2` by `BW + 1`), the coordinator `2n + 1` at `bcastA`/`bcastT`.
Setting a worker's state to RUN adds at most `G = 8 + BW` to its `lw` (`lw_run`: one round of compute, publish,
broadcast), TERMINATE at most 4 (`lw_term`), creating it less than `G` (`lw_lock1`).  Hence a block costs the
coordinator `PB = 8 + 2n + n·G` (its own 8 calls, the broadcast, `n` workers set to RUN), the teardown
`CT = 7n + 4` (`lockT` 4 per worker, the broadcast, the joins), thread creation `G` per worker. -/
/-- the workers' part of a potential: `rank` sums `lw`, `corr` (SyncFair) sums `corrW` -/
def wsum (n : Nat) (f : WPc → WSt → Nat) (s : State) : Nat := sumTo n fun k => f (s.wpc k) (s.st k)

theorem rank_eq (c : Cfg) (s : State) : rank c s = rankC c s.cpc s.blk + wsum c.n (lw c.n) s := rfl

theorem wsum_le (n : Nat) (f : WPc → WSt → Nat) {s s' : State} (d : Nat)
    (h : ∀ k, k < n → f (s'.wpc k) (s'.st k) ≤ f (s.wpc k) (s.st k) + d) : wsum n f s' ≤ wsum n f s + n * d := by
  induction n with
  | zero => simp [wsum, sumTo]
  | succ n ih =>
    have h1 := ih (fun k hk => h k (Nat.lt_succ_of_lt hk))
    have h2 := h n (Nat.lt_succ_self n)
    simp only [wsum, sumTo, Nat.succ_mul] at h1 ⊢
    omega

/-- the term of worker `w` is accounted for exactly, every other term rises by at most `d` -/
theorem wsum_move (n : Nat) (f : WPc → WSt → Nat) {s s' : State} {w : Nat} (d : Nat) (hw : w < n)
    (h : ∀ k, k < n → k ≠ w → f (s'.wpc k) (s'.st k) ≤ f (s.wpc k) (s.st k) + d) :
    wsum n f s' + f (s.wpc w) (s.st w) ≤ wsum n f s + n * d + f (s'.wpc w) (s'.st w) := by
  induction n with
  | zero => omega
  | succ n ih =>
    rcases Nat.lt_or_ge w n with h1 | h1
    · have := ih h1 (fun k hk hne => h k (Nat.lt_succ_of_lt hk) hne)
      have h2 := h n (Nat.lt_succ_self n) (by omega)
      simp only [wsum, sumTo, Nat.succ_mul] at this ⊢
      omega
    · have hwn : w = n := by omega
      subst hwn
      have := wsum_le w f d (s := s) (s' := s') (fun k hk => h k (Nat.lt_succ_of_lt hk) (by omega))
      simp only [wsum, sumTo, Nat.succ_mul] at this ⊢
      omega

theorem wsum_upd (n : Nat) (f : WPc → WSt → Nat) {s s' : State} {w : Nat} (hw : w < n) {q : WPc} {x : WSt}
    (h3 : s'.wpc = upd s.wpc w q) (h4 : s'.st = upd s.st w x) :
    wsum n f s' + f (s.wpc w) (s.st w) ≤ wsum n f s + f q x := by
  have := wsum_move n f 0 hw (s := s) (s' := s') fun k _ hne => by
    rw [h3, h4, upd_ne _ _ hne, upd_ne _ _ hne]; exact Nat.le_refl _
  rw [h3, h4, upd_self, upd_self] at this
  omega

/-- from the account of one term (`u` becomes `v`) to a bound on the sum, when `a` is paid and `b` is gained -/
theorem le_of_account {A B u v a b : Nat} (h : A + u ≤ B + v) (hab : v + a ≤ u + b) : A + a ≤ B + b := by omega

theorem lw_wake (n : Nat) (p : WPc) (st : WSt) : lw n (if p = .waiting then .woken else p) st ≤ lw n p st + 2 := by
  cases p <;> cases st <;> simp [lw] <;> omega
theorem lw_run (n : Nat) (p : WPc) (st : WSt) : lw n p .run ≤ lw n p st + G n := by
  cases p <;> cases st <;> simp [lw, G, BW] <;> omega
theorem lw_term (n : Nat) (p : WPc) (st : WSt) : lw n p .term ≤ lw n p st + 4 := by
  cases p <;> cases st <;> simp [lw, BW] <;> omega
theorem lw_lock1 (n : Nat) (st : WSt) : lw n .lock1 st + 1 ≤ G n := by
  cases st <;> simp [lw, G, BW] <;> omega
theorem lw_idle (n : Nat) (st : WSt) : lw n .idle st = 0 := by
  cases st <;> rfl

theorem rank_lt_of_le (c : Cfg) (s s' : State) (a b : Nat)
    (hS : wsum c.n (lw c.n) s' + a ≤ wsum c.n (lw c.n) s + b)
    (hC : rankC c s'.cpc s'.blk + b < rankC c s.cpc s.blk + a) : rank c s' < rank c s := by
  rw [rank_eq, rank_eq]
  omega

theorem rank_lt_of_worker (c : Cfg) (s s' : State) (w x d e : Nat) (hw : w < c.n)
    (hC : rankC c s'.cpc s'.blk ≤ rankC c s.cpc s.blk + x)
    (hother : ∀ k, k < c.n → k ≠ w → lw c.n (s'.wpc k) (s'.st k) ≤ lw c.n (s.wpc k) (s.st k) + d)
    (hself : lw c.n (s'.wpc w) (s'.st w) + e ≤ lw c.n (s.wpc w) (s.st w))
    (hnet : x + c.n * d < e) : rank c s' < rank c s :=
  have := wsum_move c.n (lw c.n) d hw hother
  rank_lt_of_le c s s' e (c.n * d) (by omega) (by omega)

theorem rankC_wakeC (c : Cfg) (p : CPc) (blk : Nat) : rankC c (wakeC p) blk ≤ rankC c p blk + 2 := by
  cases p <;> simp [wakeC, rankC] <;> omega

theorem rank_stepW (c : Cfg) (s s' : State) (w : Nat) (hw : w < c.n) (hs : stepW s w = some s') :
    rank c s' < rank c s := by
  -- only `w` moves, to a pc (and state) of lower `lw`
  have move : ∀ (q : WPc) (x : WSt) (s' : State), s'.cpc = s.cpc → s'.blk = s.blk → s'.wpc = upd s.wpc w q →
      s'.st = upd s.st w x → lw c.n q x < lw c.n (s.wpc w) (s.st w) → rank c s' < rank c s := by
    intro q x s' h1 h2 h3 h4 hlt
    have := wsum_upd c.n (lw c.n) hw h3 h4
    rw [rank_eq, rank_eq, h1, h2]; omega
  have same := (upd_same s.st w).symm
  cases stepW_cases hs with
  | lock1 hp _ => exact move .hold _ _ rfl rfl rfl same (by rw [hp]; cases s.st w <;> simp [lw])
  | woken hp _ => exact move .hold _ _ rfl rfl rfl same (by rw [hp]; cases s.st w <;> simp [lw])
  | holdWait hp hst => exact move .waiting _ _ rfl rfl rfl same (by rw [hp, hst]; simp [lw])
  | holdRun hp hst => exact move .lock2 _ _ rfl rfl rfl same (by rw [hp, hst]; simp [lw])
  | holdTerm hp hst => exact move .exit _ _ rfl rfl rfl same (by rw [hp, hst]; simp [lw])
  | unlock2 hp => exact move .lock1 _ _ rfl rfl rfl same (by rw [hp]; cases s.st w <;> simp [lw])
  | exit hp => exact move .done _ _ rfl rfl rfl same (by rw [hp]; cases s.st w <;> simp [lw])
  | lock2 hp _ => exact move .bcast .wait _ rfl rfl rfl rfl (by rw [hp]; cases s.st w <;> simp [lw])
  | bcast hp =>
    -- the broadcast costs 2 for each thread it wakes; the broadcasting worker pays `BW + 1`
    refine rank_lt_of_worker c s _ w 2 2 (BW c.n + 1) hw (rankC_wakeC c _ _) (fun k _ hne => ?_) ?_
      (by simp only [BW]; omega)
    · show lw c.n (upd (wakeAll s.wpc) w .unlock2 k) (s.st k) ≤ _
      rw [upd_ne _ _ hne]; exact lw_wake ..
    · show lw c.n (upd (wakeAll s.wpc) w .unlock2 w) (s.st w) + _ ≤ _
      rw [upd_self, hp]; cases s.st w <;> simp [lw] <;> omega

theorem rank_lt_of_coord (c : Cfg) (s s' : State) (d : Nat)
    (hsum : ∀ k, k < c.n → lw c.n (s'.wpc k) (s'.st k) ≤ lw c.n (s.wpc k) (s.st k) + d)
    (hC : rankC c s'.cpc s'.blk + c.n * d < rankC c s.cpc s.blk) : rank c s' < rank c s :=
  rank_lt_of_le c s s' 0 (c.n * d) (wsum_le c.n (lw c.n) d hsum) hC

theorem rankC_lockA (c : Cfg) {blk : Nat} (h : blk < c.blocks) :
    rankC c .lockA blk = PB c.n * (c.blocks - blk) + CT c.n := by
  obtain ⟨q, hq⟩ : ∃ q, c.blocks - blk = q + 1 := ⟨c.blocks - blk - 1, by omega⟩
  simp only [rankC, hq, Nat.add_sub_cancel, Nat.mul_succ]
  omega

theorem rank_stepC (c : Cfg) (s s' : State) (h : Inv c s) (hs : stepC c s = some s') :
    rank c s' < rank c s := by
  -- a step that leaves the workers alone
  have quiet : ∀ s' : State, s'.wpc = s.wpc → s'.st = s.st → rankC c s'.cpc s'.blk < rankC c s.cpc s.blk →
      rank c s' < rank c s := fun s' h1 h2 hlt =>
    rank_lt_of_coord c s s' 0 (fun k _ => by rw [h1, h2]; exact Nat.le_refl _) (by omega)
  cases stepC_cases hs with
  | @create k hp =>
    have hk := (h.created k hp).1
    have hblk : s.blk = 0 := (h.accCreate (by rw [hp]; rfl)).2.2
    -- the new worker costs less than `G`
    refine rank_lt_of_le c s _ 1 (G c.n) ?_ ?_
    · exact le_of_account (wsum_upd c.n (lw c.n) hk rfl (upd_same s.st k).symm)
        (Nat.le_trans (lw_lock1 c.n _) (Nat.le_add_left _ _))
    simp only [hp, hblk]
    split
    · have : c.n - k = c.n - (k+1) + 1 := by omega
      simp only [rankC, this, Nat.succ_mul]
      omega
    · rcases loopHead_cases c 0 false with ⟨hq, hb, _⟩ | ⟨hq, _⟩ <;> rw [hq]
      · rw [rankC_lockA c hb]
        simp only [rankC, Nat.sub_zero]
        omega
      · simp only [rankC]
        omega
  | lockA hp _ =>
    refine rank_lt_of_coord c s _ (G c.n) (fun k _ => ?_) (by simp only [hp, rankC, PB]; omega)
    show lw c.n (s.wpc k) (if k < c.active s.blk then .run else s.st k) ≤ _
    split
    · exact lw_run _ _ _
    · omega
  | bcastA hp => exact rank_lt_of_coord c s _ 2 (fun k _ => lw_wake _ _ _) (by simp only [hp, rankC]; omega)
  | bcastT hp => exact rank_lt_of_coord c s _ 2 (fun k _ => lw_wake _ _ _) (by simp only [hp, rankC]; omega)
  | lockT hp _ =>
    refine rank_lt_of_coord c s _ 4 (fun k hk => ?_) (by simp only [hp, rankC, CT]; omega)
    show lw c.n (s.wpc k) (if k < c.n then .term else s.st k) ≤ _
    rw [if_pos hk]; exact lw_term _ _ _
  | unlockB hp =>
    refine quiet _ rfl rfl ?_
    simp only [hp]
    rcases loopHead_cases c (s.blk + 1) (scan c s.val s.blk (s.base, s.chosen)).2.isSome with
      ⟨hq, hb, _⟩ | ⟨hq, _⟩ <;> rw [hq]
    · rw [rankC_lockA c hb]
      simp only [rankC, Nat.sub_add_eq]
      omega
    · simp only [rankC]
      omega
  | unlockA hp => exact quiet _ rfl rfl (by simp only [hp, rankC]; omega)
  | condWait hp => exact quiet _ rfl rfl (by simp only [hp, rankC]; omega)
  | unlockT hp => exact quiet _ rfl rfl (by simp only [hp, rankC]; omega)
  | lockB hp _ => exact quiet _ rfl rfl (by simp only [hp]; split <;> simp only [rankC] <;> omega)
  | woken hp _ => exact quiet _ rfl rfl (by simp only [hp]; split <;> simp only [rankC] <;> omega)
  | @join k hp _ =>
    have hk := h.joinLt k hp
    exact quiet _ rfl rfl (by simp only [hp]; split <;> simp only [rankC] <;> omega)

theorem rank_step (c : Cfg) (s s' : State) (t : Nat) (h : Inv c s) (hs : step? c s t = some s') :
    rank c s' < rank c s := by
  cases t with
  | zero => exact rank_stepC c s s' h hs
  | succ w => exact rank_stepW c s s' w (step_succ hs).1 (step_succ hs).2

theorem rank_spur (c : Cfg) (s s' : State) (t : Nat) (hs : spur? c s t = some s') : rank c s' ≤ rank c s + 2 := by
  cases spur_cases hs with
  | coord hp => simp only [rank, hp, rankC]; omega
  | @worker w hw hp =>
    have : wsum c.n (lw c.n) { s with wpc := upd s.wpc w .woken } + 0 ≤ wsum c.n (lw c.n) s + 2 :=
      le_of_account (wsum_upd c.n (lw c.n) hw rfl (upd_same s.st w).symm)
        (by rw [hp]; cases s.st w <;> simp [lw] <;> omega)
    simp only [rank_eq]; omega

/-- number of spurious wake-ups in a schedule -/
def nspur : List (Nat × Bool) → Nat
  | [] => 0
  | (_, sp) :: rest => (if sp then 1 else 0) + nspur rest

theorem nspur_map_false (sched : List Nat) : nspur (sched.map fun t => (t, false)) = 0 := by
  induction sched with
  | nil => rfl
  | cons t rest ih => exact (Nat.zero_add _).trans ih

theorem rank_stepL {c : Cfg} {s s' : State} {l : Nat × Bool} (h : Inv c s) (hs : stepL c s l = some s') :
    rank c s' + 1 ≤ rank c s + 3 * (if l.2 then 1 else 0) := by
  rcases stepL_cases hs with ⟨e, hs⟩ | ⟨e, hs⟩ <;> rw [e]
  · have := rank_spur c s s' _ hs
    simp only [if_true]; omega
  · have := rank_step c s s' _ h hs
    simp only [Bool.false_eq_true, if_false]; omega

theorem run_bound (c : Cfg) (hn : 0 < c.n) : ∀ (sched : List (Nat × Bool)) (s0 s : State), Reach c s0 →
    runSched c s0 sched = some s → sched.length + rank c s ≤ rank c s0 + 3 * nspur sched
  | [], _, _, _, h => by cases h; exact Nat.le_of_eq (Nat.zero_add _)
  | (t, sp) :: rest, s0, s, h0, h => by
    obtain ⟨s1, h1, h2⟩ := runSched_cons h
    have := run_bound c hn rest s1 s (h0.stepL h1) h2
    have := rank_stepL (reach_inv c hn h0) h1
    simp only [List.length_cons, nspur] at this ⊢; omega

end PsV.Sync
