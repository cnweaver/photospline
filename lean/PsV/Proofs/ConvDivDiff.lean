import PsV.Model.Convolve
import Mathlib.Algebra.BigOperators.Group.Finset.Basic
import Mathlib.Algebra.BigOperators.Ring.Finset
import Mathlib.Tactic.Ring
import Mathlib.Tactic.LinearCombination
/-!
Divided differences (the model's `PsV.divdiff` at `Rat`): `divdiff x f n o` is `[x_o, …, x_{o+n-1}] f` of the values
`f o … f (o+n-1)`. What is needed of them follows from Leibniz' rule for a linear factor; the two-variable version is for
products of linear factors in `x_a + y_b` (what `convoluted_blossom` differences).
-/
namespace PsV
open Finset

/-- nodes pairwise distinct on the window `[o, o+n)` (strictly increasing knots are) -/
def DistinctOn (x : Nat → Rat) (o n : Nat) : Prop := ∀ a b, o ≤ a → a < b → b < o + n → x a ≠ x b

theorem DistinctOn.mono {x : Nat → Rat} {o n o' n' : Nat} (h : DistinctOn x o n) (h1 : o ≤ o') (h2 : o' + n' ≤ o + n) :
    DistinctOn x o' n' := fun a b ha hab hb => h a b (by omega) hab (by omega)

/-- strictly increasing on `[0, n)` -/
@[reducible] def StrictBelow (f : Nat → Rat) (n : Nat) : Prop := ∀ a b, a < b → b < n → f a < f b

theorem strictBelow_of_le {f : Nat → Rat} {q : Nat} (h : ∀ a b, a < b → b ≤ q → f a < f b) : StrictBelow f (q+1) :=
  fun a b hab hb => h a b hab (Nat.le_of_lt_succ hb)

theorem StrictBelow.to_le {f : Nat → Rat} {q : Nat} (h : StrictBelow f (q+1)) : ∀ a b, a < b → b ≤ q → f a < f b :=
  fun a b hab hb => h a b hab (Nat.lt_succ_of_le hb)

theorem StrictBelow.mono {f : Nat → Rat} {n m : Nat} (h : StrictBelow f n) (hm : m ≤ n) : StrictBelow f m :=
  fun a b hab hb => h a b hab (Nat.lt_of_lt_of_le hb hm)

theorem StrictBelow.distinctOn {f : Nat → Rat} {n : Nat} (h : StrictBelow f n) {o m : Nat} (hm : o + m ≤ n) :
    DistinctOn f o m := fun a b _ hab hb => ne_of_lt (h a b hab (by omega))

theorem StrictBelow.le {f : Nat → Rat} {n : Nat} (h : StrictBelow f n) {a b : Nat} (hab : a ≤ b) (hb : b < n) :
    f a ≤ f b := by
  rcases Nat.lt_or_eq_of_le hab with h' | h'
  · exact (h a b h' hb).le
  · rw [h']

theorem dd_zero (x f : Nat → Rat) (o : Nat) : divdiff x f 0 o = 0 := rfl
theorem dd_one (x f : Nat → Rat) (o : Nat) : divdiff x f 1 o = f o := rfl
theorem dd_succ (x f : Nat → Rat) (n o : Nat) :
    divdiff x f (n+2) o = (divdiff x f (n+1) (o+1) - divdiff x f (n+1) o) / (x (o+n+1) - x o) := rfl

theorem dd_congr (x f g : Nat → Rat) : ∀ (n o : Nat), (∀ i, o ≤ i → i < o + n → f i = g i) →
    divdiff x f n o = divdiff x g n o
  | 0, _, _ => rfl
  | 1, o, h => h o (le_refl _) (by omega)
  | n+2, o, h => by
    rw [dd_succ, dd_succ, dd_congr x f g (n+1) (o+1) (fun i h1 h2 => h i (by omega) (by omega)),
      dd_congr x f g (n+1) o (fun i h1 h2 => h i h1 (by omega))]

theorem dd_congr_nodes (x x' f : Nat → Rat) : ∀ (n o : Nat), (∀ i, o ≤ i → i < o + n → x i = x' i) →
    divdiff x f n o = divdiff x' f n o
  | 0, _, _ => rfl
  | 1, _, _ => rfl
  | n+2, o, h => by
    rw [dd_succ, dd_succ, dd_congr_nodes x x' f (n+1) (o+1) (fun i h1 h2 => h i (by omega) (by omega)),
      dd_congr_nodes x x' f (n+1) o (fun i h1 h2 => h i h1 (by omega)),
      h (o+n+1) (by omega) (by omega), h o (le_refl _) (by omega)]

theorem dd_add (x f g : Nat → Rat) : ∀ (n o : Nat),
    divdiff x (fun i => f i + g i) n o = divdiff x f n o + divdiff x g n o
  | 0, _ => (add_zero (0:Rat)).symm
  | 1, _ => rfl
  | n+2, o => by
    rw [dd_succ, dd_succ, dd_succ, dd_add x f g (n+1) (o+1), dd_add x f g (n+1) o]; ring

theorem dd_smul (x f : Nat → Rat) (c : Rat) : ∀ (n o : Nat),
    divdiff x (fun i => c * f i) n o = c * divdiff x f n o
  | 0, _ => (mul_zero c).symm
  | 1, _ => rfl
  | n+2, o => by
    rw [dd_succ, dd_succ, dd_smul x f c (n+1) (o+1), dd_smul x f c (n+1) o]; ring

theorem dd_zero_fun (x : Nat → Rat) (n o : Nat) : divdiff x (fun _ => 0) n o = 0 := by
  have := dd_smul x (fun _ => 0) 0 n o
  rwa [zero_mul, zero_mul] at this

theorem dd_sub (x f g : Nat → Rat) (n o : Nat) :
    divdiff x (fun i => f i - g i) n o = divdiff x f n o - divdiff x g n o := by
  have h1 : (fun i => f i - g i) = (fun i => f i + (-1) * g i) := by funext i; ring
  rw [h1, dd_add, dd_smul]; ring

theorem dd_sum {ι : Type} (s : Finset ι) (x : Nat → Rat) (F : ι → Nat → Rat) (n o : Nat) :
    divdiff x (fun i => ∑ e ∈ s, F e i) n o = ∑ e ∈ s, divdiff x (F e) n o := by
  classical
  induction s using Finset.induction_on with
  | empty => simp [dd_zero_fun]
  | insert a s ha ih =>
    simp only [Finset.sum_insert ha]
    rw [dd_add, ih]

theorem dd_const (x : Nat → Rat) (c : Rat) : ∀ (n o : Nat), divdiff x (fun _ => c) (n+2) o = 0
  | 0, o => by rw [dd_succ, dd_one, dd_one, sub_self, zero_div]
  | n+1, o => by rw [dd_succ, dd_const x c n (o+1), dd_const x c n o, sub_self, zero_div]

theorem dd_span (x f : Nat → Rat) : ∀ (n o : Nat), DistinctOn x o (n+1) →
    (x (o+n) - x o) * divdiff x f (n+1) o = divdiff x f n (o+1) - divdiff x f n o
  | 0, o, _ => by rw [Nat.add_zero, sub_self, zero_mul, dd_zero, dd_zero, sub_self]
  | n+1, o, hd =>
    mul_div_cancel₀ _ (sub_ne_zero.mpr (Ne.symm (hd o (o+n+1) (le_refl _) (by omega) (by omega))))

theorem dd_leibniz_lin (x f : Nat → Rat) (a : Rat) : ∀ (n o : Nat), DistinctOn x o (n+1) →
    divdiff x (fun i => (x i - a) * f i) (n+1) o =
      (x (o+n) - a) * divdiff x f (n+1) o + divdiff x f n o
  | 0, o, _ => by simp [dd_one, dd_zero]
  | n+1, o, hd => by
    have hne : x (o+n+1) - x o ≠ 0 := sub_ne_zero.mpr (Ne.symm (hd o (o+n+1) (le_refl _) (by omega) (by omega)))
    -- both sides times `x_{o+n+1} - x_o`, through `dd_span` for `(x - a)·f` and for `f` at both orders
    have sg := dd_span x (fun i => (x i - a) * f i) (n+1) o hd
    rw [dd_leibniz_lin x f a n (o+1) (hd.mono (by omega) (by omega)),
      dd_leibniz_lin x f a n o (hd.mono (by omega) (by omega))] at sg
    have s2 := dd_span x f (n+1) o hd
    have s1 := dd_span x f n o (hd.mono (by omega) (by omega))
    rw [show o + 1 + n = o + (n + 1) by omega] at sg
    apply mul_left_cancel₀ hne
    linear_combination sg - (x (o+(n+1)) - a) * s2 - s1

/-- product of `d` linear factors `Π_{m<d} (s - c m)` -/
def linProd (c : Nat → Rat) (d : Nat) (s : Rat) : Rat := ∏ m ∈ range d, (s - c m)

theorem linProd_zero (c : Nat → Rat) (s : Rat) : linProd c 0 s = 1 := prod_range_zero _
theorem linProd_succ (c : Nat → Rat) (d : Nat) (s : Rat) : linProd c (d+1) s = (s - c d) * linProd c d s := by
  rw [linProd, prod_range_succ, mul_comm]; rfl
theorem linProd_const (c : Rat) (d : Nat) (s : Rat) : linProd (fun _ => c) d s = (s - c)^d := by
  rw [linProd, prod_const, card_range]

theorem dd_linProd_zero (x c : Nat → Rat) : ∀ (d n o : Nat), DistinctOn x o n → d + 2 ≤ n →
    divdiff x (fun i => linProd c d (x i)) n o = 0
  | 0, n, o, _, h => by
    obtain ⟨m, rfl⟩ : ∃ m, n = m + 2 := ⟨n - 2, by omega⟩
    simp only [linProd_zero]
    exact dd_const x 1 m o
  | d+1, n, o, hd, h => by
    obtain ⟨m, rfl⟩ : ∃ m, n = m + 1 := ⟨n - 1, by omega⟩
    simp only [linProd_succ]
    rw [dd_leibniz_lin x _ (c d) m o hd,
      dd_linProd_zero x c d (m+1) o hd (by omega),
      dd_linProd_zero x c d m o (hd.mono (le_refl _) (by omega)) (by omega)]
    ring

theorem dd_linProd_one (x c : Nat → Rat) : ∀ (d o : Nat), DistinctOn x o (d+1) →
    divdiff x (fun i => linProd c d (x i)) (d+1) o = 1
  | 0, o, _ => by simp [dd_one, linProd_zero]
  | d+1, o, hd => by
    simp only [linProd_succ]
    rw [dd_leibniz_lin x _ (c d) (d+1) o hd,
      dd_linProd_zero x c d (d+2) o hd (by omega),
      dd_linProd_one x c d o (hd.mono (le_refl _) (by omega))]
    ring

/-- `[x_ox .. ]_a [y_oy ..]_b g(a, b)` -/
def dd2 (x y : Nat → Rat) (g : Nat → Nat → Rat) (nx ox ny oy : Nat) : Rat :=
  divdiff x (fun a => divdiff y (fun b => g a b) ny oy) nx ox

theorem dd2_congr (x y : Nat → Rat) (g h : Nat → Nat → Rat) (nx ox ny oy : Nat)
    (e : ∀ a b, ox ≤ a → a < ox + nx → oy ≤ b → b < oy + ny → g a b = h a b) :
    dd2 x y g nx ox ny oy = dd2 x y h nx ox ny oy := by
  unfold dd2
  apply dd_congr
  intro a h1 h2
  apply dd_congr
  intro b h3 h4
  exact e a b h1 h2 h3 h4

theorem dd2_add (x y : Nat → Rat) (g h : Nat → Nat → Rat) (nx ox ny oy : Nat) :
    dd2 x y (fun a b => g a b + h a b) nx ox ny oy = dd2 x y g nx ox ny oy + dd2 x y h nx ox ny oy := by
  unfold dd2
  rw [← dd_add]
  apply dd_congr; intro a _ _
  exact dd_add y _ _ ny oy

theorem dd2_sub (x y : Nat → Rat) (g h : Nat → Nat → Rat) (nx ox ny oy : Nat) :
    dd2 x y (fun a b => g a b - h a b) nx ox ny oy = dd2 x y g nx ox ny oy - dd2 x y h nx ox ny oy := by
  unfold dd2
  rw [← dd_sub]
  apply dd_congr; intro a _ _
  exact dd_sub y _ _ ny oy

theorem dd2_smul (x y : Nat → Rat) (g : Nat → Nat → Rat) (c : Rat) (nx ox ny oy : Nat) :
    dd2 x y (fun a b => c * g a b) nx ox ny oy = c * dd2 x y g nx ox ny oy := by
  unfold dd2
  rw [← dd_smul]
  apply dd_congr; intro a _ _
  exact dd_smul y _ c ny oy

theorem dd2_sum {ι : Type} (s : Finset ι) (x y : Nat → Rat) (G : ι → Nat → Nat → Rat) (nx ox ny oy : Nat) :
    dd2 x y (fun a b => ∑ e ∈ s, G e a b) nx ox ny oy = ∑ e ∈ s, dd2 x y (G e) nx ox ny oy := by
  unfold dd2
  rw [← dd_sum]
  apply dd_congr; intro a _ _
  exact dd_sum s y (fun e b => G e a b) ny oy

theorem dd2_mul_sep (x y f g : Nat → Rat) (nx ox ny oy : Nat) :
    dd2 x y (fun a b => f a * g b) nx ox ny oy = divdiff x f nx ox * divdiff y g ny oy := by
  unfold dd2
  rw [show (fun a => divdiff y (fun b => f a * g b) ny oy) = fun a => divdiff y g ny oy * f a from
    funext fun a => by rw [dd_smul, mul_comm], dd_smul, mul_comm]

theorem dd2_zero_fun (x y : Nat → Rat) (nx ox ny oy : Nat) : dd2 x y (fun _ _ => 0) nx ox ny oy = 0 := by
  unfold dd2
  rw [show (fun a => divdiff y (fun _ => (0:Rat)) ny oy) = fun _ => (0:Rat) from funext fun _ => dd_zero_fun y ny oy]
  exact dd_zero_fun x nx ox

theorem dd2_const_right (x y : Nat → Rat) (f : Nat → Rat) (nx ox ny oy : Nat) :
    dd2 x y (fun a _ => f a) nx ox (ny+2) oy = 0 := by
  unfold dd2
  rw [show (fun a => divdiff y (fun _ => f a) (ny+2) oy) = fun _ => (0:Rat) from funext fun a => dd_const y (f a) ny oy]
  exact dd_zero_fun x nx ox

theorem dd2_swap (x y : Nat → Rat) (g : Nat → Nat → Rat) : ∀ (nx ox ny oy : Nat),
    dd2 x y g nx ox ny oy = dd2 y x (fun b a => g a b) ny oy nx ox
  | 0, ox, ny, oy => by
    unfold dd2
    rw [dd_zero]
    rw [show (fun b => divdiff x (fun a => g a b) 0 ox) = fun _ => (0:Rat) from funext fun _ => rfl]
    exact (dd_zero_fun y ny oy).symm
  | 1, ox, ny, oy => by
    unfold dd2
    rw [dd_one]
    rfl
  | nx+2, ox, ny, oy => by
    have h1 := dd2_swap x y g (nx+1) (ox+1) ny oy
    have h0 := dd2_swap x y g (nx+1) ox ny oy
    unfold dd2 at h1 h0 ⊢
    rw [dd_succ, h1, h0]
    have : (fun b => divdiff x (fun a => g a b) (nx+2) ox) =
        fun b => (1 / (x (ox+nx+1) - x ox)) * (divdiff x (fun a => g a b) (nx+1) (ox+1) - divdiff x (fun a => g a b) (nx+1) ox) := by
      funext b; rw [dd_succ]; ring
    rw [this, dd_smul, dd_sub]
    ring

theorem dd2_const_left (x y : Nat → Rat) (f : Nat → Rat) (nx ox ny oy : Nat) :
    dd2 x y (fun _ b => f b) (nx+2) ox ny oy = 0 := by
  rw [dd2_swap]
  exact dd2_const_right y x f ny oy nx ox

theorem dd2_leibniz_lin (x y : Nat → Rat) (g : Nat → Nat → Rat) (β : Rat) (nx ox ny oy : Nat)
    (hx : DistinctOn x ox (nx+1)) (hy : DistinctOn y oy (ny+1)) :
    dd2 x y (fun a b => (x a + y b - β) * g a b) (nx+1) ox (ny+1) oy =
      (x (ox+nx) + y (oy+ny) - β) * dd2 x y g (nx+1) ox (ny+1) oy
      + dd2 x y g nx ox (ny+1) oy + dd2 x y g (nx+1) ox ny oy := by
  unfold dd2
  -- inner: (y b - (β - x a)) * g a b
  have inner : ∀ a, divdiff y (fun b => (x a + y b - β) * g a b) (ny+1) oy =
      (x a - (β - y (oy+ny))) * divdiff y (fun b => g a b) (ny+1) oy + divdiff y (fun b => g a b) ny oy := by
    intro a
    have := dd_leibniz_lin y (fun b => g a b) (β - x a) ny oy hy
    rw [show (fun b => (x a + y b - β) * g a b) = fun b => (y b - (β - x a)) * g a b from by funext b; ring, this]
    ring
  rw [show (fun a => divdiff y (fun b => (x a + y b - β) * g a b) (ny+1) oy) =
      fun a => (x a - (β - y (oy+ny))) * divdiff y (fun b => g a b) (ny+1) oy + divdiff y (fun b => g a b) ny oy
    from funext inner]
  rw [dd_add, dd_leibniz_lin x _ (β - y (oy+ny)) nx ox hx]
  ring

theorem dd2_linProd_eq_zero (x y c : Nat → Rat) (ox oy : Nat) : ∀ (d nx ny : Nat),
    DistinctOn x ox nx → DistinctOn y oy ny → d + 3 ≤ nx + ny →
    dd2 x y (fun a b => linProd c d (x a + y b)) nx ox ny oy = 0
  | _, 0, _, _, _, _ => rfl
  | _, _+1, 0, _, _, _ => dd_zero_fun x _ _
  | 0, nx+1, ny+1, _, _, h => by
    simp only [linProd_zero]
    by_cases hny : 1 ≤ ny
    · obtain ⟨m, rfl⟩ : ∃ m, ny = m + 1 := ⟨ny - 1, by omega⟩
      exact dd2_const_right x y (fun _ => 1) (nx+1) ox m oy
    · obtain ⟨m, rfl⟩ : ∃ m, nx = m + 1 := ⟨nx - 1, by omega⟩
      exact dd2_const_left x y (fun _ => 1) m ox (ny+1) oy
  | d+1, mx+1, my+1, hx, hy, h => by
    simp only [linProd_succ]
    rw [dd2_leibniz_lin x y _ (c d) mx ox my oy hx hy,
      dd2_linProd_eq_zero x y c ox oy d (mx+1) (my+1) hx hy (by omega),
      dd2_linProd_eq_zero x y c ox oy d mx (my+1) (hx.mono (le_refl _) (by omega)) hy (by omega),
      dd2_linProd_eq_zero x y c ox oy d (mx+1) my hx (hy.mono (le_refl _) (by omega)) (by omega)]
    ring

theorem dd2_linProd_zero (x y c : Nat → Rat) (ox oy : Nat) : ∀ (d nx ny : Nat),
    DistinctOn x ox nx → DistinctOn y oy ny → 1 ≤ nx → 1 ≤ ny → d + 3 ≤ nx + ny →
    dd2 x y (fun a b => linProd c d (x a + y b)) nx ox ny oy = 0 :=
  fun d nx ny hx hy _ _ h => dd2_linProd_eq_zero x y c ox oy d nx ny hx hy h

/-- weight of `f i` in `divdiff x f n o` -/
def ddW (x : Nat → Rat) : Nat → Nat → Nat → Rat
  | 0, _, _ => 0
  | 1, o, i => if i = o then 1 else 0
  | n+2, o, i => (ddW x (n+1) (o+1) i - ddW x (n+1) o i) / (x (o+n+1) - x o)

theorem dd_eq_sum (x f : Nat → Rat) : ∀ (n o N : Nat), o + n ≤ N →
    divdiff x f n o = ∑ i ∈ range N, ddW x n o i * f i
  | 0, o, N, _ => by simp [dd_zero, ddW]
  | 1, o, N, h => by
    simp only [dd_one, ddW, ite_mul, one_mul, zero_mul]
    rw [Finset.sum_ite_eq' (range N) o f]
    simp [show o < N by omega]
  | n+2, o, N, h => by
    rw [dd_succ, dd_eq_sum x f (n+1) (o+1) N (by omega), dd_eq_sum x f (n+1) o N (by omega)]
    simp only [ddW]
    rw [← Finset.sum_sub_distrib, div_eq_mul_inv, Finset.sum_mul]
    apply Finset.sum_congr rfl
    intro i _
    ring

theorem dd_shift (x f : Nat → Rat) (j : Nat) : ∀ (n o : Nat),
    divdiff (fun a => x (j + a)) (fun a => f (j + a)) n o = divdiff x f n (j + o)
  | 0, _ => rfl
  | 1, _ => rfl
  | n+2, o => by
    rw [dd_succ, dd_succ, dd_shift x f j (n+1) (o+1), dd_shift x f j (n+1) o]
    have e1 : j + (o + 1) = j + o + 1 := by omega
    have e2 : j + (o + n + 1) = j + o + n + 1 := by omega
    rw [e1, e2]

theorem dd2_shift (x y : Nat → Rat) (g : Nat → Nat → Rat) (j nx ox ny oy : Nat) :
    dd2 (fun a => x (j + a)) y (fun a b => g (j + a) b) nx ox ny oy = dd2 x y g nx (j + ox) ny oy :=
  dd_shift x (fun a => divdiff y (fun b => g a b) ny oy) j nx ox

end PsV
