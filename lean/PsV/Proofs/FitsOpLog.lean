import PsV.Model.FitsCrash
/-! Operation logs that write a file front to back (C08): such a log appends its payload (`applyOps_appendOnly`), so every
    crash state of it is a prefix of the complete file (`crash_prefix`).  Nothing here speaks of the writer. -/
namespace PsV.C08

/-- the bytes an operation log writes, in order -/
def payload : List Op → Bytes
  | [] => []
  | .pwrite _ data :: rest => data ++ payload rest
  | _ :: rest => payload rest

theorem applyOp_append (s data : Bytes) : applyOp s (.pwrite s.length data) = s ++ data := by
  unfold applyOp
  simp only
  have e : s.length + data.length - s.length = data.length := by omega
  rw [e, List.take_append_of_le_length (Nat.le_refl _), List.take_length,
    List.drop_eq_nil_of_le (by simp), List.append_nil]

theorem applyOp_truncate_self (s : Bytes) : applyOp s (.truncate s.length) = s := by
  unfold applyOp
  simp

theorem appendOnly_cons {s : Bytes} {o : Op} {rest : List Op} (h : appendOnly s.length (o :: rest) = true) :
    ∃ d, applyOp s o = s ++ d ∧ payload (o :: rest) = d ++ payload rest ∧ appendOnly (s ++ d).length rest = true := by
  cases o with
  | pwrite off data =>
    unfold appendOnly at h
    simp only [Bool.and_eq_true, beq_iff_eq] at h
    obtain ⟨rfl, h2⟩ := h
    exact ⟨data, applyOp_append s data, rfl, by rw [List.length_append]; exact h2⟩
  | truncate l =>
    unfold appendOnly at h
    simp only [Bool.and_eq_true, beq_iff_eq] at h
    obtain ⟨rfl, h2⟩ := h
    exact ⟨[], by rw [applyOp_truncate_self, List.append_nil], rfl, by rw [List.append_nil]; exact h2⟩
  | flush => exact ⟨[], (List.append_nil s).symm, rfl, by rw [List.append_nil]; unfold appendOnly at h; exact h⟩
  | close => exact ⟨[], (List.append_nil s).symm, rfl, by rw [List.append_nil]; unfold appendOnly at h; exact h⟩

theorem applyOps_appendOnly : ∀ (ops : List Op) (s : Bytes), appendOnly s.length ops = true →
    applyOps s ops = s ++ payload ops
  | [], s, _ => by unfold applyOps payload; simp
  | o :: rest, s, h => by
    obtain ⟨d, h1, h2, h3⟩ := appendOnly_cons h
    have := applyOps_appendOnly rest _ h3
    unfold applyOps at this ⊢
    rw [List.foldl_cons, h1, this, List.append_assoc, h2]

theorem crashStep_prefix {s : Bytes} {o : Op} {rest : List Op} (h : appendOnly s.length (o :: rest) = true) (b : Nat) :
    crashStep s (some o) b <+: applyOp s o := by
  cases o with
  | pwrite off data =>
    unfold appendOnly at h
    simp only [Bool.and_eq_true, beq_iff_eq] at h
    obtain ⟨rfl, _⟩ := h
    show (if b = 0 then s else applyOp s (.pwrite s.length (data.take b))) <+: _
    rw [applyOp_append, applyOp_append]
    split
    · exact List.prefix_append _ _
    · exact (List.prefix_append_right_inj s).2 (List.take_prefix _ _)
  | truncate l =>
    obtain ⟨d, h1, _⟩ := appendOnly_cons h
    rw [h1]; exact List.prefix_append _ _
  | flush => exact List.prefix_refl _
  | close => exact List.prefix_refl _

/-- Every crash state of a front-to-back log — any number of complete operations, then any number of bytes of the
    next — is a prefix of the complete file: a partial operation leaves a prefix of what the whole one leaves
    (`crashStep_prefix`), and that is a prefix of what the whole log leaves. -/
theorem crash_prefix : ∀ (ops : List Op) (s : Bytes) (k b : Nat), appendOnly s.length ops = true →
    crashStep (applyOps s (ops.take k)) ops[k]? b <+: applyOps s ops
  | [], s, k, b, _ => by
    simp only [List.take_nil, List.getElem?_nil]
    unfold crashStep applyOps
    exact List.prefix_refl _
  | o :: rest, s, 0, b, h => by
    obtain ⟨d, h1, _, h3⟩ := appendOnly_cons h
    refine (crashStep_prefix h b).trans ?_
    show applyOp s o <+: applyOps (applyOp s o) rest
    rw [h1, applyOps_appendOnly rest _ h3]
    exact List.prefix_append _ _
  | o :: rest, s, k+1, b, h => by
    obtain ⟨d, h1, _, h3⟩ := appendOnly_cons h
    have := crash_prefix rest _ k b h3
    simp only [List.take_succ_cons, List.getElem?_cons_succ]
    unfold applyOps at this ⊢
    rw [List.foldl_cons, List.foldl_cons, h1]
    exact this

theorem crashState_eq (ops : List Op) (k b : Nat) :
    crashState ops k b = crashStep (applyOps [] (ops.take k)) ops[k]? b := by
  unfold crashState crashStep
  cases ops[k]? with
  | none => rfl
  | some o => cases o <;> rfl

theorem foldl_apply_ok : ∀ (ios : List IoOp) (f : Bytes), (∀ o ∈ ios, o.ok = true) →
    ios.foldl IoOp.apply f = applyOps f (ios.map IoOp.op)
  | [], f, _ => rfl
  | o :: ios, f, h => by
    unfold applyOps
    rw [List.foldl_cons, List.map_cons, List.foldl_cons]
    have : IoOp.apply f o = applyOp f o.op := by
      unfold IoOp.apply; rw [h o (List.mem_cons_self ..)]; rfl
    rw [this]
    exact foldl_apply_ok ios _ (fun o' ho' => h o' (List.mem_cons_of_mem _ ho'))

end PsV.C08
