import PsV.Proofs.SyncRank
/-! Liveness for C12: infinite executions (`Exec`) contain infinitely many spurious wake-ups; at the teardown all
workers have been joined (`JoinInv`), so a final state is stuck and no execution passes one; the futile cycle that
defeats weak fairness, a cycle of the protocol unrolled into an infinite execution (`Lasso.exec`: weakly fair if the cycle
is a `WeakFairCycle`, not strongly fair to an enabled thread the cycle leaves out), and the smallest instance on which
both are used. -/
namespace PsV.Sync

/-- an infinite execution of the protocol from the initial state -/
structure Exec (c : Cfg) where
  st : Nat → State
  lab : Nat → Nat × Bool
  start : st 0 = init c
  next : ∀ i, stepL c (st i) (lab i) = some (st (i+1))

theorem Exec.reach {c : Cfg} (e : Exec c) : ∀ i, Reach c (e.st i) := by
  intro i
  induction i with
  | zero => rw [e.start]; exact Reach.init
  | succ i ih => exact ih.stepL (e.next i)

theorem Exec.inv {c : Cfg} (hn : 0 < c.n) (e : Exec c) (i : Nat) : Inv c (e.st i) := reach_inv c hn (e.reach i)

theorem Exec.rank_drop {c : Cfg} (hn : 0 < c.n) (e : Exec c) (N : Nat)
    (hns : ∀ i, N ≤ i → (e.lab i).2 = false) : ∀ k, rank c (e.st (N + k)) + k ≤ rank c (e.st N) := by
  intro k
  induction k with
  | zero => simp
  | succ k ih =>
    have := rank_stepL (e.inv hn (N + k)) (e.next (N + k))
    rw [hns (N + k) (Nat.le_add_right _ _)] at this
    show rank c (e.st (N + k + 1)) + (k + 1) ≤ rank c (e.st N)
    simp only [Bool.false_eq_true, if_false] at this; omega

/-- every pthread call lowers the rank, so an execution cannot go on without spurious wake-ups -/
theorem Exec.spur_infinitely_often {c : Cfg} (hn : 0 < c.n) (e : Exec c) (N : Nat) : ∃ i, N ≤ i ∧ (e.lab i).2 = true := by
  apply Classical.byContradiction
  intro hno
  have hns : ∀ i, N ≤ i → (e.lab i).2 = false := fun i hi => eq_false_of_ne_true fun h => hno ⟨i, hi, h⟩
  have := e.rank_drop hn N hns (rank c (e.st N) + 1)
  omega

theorem WStep.pcLive {s s' : State} {w : Nat} (h : WStep s w s') : pcLive (s.wpc w) = true := by
  cases h <;> (rw [‹s.wpc w = _›]; rfl)

theorem WStep.cpc_eq {s s' : State} {w : Nat} (h : WStep s w s') : s'.cpc = s.cpc ∨ s'.cpc = wakeC s.cpc := by
  cases h with
  | bcast => exact Or.inr rfl
  | _ => exact Or.inl rfl

theorem WStep.done_mono {s s' : State} {w : Nat} (h : WStep s w s') (k : Nat) (hk : s.wpc k = .done) :
    s'.wpc k = .done := by
  have hne : k ≠ w := fun e => by subst e; have := h.pcLive; rw [hk] at this; cases this
  cases h with
  | bcast => exact (upd_ne _ _ hne).trans ((wakeAll_eq_iff _ _ .done nofun nofun).mpr hk)
  | _ => exact (upd_ne _ _ hne).trans hk

/-! ## teardown: when `walk_descents` destroys the mutex and the condition variable and frees the trial records,
every worker has exited and been joined -/
structure JoinInv (c : Cfg) (s : State) : Prop where
  joined : ∀ k, s.cpc = .join k → ∀ w, w < k → s.wpc w = .done
  finalAll : s.cpc = .final → ∀ w, w < c.n → s.wpc w = .done

theorem joinInv_init (c : Cfg) : JoinInv c (init c) := ⟨nofun, nofun⟩

theorem joinInv_of_notTerm {c : Cfg} {s : State} (h : termPhase s.cpc = false) : JoinInv c s :=
  ⟨fun k e => (by rw [e] at h; cases h), fun e => (by rw [e] at h; cases h)⟩

theorem JoinInv.frame {c : Cfg} {s s' : State} (h : JoinInv c s) (hc : termPhase s'.cpc = true → s'.cpc = s.cpc)
    (hd : ∀ w, s.wpc w = .done → s'.wpc w = .done) : JoinInv c s' :=
  ⟨fun k e w hw => hd w (h.joined k ((hc (by rw [e]; rfl)).symm.trans e) w hw),
    fun e w hw => hd w (h.finalAll ((hc (by rw [e]; rfl)).symm.trans e) w hw)⟩

theorem joinInv_stepC (c : Cfg) (s s' : State) (h : JoinInv c s) (hs : stepC c s = some s') : JoinInv c s' := by
  cases stepC_cases hs with
  | @join k hp hd =>
    -- worker `k` has exited, the workers below `k` had before
    have hall : ∀ w, w < k + 1 → s.wpc w = .done := fun w hw =>
      (Nat.lt_succ_iff_lt_or_eq.mp hw).elim (h.joined k hp w) fun e => e ▸ hd
    split
    · exact ⟨fun k' e => by cases e; exact hall, nofun⟩
    · exact ⟨nofun, fun _ w hw => hall w (by omega)⟩
  | unlockT => exact ⟨fun k' e => by cases e; nofun, nofun⟩
  | create =>
    refine joinInv_of_notTerm ?_
    dsimp only
    split
    · rfl
    · exact termPhase_loopHead ..
  | unlockB => exact joinInv_of_notTerm (termPhase_loopHead ..)
  | lockB => exact joinInv_of_notTerm (by dsimp only; split <;> rfl)
  | woken => exact joinInv_of_notTerm (by dsimp only; split <;> rfl)
  | _ => exact ⟨nofun, nofun⟩

theorem joinInv_stepW (c : Cfg) (s s' : State) (w : Nat) (h : JoinInv c s) (hs : stepW s w = some s') :
    JoinInv c s' := by
  have hstep := stepW_cases hs
  refine h.frame (fun ht => ?_) hstep.done_mono
  rcases hstep.cpc_eq with e | e
  · exact e
  · rw [e]; rw [e, termPhase_wakeC] at ht
    exact wakeC_of_ne fun hw => by rw [hw] at ht; cases ht

theorem joinInv_spur (c : Cfg) (s s' : State) (t : Nat) (h : JoinInv c s) (hs : spur? c s t = some s') :
    JoinInv c s' := by
  cases spur_cases hs with
  | coord => exact ⟨nofun, nofun⟩
  | @worker w _ hp =>
    exact h.frame (fun _ => rfl) fun k hk => (upd_ne _ _ fun e => by subst e; rw [hk] at hp; cases hp).trans hk

theorem reach_joinInv (c : Cfg) {s : State} (h : Reach c s) : JoinInv c s := by
  induction h with
  | init => exact joinInv_init c
  | step t _ hs ih =>
    cases t with
    | zero => exact joinInv_stepC c _ _ ih hs
    | succ w => exact joinInv_stepW c _ _ w ih (step_succ hs).2
  | spur t _ hs ih => exact joinInv_spur c _ _ t ih hs

theorem final_pcs {c : Cfg} {s : State} (i : Inv c s) (j : JoinInv c s) (hf : s.cpc = .final) (w : Nat) :
    s.wpc w = .done ∨ s.wpc w = .idle :=
  (Nat.lt_or_ge w c.n).imp (j.finalAll hf w) (i.idleOut w)

theorem worker_stuck {c : Cfg} {s : State} {w : Nat} (h : s.wpc w = .done ∨ s.wpc w = .idle) :
    step? c s (w+1) = none ∧ spur? c s (w+1) = none := by
  constructor
  · simp only [step?]
    split
    · rcases h with h | h <;> simp only [stepW, h]
    · rfl
  · rcases h with h | h <;> simp only [spur?, h, reduceCtorEq, and_false, if_false]

theorem final_stuck {c : Cfg} {s : State} (i : Inv c s) (j : JoinInv c s) (hf : s.cpc = .final) (t : Nat) :
    step? c s t = none ∧ spur? c s t = none := by
  cases t with
  | zero => exact ⟨by simp only [step?, stepC, hf], by simp only [spur?, hf, reduceCtorEq, if_false]⟩
  | succ w => exact worker_stuck (final_pcs i j hf w)

/-- a state of an infinite execution has a successor, so it is not final -/
theorem Exec.not_final {c : Cfg} (hn : 0 < c.n) (e : Exec c) (i : Nat) : (e.st i).cpc ≠ .final := fun hfin => by
  have hstuck := final_stuck (e.inv hn i) (reach_joinInv c (e.reach i)) hfin (e.lab i).1
  rcases stepL_cases (e.next i) with ⟨_, hnx⟩ | ⟨_, hnx⟩
  · rw [hstuck.2] at hnx; cases hnx
  · rw [hstuck.1] at hnx; cases hnx

/-! ## the futile cycle: a waiting worker whose state is WAIT is woken spuriously, re-acquires the mutex, sees WAIT
and waits again -/
def futileCycle (w : Nat) : List (Nat × Bool) := [(w+1, true), (w+1, false), (w+1, false)]

theorem futileCycle_runs (c : Cfg) (s : State) (w : Nat) (hw : w < c.n) (hp : s.wpc w = .waiting)
    (hst : s.st w = .wait) (ho : s.owner = none) :
    ∃ s1 s2, spur? c s (w+1) = some s1 ∧ step? c s1 (w+1) = some s2 ∧ step? c s2 (w+1) = some s ∧
      s2.owner = some (w+1) ∧ s2.cpc = s.cpc := by
  refine ⟨{ s with wpc := upd s.wpc w .woken }, { s with owner := some (w+1), wpc := upd s.wpc w .hold }, ?_, ?_, ?_, rfl,
    rfl⟩
  · simp [spur?, hw, hp]
  · simp [step?, hw, stepW, upd, ho, upd_upd_self]
  · simp only [step?, hw, if_true, stepW, upd, hst]
    simp only [upd_upd_self]
    rw [← hp, upd_same, ← ho]

/-- `e` is weakly fair for thread `t`: it is not the case that from some point on `t` is always enabled and never
    takes a step (◇□enabled → □◇taken) -/
def Exec.WeakFair {c : Cfg} (e : Exec c) (t : Nat) : Prop :=
  ∀ N, (∃ i, N ≤ i ∧ e.lab i = (t, false)) ∨ (∃ i, N ≤ i ∧ step? c (e.st i) t = none)

/-- `e` is strongly fair for thread `t`: if `t` is enabled infinitely often it takes infinitely many steps -/
def Exec.StrongFair {c : Cfg} (e : Exec c) (t : Nat) : Prop :=
  (∀ N, ∃ i, N ≤ i ∧ (step? c (e.st i) t).isSome = true) → ∀ N, ∃ i, N ≤ i ∧ e.lab i = (t, false)

end PsV.Sync

namespace PsV
open PsV.Sync

/-- a cycle through `s` along `cyc` in which every thread `t ≤ n` either performs a pthread call or is not enabled in
    some state of the cycle: repeating it forever is a *weakly fair* infinite execution -/
def WeakFairCycle (c : Cfg) (s : State) (cyc : List (Nat × Bool)) : Prop :=
  cyc ≠ [] ∧ runSched c s cyc = some s ∧
  ∀ t, t ≤ c.n → (t, false) ∈ cyc ∨ ∃ pre s', pre <+: cyc ∧ runSched c s pre = some s' ∧ step? c s' t = none

end PsV

namespace PsV.Sync

theorem runSched_append (c : Cfg) : ∀ (a b : List (Nat × Bool)) (x : State),
    runSched c x (a ++ b) = (runSched c x a).bind fun y => runSched c y b
  | [], _, _ => rfl
  | (t, sp) :: a, b, x => by
    simp only [List.cons_append, runSched]
    generalize (if sp = true then spur? c x t else step? c x t) = o
    cases o with
    | none => rfl
    | some y => exact runSched_append c a b y

/-- a lasso: a schedule `pre` from the initial state to `s` and a non-empty schedule `cyc` from `s` back to `s` -/
structure Lasso (c : Cfg) where
  s : State
  pre : List (Nat × Bool)
  cyc : List (Nat × Bool)
  ne : cyc ≠ []
  run0 : runSched c (init c) pre = some s
  run : runSched c s cyc = some s

namespace Lasso
variable {c : Cfg} (L : Lasso c)

/-- the first lap: the prefix, or the cycle itself when the prefix is empty -/
def first : List (Nat × Bool) := if L.pre = [] then L.cyc else L.pre

/-- position `i` of the unrolled lasso: the state, and what is left of the current lap -/
def walk : Nat → State × List (Nat × Bool)
  | 0 => (init c, L.first)
  | i+1 =>
    match walk i with
    | (x, []) => (x, [])
    | (x, l :: rest) => ((stepL c x l).getD x, if rest = [] then L.cyc else rest)

theorem first_run : L.first ≠ [] ∧ runSched c (init c) L.first = some L.s := by
  unfold first
  split
  · rename_i e
    have h0 : some (init c) = some L.s := by have := L.run0; rwa [e] at this
    rw [Option.some.inj h0]; exact ⟨L.ne, L.run⟩
  · exact ⟨‹_›, L.run0⟩

theorem walk_inv : ∀ i, (L.walk i).2 ≠ [] ∧ runSched c (L.walk i).1 (L.walk i).2 = some L.s
  | 0 => L.first_run
  | i+1 => by
    obtain ⟨h1, h2⟩ := walk_inv i
    simp only [walk]
    match hw : L.walk i, h1, h2 with
    | (x, l :: rest), _, h2 =>
      obtain ⟨y, hy, hrest⟩ := runSched_cons h2
      simp only [hy, Option.getD_some]
      split
      · rename_i e; subst e; cases hrest; exact ⟨L.ne, L.run⟩
      · exact ⟨‹_›, hrest⟩

theorem walk_succ {i : Nat} {x : State} {l : Nat × Bool} {rest : List (Nat × Bool)} (hw : L.walk i = (x, l :: rest)) :
    ∃ y, stepL c x l = some y ∧ runSched c y rest = some L.s ∧
      L.walk (i+1) = (y, if rest = [] then L.cyc else rest) := by
  have h2 := (L.walk_inv i).2
  rw [hw] at h2
  obtain ⟨y, hy, hrest⟩ := runSched_cons h2
  exact ⟨y, hy, hrest, by simp only [walk, hw, hy, Option.getD_some]⟩

def exec : Exec c where
  st i := (L.walk i).1
  lab i := (L.walk i).2.headD (0, false)
  start := rfl
  next i := by
    have h1 := (L.walk_inv i).1
    match hw : L.walk i, h1 with
    | (x, l :: rest), _ =>
      obtain ⟨y, hy, _, hnext⟩ := L.walk_succ hw
      rw [hnext]; exact hy

theorem walk_run : ∀ (a b : List (Nat × Bool)) (i : Nat) (x y : State), b ≠ [] →
    L.walk i = (x, a ++ b) → runSched c x a = some y → L.walk (i + a.length) = (y, b)
  | [], _, _, _, _, _, hw, hy => by cases hy; exact hw
  | l :: a, b, i, x, y, hb, hw, hy => by
    obtain ⟨x1, h1, _, hnext⟩ := L.walk_succ (rest := a ++ b) hw
    obtain ⟨x1', h1', hrest⟩ := runSched_cons hy
    cases h1.symm.trans h1'
    rw [if_neg (fun e => hb (List.append_eq_nil_iff.mp e).2)] at hnext
    have := walk_run a b (i+1) x1 y hb hnext hrest
    rwa [show i + (l :: a).length = i + 1 + a.length by simp only [List.length_cons]; omega]

theorem walk_lap (a : List (Nat × Bool)) : ∀ (i : Nat) (x : State), a ≠ [] →
    L.walk i = (x, a) → L.walk (i + a.length) = (L.s, L.cyc) := by
  induction a with
  | nil => exact fun _ _ h => absurd rfl h
  | cons l rest ih =>
    intro i x _ hw
    obtain ⟨y, _, hrest, hnext⟩ := L.walk_succ hw
    by_cases e : rest = []
    · subst e; cases hrest; exact hnext
    · rw [if_neg e] at hnext
      rw [List.length_cons, ← Nat.add_assoc, Nat.add_right_comm]
      exact ih (i+1) y e hnext

theorem walk_laps : ∀ N, ∃ i, N ≤ i ∧ L.walk i = (L.s, L.cyc)
  | 0 => ⟨0 + L.first.length, Nat.zero_le _, L.walk_lap L.first 0 _ L.first_run.1 rfl⟩
  | N+1 => by
    obtain ⟨i, hi, hw⟩ := walk_laps N
    have := List.length_pos_iff.mpr L.ne
    exact ⟨i + L.cyc.length, by omega, L.walk_lap L.cyc i L.s L.ne hw⟩

theorem walk_visits {a b : List (Nat × Bool)} {y : State} (hab : L.cyc = a ++ b) (hb : b ≠ [])
    (hy : runSched c L.s a = some y) (N : Nat) : ∃ i, N ≤ i ∧ L.walk i = (y, b) := by
  obtain ⟨i, hi, hw⟩ := L.walk_laps N
  exact ⟨i + a.length, by omega, L.walk_run a b i L.s y hb (hab ▸ hw) hy⟩

theorem weakFair (hc : WeakFairCycle c L.s L.cyc) (t : Nat) (ht : t ≤ c.n) : L.exec.WeakFair t := by
  intro N
  rcases hc.2.2 t ht with hmem | ⟨pre, s', ⟨rest, hpre⟩, hs', hdis⟩
  · obtain ⟨a, b, hab⟩ := List.append_of_mem hmem
    have hy : ∃ y, runSched c L.s a = some y := by
      have := L.run; rw [hab, runSched_append] at this
      cases h : runSched c L.s a with
      | none => rw [h] at this; cases this
      | some y => exact ⟨y, rfl⟩
    obtain ⟨y, hy⟩ := hy
    obtain ⟨i, hi, hw⟩ := L.walk_visits hab (List.cons_ne_nil _ _) hy N
    exact Or.inl ⟨i, hi, by show (L.walk i).2.headD _ = _; rw [hw]; rfl⟩
  · refine Or.inr ?_
    by_cases e : rest = []
    · subst e
      rw [List.append_nil] at hpre
      rw [hpre, L.run] at hs'; cases hs'
      obtain ⟨i, hi, hw⟩ := L.walk_laps N
      exact ⟨i, hi, by show step? c (L.walk i).1 t = none; rw [hw]; exact hdis⟩
    · obtain ⟨i, hi, hw⟩ := L.walk_visits hpre.symm e hs' N
      exact ⟨i, hi, by show step? c (L.walk i).1 t = none; rw [hw]; exact hdis⟩

theorem labels : ∃ N, ∀ i, N ≤ i → L.exec.lab i ∈ L.cyc := by
  obtain ⟨N, _, hN⟩ := L.walk_laps 0
  have suffix : ∀ k, (L.walk (N + k)).2 <:+ L.cyc := by
    intro k
    induction k with
    | zero => rw [Nat.add_zero, hN]; exact List.suffix_refl _
    | succ k ih =>
      have h1 := (L.walk_inv (N + k)).1
      match hw : L.walk (N + k), h1 with
      | (x, l :: rest), _ =>
        obtain ⟨y, _, _, hnext⟩ := L.walk_succ hw
        rw [← Nat.add_assoc, hnext]
        rw [hw] at ih
        split
        · exact List.suffix_refl _
        · exact List.IsSuffix.trans (List.suffix_cons l rest) ih
  refine ⟨N, fun i hi => ?_⟩
  have h1 := (L.walk_inv i).1
  have h2 := suffix (i - N)
  rw [show N + (i - N) = i by omega] at h2
  show (L.walk i).2.headD _ ∈ L.cyc
  match hw : (L.walk i).2, h1 with
  | l :: rest, _ => rw [hw] at h2; exact h2.subset (List.mem_cons_self ..)

/-- A thread that is enabled where the cycle starts is enabled whenever a lap begins; if the cycle holds no call of it,
    it never runs again: the unrolled lasso is not strongly fair to it. -/
theorem not_strongFair (t : Nat) (hen : (step? c L.s t).isSome = true) (hnot : (t, false) ∉ L.cyc) :
    ¬ L.exec.StrongFair t := fun hsf => by
  obtain ⟨N, hN⟩ := L.labels
  obtain ⟨i, hi, hl⟩ := hsf (fun M => by
    obtain ⟨i, hi, hw⟩ := L.walk_laps M
    exact ⟨i, hi, by show (step? c (L.walk i).1 t).isSome = true; rw [hw]; exact hen⟩) N
  exact hnot (hl ▸ hN i hi)

end Lasso

end PsV.Sync

namespace PsV
open PsV.Sync

theorem WeakFairCycle.exec {c : Cfg} {s : State} {cyc pre : List (Nat × Bool)} (hc : WeakFairCycle c s cyc)
    (hrun0 : runSched c (init c) pre = some s) :
    ∃ e : Exec c, (∀ t, t ≤ c.n → e.WeakFair t) ∧
      ∀ t, (step? c s t).isSome = true → (t, false) ∉ cyc → ¬ e.StrongFair t :=
  let L : Lasso c := ⟨s, pre, cyc, hc.1, hrun0, hc.2.1⟩
  ⟨L.exec, L.weakFair hc, L.not_strongFair⟩

/-- the smallest instance: 1 worker, the coordinator is about to start the first block (`pthread_mutex_lock`), the
    worker waits for instructions -/
def fairCfg : Cfg := { n := 1, m := 2, less := fun _ _ => false, repaired := true }

theorem fair_prefix : ∃ s, runSched fairCfg (init fairCfg) [(0, false), (1, false), (1, false)] = some s ∧
    s.cpc = .lockA ∧ s.wpc 0 = .waiting ∧ s.st 0 = .wait ∧ s.owner = none := by
  decide +kernel

theorem fairCfg_cycle : ∃ s, runSched fairCfg (init fairCfg) [(0,false),(1,false),(1,false)] = some s ∧
    s.cpc = .lockA ∧ s.owner = none ∧ WeakFairCycle fairCfg s (futileCycle 0) := by
  obtain ⟨s, hs, hpc, hp, hst, ho⟩ := fair_prefix
  obtain ⟨c1, c2, g1, g2, g3, hown, e2⟩ := futileCycle_runs fairCfg s 0 (by decide) hp hst ho
  refine ⟨s, hs, hpc, ho, by simp [futileCycle], by simp [futileCycle, runSched, g1, g2, g3], fun t ht => ?_⟩
  have ht' : t = 0 ∨ t = 1 := by have : t ≤ 1 := ht; omega
  rcases ht' with rfl | rfl
  · -- the coordinator needs the mutex, which the cycling worker holds after its re-acquisition
    refine Or.inr ⟨(futileCycle 0).take 2, c2, List.take_prefix _ _, by simp [futileCycle, runSched, g1, g2], ?_⟩
    simp [step?, stepC, e2, hpc, hown]
  · exact Or.inl (by simp [futileCycle])

end PsV
