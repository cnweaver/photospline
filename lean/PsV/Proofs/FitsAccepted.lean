import PsV.Proofs.FitsBridge
import PsV.Proofs.FitsRead
import PsV.Proofs.AuxValidate
/-!
# The tables `write_fits` accepts (C06): one source-anchored hypothesis

`Accepted E t` collects what is true of every table object the library can hold and write, in the terms of the
source: the shape invariants of `splinetable` (array lengths, row-major strides), the per-dimension validity the
repaired reader insists on (`DimsWF`), machine sizes (`uint64_t` counts, `uint32_t` orders that are written through an
`int*`), and — for the auxiliary keys — the tests of `splinetable::write_key` for a standard keyword
(`WriteKeyOK`, include/photospline/detail/aux.h).  From it follow all the technical hypotheses of the store-level and
byte-level theorems (`Storable`'s fields, `Encodable`).

Not derivable, hence listed in `Accepted` explicitly:
* `EXTNAME`, `HDUNAME` as auxiliary keys — `WriteKeyOK` does not exclude them (the present `write_key` does, and
  `Aux.validate` with it); with such a key the file is written and the reader takes the primary HDU for the extension
  of that name (`PsV.aux_extname_breaks_roundtrip` in `PsV/Props/C06.lean`); `HIERARCH` (8 characters, accepted by
  `write_key`) is outside the card parser model;
* the number text of `PERIODn` (`NumText (E.fmtD x)`), a parameter of the model;
* at most 100 dimensions when periods are written, 999 otherwise (the keywords stay 8 characters).

`WriteKeyOK` is tied to C16 at the end of the file: `PsV.Aux.validate` (PsV/Model/AuxKeys.lean) is the
statement-by-statement model of the tests of `write_key`; its constants are regenerated from the source (`PsV.Gen.C16`)
and it is run against the real `write_key` by the C16 check.  Every short key / value pair it accepts satisfies
`WriteKeyOK`.
-/
namespace PsV.Fits.Codec

/-- `splinetable::write_key(key, value)` does not throw for a standard (at most 8 character) keyword:
    `reservedFitsKeyword`, the empty / edge-blank test, `END` / `HISTORY` / `CONTINUE`, the character loop
    `!(isupper(c) || isdigit(c)) || c=='-' || c=='_'`, printable ASCII value, `storedlen ≤ 68`. -/
structure WriteKeyOK (key val : Str) : Prop where
  ne : key ≠ []
  len : key.length ≤ 8
  chars : ∀ c ∈ key, (c.isUpper || c.isDigit) = true
  notReserved : reserved key = false
  notEnd : key ≠ "END".toList
  notHistory : key ≠ "HISTORY".toList
  notContinue : key ≠ "CONTINUE".toList
  printable : ∀ c ∈ val, 32 ≤ c.toNat ∧ c.toNat ≤ 126
  fits : storedLen val ≤ 68

theorem upperDigit_props (c : Char) (h : (c.isUpper || c.isDigit) = true) : c ≠ ' ' ∧ c.toNat < 256 := by
  simp only [Char.isUpper, Char.isDigit, Bool.or_eq_true, Bool.and_eq_true, decide_eq_true_eq] at h
  have hv : c.toNat = c.val.toNat := rfl
  constructor
  · intro e; subst e; revert h; decide
  · rw [hv]
    rcases h with ⟨h1, h2⟩ | ⟨h1, h2⟩ <;>
      · have := UInt32.le_iff_toNat_le.mp h2
        simp at this
        omega

theorem WriteKeyOK.keyOK {key val : Str} (h : WriteKeyOK key val) (hh : key ≠ "HIERARCH".toList) : KeyOK key := by
  refine ⟨h.len, fun c hc => (upperDigit_props c (h.chars c hc)).1, ?_, hh, h.notContinue⟩
  have hc : key ≠ "COMMENT".toList := by
    intro e; have := h.notReserved; rw [e] at this; revert this; decide +kernel
  simp only [isCommentary, Bool.or_eq_false_iff, beq_eq_false_iff_ne, ne_eq]
  exact ⟨⟨hc, h.notHistory⟩, h.ne⟩

theorem WriteKeyOK.latKey {key val : Str} (h : WriteKeyOK key val) : Lat key :=
  fun c hc => (upperDigit_props c (h.chars c hc)).2

theorem WriteKeyOK.latVal {key val : Str} (h : WriteKeyOK key val) : Lat val :=
  fun c hc => by have := (h.printable c hc).2; omega

/-- Everything the library can hold and write (see the header of this file). -/
structure Accepted (E : Ext) (t : Table) : Prop where
  ndim_pos : 1 ≤ t.ndim
  ndim_le : t.ndim ≤ 999
  knots_len : t.knots.length = t.ndim
  naxes_len : t.naxes.length = t.ndim
  strides_rm : t.strides = rowMajor t.naxes
  coef_len : t.coef.length = prod t.naxes
  /-- per dimension `nknots ≥ 2·order+2`, `naxes = nknots-order-1`, knots finite and non-decreasing -/
  dims : DimsWF t
  /-- `order[i]` is a `uint32_t` handed to cfitsio as `int*` -/
  order_lt : ∀ o ∈ t.order, o < 2147483648
  /-- `nknots[i]` is a `uint64_t` -/
  sizes : ∀ k ∈ t.knots, k.length < 2 ^ 64
  extents_len : ∀ e, t.extents = some e → e.length = 2 * t.ndim
  periods_len : ∀ p, t.periods = some p → p.length = t.ndim
  periods_dim : t.periods ≠ none → t.ndim ≤ 100
  periods_text : ∀ p, t.periods = some p → ∀ x ∈ p, NumText (E.fmtD x)
  aux : ∀ kv ∈ t.aux, WriteKeyOK kv.1 kv.2 ∧ kv.1 ≠ "EXTNAME".toList ∧ kv.1 ≠ "HDUNAME".toList
          ∧ kv.1 ≠ "HIERARCH".toList

theorem Accepted.knots_ne {E : Ext} {t : Table} (h : Accepted E t) : ∀ k ∈ t.knots, k ≠ [] := by
  intro k hk
  obtain ⟨i, hi, rfl⟩ := List.getElem_of_mem hk
  have hi' : i < t.ndim := by rw [← h.knots_len]; exact hi
  have := (h.dims i hi').1
  rw [getD_of_lt hi] at this
  intro e; rw [e] at this; simp at this

theorem Accepted.naxes_lt {E : Ext} {t : Table} (h : Accepted E t) : ∀ a ∈ t.naxes, a < 2 ^ 64 := by
  intro a ha
  obtain ⟨i, hi, rfl⟩ := List.getElem_of_mem ha
  have hi' : i < t.ndim := by rw [← h.naxes_len]; exact hi
  have hik : i < t.knots.length := by rw [h.knots_len]; exact hi'
  have h2 := (h.dims i hi').2.1
  rw [getD_of_lt hi, getD_of_lt hik] at h2
  have := h.sizes _ (List.getElem_mem hik)
  omega

theorem Accepted.encodable {E : Ext} {t : Table} (h : Accepted E t) : Encodable E t := by
  have h64 : (2 : Nat) ^ 64 < 10 ^ 20 := by decide
  refine ⟨h.ndim_pos, h.ndim_le, h.naxes_len, by rw [h.coef_len]; exact Nat.le_refl _,
    fun a ha => Nat.lt_trans (h.naxes_lt a ha) h64, fun k hk => Nat.lt_trans (h.sizes k hk) h64,
    fun e he => by rw [h.extents_len e he]; exact Nat.le_refl _, h.periods_dim,
    fun p hp => by rw [h.periods_len p hp]; exact Nat.le_refl _, h.periods_text, ?_⟩
  intro kv hkv
  obtain ⟨hw, _, _, hh⟩ := h.aux kv hkv
  exact ⟨hw.keyOK hh, hw.notEnd, hw.latKey, hw.latVal, hw.fits⟩

theorem Accepted.storable {E : Ext} {t : Table} (h : Accepted E t) : Storable t :=
  ⟨h.ndim_pos, h.ndim_le, h.knots_len, h.naxes_len, h.knots_ne, h.strides_rm, h.coef_len, h.order_lt,
    h.extents_len, h.periods_len, fun kv hkv => by
      obtain ⟨hw, h1, h2, _⟩ := h.aux kv hkv
      exact ⟨hw.notReserved, h1, h2, hw.fits⟩⟩

def exAccepted : Table :=
  { order := [0]
    knots := [[0, 4607182418800017408, 4611686018427387904]]       -- 0.0, 1.0, 2.0
    naxes := [2]
    strides := [1]
    coef := [0xffc00001, 0x7fa00000]     -- a negative quiet NaN with payload 1, a signalling NaN
    extents := some [0, 4611686018427387904]
    periods := none
    aux := [("REMARK".toList, "it's ''".toList)] }

theorem exAccepted_ok (E : Ext) : Accepted E exAccepted := by
  refine ⟨by decide, by decide, by decide, by decide, by decide, by decide, by unfold DimsWF; decide +kernel,
    by decide, by decide, (fun e he => by cases he; rfl), (fun p hp => nomatch hp), (fun h => absurd rfl h),
    (fun p hp => nomatch hp), ?_⟩
  intro kv hkv
  obtain rfl := List.mem_singleton.1 hkv
  simp -index only [String.toList_ofList]
  exact ⟨⟨by decide, by decide, by decide, by decide +kernel, by decide, by decide, by decide, by decide +kernel,
    by decide⟩, by decide, by decide, by decide⟩

theorem exT_storable : Storable exT := by
  constructor <;> simp -index only [exT, String.toList_ofList] <;> decide +kernel

theorem exValidTable_encodable (E : Ext) : Encodable E { exValidTable with periods := none } :=
  ⟨by decide, by decide, by decide, by decide, by decide, by decide, by decide, fun h => absurd rfl h,
    fun _ hp => (nomatch hp), fun _ hp => (nomatch hp), by decide⟩

theorem reserved_eq_aux (key : Str) : Fits.reserved key = Aux.reserved key := by
  have ht : Fits.reservedPrefixes.map String.toList = Gen.C16.reservedPrefixes.map (·.1) := by
    simp -index only [Fits.reservedPrefixes, List.map, String.toList_ofList]
    decide +kernel
  exact (List.any_map (f := String.toList) (p := (·.isPrefixOf key))).symm.trans
    ((congrArg (·.any (·.isPrefixOf key)) ht).trans (List.any_map.trans (Aux.reserved_eq key).symm))

theorem writeKeyOK_of_validate (key val : Str) (hv : Aux.validate key val = none) (h8 : key.length ≤ 8) :
    WriteKeyOK key val := by
  obtain ⟨hres, _, _, hshort, _, _⟩ := (Aux.validate_none_iff key val).mp hv
  obtain ⟨hk, hp⟩ := Aux.validate_plain key val hv
  refine ⟨hk.ne, h8, (hshort h8).1, by rw [reserved_eq_aux]; exact hres, hk.notEnd, hk.notHistory, hk.notContinue,
    fun c hc => ?_, (hshort h8).2⟩
  simpa [Aux.printable] using hp c hc

/-- satisfiable, with apostrophes -/
example : Aux.validate "REMARK".toList "it's ''".toList = none ∧ "REMARK".toList.length ≤ 8 := by
  simp -index only [String.toList_ofList]
  decide +kernel

end PsV.Fits.Codec
