import PsV.Model.Lifecycle
import PsV.Proofs.ListBasics
/-! One table: the ledger algebra up to permutation (`Good`), step programs (`runSteps_good`), and for every operation
    its `Spec` — invariant kept, failed ⇒ unchanged or empty, no undefined behaviour — for any configuration under the
    operation's `…Safe` condition (`read_spec` … `permute_spec`, `destroy_spec`). -/
namespace PsV.Lifecycle
open List

theorem applyEvs_nil (s : Led) : applyEvs s [] = s := rfl
theorem applyEvs_cons (s : Led) (e : Ev) (es : List Ev) : applyEvs s (e :: es) = applyEvs (applyEv s e) es := rfl
theorem applyEvs_append (s : Led) (xs ys : List Ev) : applyEvs s (xs ++ ys) = applyEvs (applyEvs s xs) ys :=
  List.foldl_append

/-- `Good b L evs R`: running `evs` on any ledger that is a permutation of `L` keeps `bad = b`
    and ends in a permutation of `R`. -/
def Good (b : Nat) (L : List Nat) (evs : List Ev) (R : List Nat) : Prop :=
  ∀ L', L'.Perm L → (applyEvs (L', b) evs).2 = b ∧ (applyEvs (L', b) evs).1.Perm R

theorem Good.nil {b L} : Good b L [] L := fun _ h' => ⟨rfl, h'⟩

theorem Good.append {b L M R xs ys} (h1 : Good b L xs M) (h2 : Good b M ys R) : Good b L (xs ++ ys) R := by
  intro L' hL
  obtain ⟨hb, hp⟩ := h1 L' hL
  rw [applyEvs_append, show applyEvs (L', b) xs = ((applyEvs (L', b) xs).1, b) from Prod.ext rfl hb]
  exact h2 _ hp

theorem Good.alloc {b L} (n : Nat) : Good b L [.a n] (n :: L) :=
  fun _ hL => ⟨rfl, hL.cons n⟩

theorem Good.free {b L} (n : Nat) : Good b (n :: L) [.d n] L := by
  intro L' hL
  have hm : n ∈ L' := hL.symm.subset mem_cons_self
  simp only [applyEvs, List.foldl, applyEv, hm, if_true, true_and]
  simpa using hL.erase n

theorem Good.perm_left {b L L2 evs R} (h : Good b L evs R) (p : L2.Perm L) : Good b L2 evs R :=
  fun L' hL => h L' (hL.trans p)
theorem Good.perm_right {b L evs R R2} (h : Good b L evs R) (p : R.Perm R2) : Good b L evs R2 :=
  fun L' hL => ⟨(h L' hL).1, (h L' hL).2.trans p⟩

theorem Good.allocs {b L} (as : List Nat) : Good b L (as.map .a) (as ++ L) := by
  induction as generalizing L with
  | nil => exact Good.nil
  | cons x xs ih => exact ((Good.alloc x).append ih).perm_right perm_middle

theorem Good.frees {b R} (fs : List Nat) : Good b (fs ++ R) (fs.map .d) R := by
  induction fs with
  | nil => exact Good.nil
  | cons x xs ih => exact (Good.free x).append ih

theorem Good.frees_all {b} (fs : List Nat) : Good b fs (fs.map .d) [] :=
  (Good.frees fs).perm_left (by rw [append_nil])

theorem Tab.apply_good {t : Tab} {evs R} (h : Good t.bad t.ledger evs R) :
    (t.apply evs).bad = t.bad ∧ (t.apply evs).ledger.Perm R :=
  h t.ledger (Perm.refl _)

/-- blocks a fully executed program keeps -/
def net : List Step → List Nat
  | [] => []
  | .a n :: r => n :: net r
  | .swap _ s :: r => s :: net r
  | .fail :: r => net r

/-- Wherever a program stops, its events take `live ++ R` to what it reports as kept on top of `R`; and a
    program that ran to its end has kept `net steps` more. -/
theorem runSteps_good (b : Nat) : ∀ (steps : List Step) (cd : Option Nat) (live R : List Nat),
    Good b (live ++ R) (runSteps cd steps live).1 ((runSteps cd steps live).2.1 ++ R) ∧
    ((runSteps cd steps live).2.2.2 = true → (runSteps cd steps live).2.1 = live ++ net steps) := by
  intro steps
  induction steps with
  | nil => intro cd live R; exact ⟨Good.nil, fun _ => (append_nil _).symm⟩
  | cons s rest ih =>
    intro cd live R
    have stop : Good b (live ++ R) [] (live ++ R) ∧ (false = true → live = live ++ net (s :: rest)) := ⟨Good.nil, nofun⟩
    -- one more block `n` is kept, then the rest runs
    have go : ∀ cd' n, Good b (n :: (live ++ R)) (runSteps cd' rest (live ++ [n])).1
          ((runSteps cd' rest (live ++ [n])).2.1 ++ R) ∧ ((runSteps cd' rest (live ++ [n])).2.2.2 = true →
          (runSteps cd' rest (live ++ [n])).2.1 = live ++ n :: net rest) := fun cd' n =>
      ⟨(ih cd' (live ++ [n]) R).1.perm_left (by simpa using (perm_middle (l₁ := live) (l₂ := R) (a := n)).symm),
       fun h => by rw [(ih cd' (live ++ [n]) R).2 h, append_assoc]; rfl⟩
    cases s with
    | fail => exact stop
    | a n =>
      have key := fun cd' => (go cd' n).imp (Good.append (Good.alloc n)) id
      match cd with
      | none => exact key _
      | some 0 => exact stop
      | some (k+1) => exact key _
    | swap raw st =>
      have key := fun cd' => (go cd' st).imp (fun g => (Good.alloc raw).append <| (Good.alloc st).append <|
        ((Good.free (L := st :: (live ++ R)) raw).perm_left (Perm.swap ..)).append g) id
      match cd with
      | none => exact key _
      | some 0 => exact stop
      | some 1 => exact ⟨(Good.alloc raw).append (Good.free raw), nofun⟩
      | some (k+2) => exact key _

/-- the program runs to its end under the countdown `cd` (no injected allocation failure hits it, no
    read / GLAM failure is part of it) -/
def Completes (cd : Option Nat) (steps : List Step) : Prop := (runSteps cd steps []).2.2.2 = true

theorem Good.run {b} (cd : Option Nat) (steps : List Step) (R : List Nat) :
    Good b R (runSteps cd steps []).1 ((runSteps cd steps []).2.1 ++ R) :=
  (runSteps_good b steps cd [] R).1

theorem kept_of_completes {cd : Option Nat} {steps : List Step} (h : Completes cd steps) :
    (runSteps cd steps []).2.1 = net steps :=
  (runSteps_good 0 steps cd [] []).2 h

theorem Good.run_release {b} (cd : Option Nat) (steps : List Step) (R : List Nat) :
    Good b R ((runSteps cd steps []).1 ++ (runSteps cd steps []).2.1.map .d) R :=
  (Good.run cd steps R).append (Good.frees _)

theorem net_append (xs ys : List Step) : net (xs ++ ys) = net xs ++ net ys := by
  induction xs with
  | nil => rfl
  | cons x xs ih => cases x <;> simp [net, ih]

theorem net_map_a (l : List Nat) : net (l.map .a) = l := by
  induction l with
  | nil => rfl
  | cons x xs ih => simp [net, ih]

/-- `read_fits_core` stores, for every aux value, the size it will later release it with — provided the
    value block has that size (C20-9) or the file contains no value whose two sizes differ. -/
theorem net_auxInSteps (c : Cfg) (aux : List AuxIn) (h : c.readAuxExact = true ∨ ∀ e ∈ aux, e.stored = e.raw) :
    net (auxInSteps c aux) = auxEntryBlocks (readAux aux) := by
  induction aux with
  | nil => rfl
  | cons e es ih =>
    have ih' := ih (h.imp id fun h' e' he' => h' e' (List.mem_cons_of_mem _ he'))
    simp only [auxInSteps, readAux, auxEntryBlocks, flatMap_cons, map_cons] at ih' ⊢
    rw [net_append, ih']
    rcases h with h | h
    · by_cases h2 : e.stored = e.raw <;> simp [h, net, h2]
    · have h2 := h e (List.mem_cons_self)
      by_cases h3 : c.readAuxExact = true <;> simp [h3, net, h2]

theorem net_failIf (p : Prop) [Decidable p] : net (failIf p) = [] := by
  unfold failIf; split <;> rfl

theorem net_knotSteps (fa fb : Option Nat) (dims : List Dim) : net (knotSteps fa fb dims) = knotBlocks dims := by
  unfold knotSteps knotBlocks
  generalize 0 = k
  induction dims generalizing k with
  | nil => rfl
  | cons d ds ih =>
    simp only [zipIdx_cons, flatMap_cons, map_cons, net_append, ih, net_failIf]
    simp [net]

theorem auxEntryBlocks_append (a b : List Aux) : auxEntryBlocks (a ++ b) = auxEntryBlocks a ++ auxEntryBlocks b := by
  simp [auxEntryBlocks]

theorem runSteps_none_ok : ∀ (steps : List Step) (live : List Nat), Step.fail ∉ steps →
    (runSteps none steps live).2.2.2 = true ∧ (runSteps none steps live).2.2.1 = none := by
  intro steps
  induction steps with
  | nil => intro live _; exact ⟨rfl, rfl⟩
  | cons s rest ih =>
    intro live h
    have hr : Step.fail ∉ rest := fun h' => h (List.mem_cons_of_mem _ h')
    cases s with
    | fail => exact absurd (List.mem_cons_self) h
    | a n => exact ih (live ++ [n]) hr
    | swap raw st => exact ih (live ++ [st]) hr

theorem Completes.of_none {steps : List Step} (h : Step.fail ∉ steps) : Completes none steps :=
  (runSteps_none_ok steps [] h).1

theorem fail_not_mem_map_a (l : List Nat) : Step.fail ∉ l.map Step.a := by simp

theorem runSteps_fail : ∀ (steps : List Step) (cd : Option Nat) (live : List Nat), Step.fail ∈ steps →
    (runSteps cd steps live).2.2.2 = false := by
  intro steps
  induction steps with
  | nil => intro _ _ h; exact absurd h (by simp)
  | cons s rest ih =>
    intro cd live h
    cases s with
    | fail => rfl
    | a n =>
      have hr : Step.fail ∈ rest := by simpa using h
      match cd with
      | none => exact ih _ (live ++ [n]) hr
      | some 0 => rfl
      | some (k+1) => exact ih _ (live ++ [n]) hr
    | swap raw st =>
      have hr : Step.fail ∈ rest := by simpa using h
      match cd with
      | none => exact ih _ (live ++ [st]) hr
      | some 0 => rfl
      | some 1 => rfl
      | some (k+2) => exact ih _ (live ++ [st]) hr

theorem not_completes_of_fail {steps : List Step} (h : Step.fail ∈ steps) (cd : Option Nat) : ¬ Completes cd steps := by
  unfold Completes; rw [runSteps_fail steps cd [] h]; simp

/-- the stages of `read_fits_core` after `ndim` is assigned at which a read can fail (`FileDesc.kind`), each with a
    position that exists in the file (`arg` names a dimension for the two per-knot-vector stages) -/
def FileDesc.failsLate (f : FileDesc) : Prop :=
  f.kind = 2 ∨ f.kind = 4 ∨ f.kind = 5 ∨ f.kind = 7 ∨ ((f.kind = 3 ∨ f.kind = 6) ∧ f.arg < f.dims.length)

instance (f : FileDesc) : Decidable f.failsLate := by unfold FileDesc.failsLate; infer_instance

theorem mem_failIf {p : Prop} [Decidable p] (h : p) : Step.fail ∈ failIf p := by simp [failIf, h]

theorem fail_mem_knotSteps (fa fb : Option Nat) (dims : List Dim) (i : Nat) (hi : i < dims.length)
    (h : fa = some i ∨ fb = some i) : Step.fail ∈ knotSteps fa fb dims := by
  refine List.mem_flatMap.mpr ⟨(dims[i], i), List.mem_zipIdx_iff_getElem?.mpr (by simp [hi]), ?_⟩
  rcases h with h | h <;> simp only [List.mem_append, mem_failIf h, true_or, or_true]

theorem fail_mem_readSteps (c : Cfg) (f : FileDesc) (h : f.failsLate) : Step.fail ∈ readSteps c f := by
  unfold readSteps
  rcases h with h | h | h | h | ⟨h, hi⟩
  · simp only [List.mem_append, mem_failIf h, true_or, or_true]
  · simp only [List.mem_append, mem_failIf h, true_or, or_true]
  · simp only [List.mem_append, mem_failIf h, true_or, or_true]
  · simp only [List.mem_append, mem_failIf h, or_true]
  · have := fail_mem_knotSteps (if f.kind = 3 then some f.arg else none) (if f.kind = 6 then some f.arg else none) f.dims f.arg hi
      (h.imp (fun h => if_pos h) fun h => if_pos h)
    simp only [List.mem_append, this, true_or, or_true]

theorem Tab.apply_shape (t : Tab) (evs) : (t.apply evs).shape = t.shape := rfl
@[simp] theorem Tab.apply_blocks (t : Tab) (evs) : (t.apply evs).blocks = t.blocks := rfl

theorem Tab.Inv.toInvX {t : Tab} (h : t.Inv) : t.InvX := ⟨h.toOwnX, h.toBalanced⟩
theorem Tab.InvX.toInv {t : Tab} (h : t.InvX) (hx : t.noExtents = false) : t.Inv := ⟨⟨h.toOwnX, hx⟩, h.toBalanced⟩

/-- The shape all storage-changing calls share: the abstract state `t` is replaced by `t'` (same allocator), and
    the events take the blocks `t` owns to the blocks `t'` owns without a bad release. -/
theorem Tab.InvX.apply {t t' : Tab} {evs : List Ev} (h : t.InvX) (hl : t'.ledger = t.ledger) (hb : t'.bad = t.bad)
    (hown : t'.OwnX) (hg : Good 0 t.blocks evs t'.blocks) : (t'.apply evs).InvX := by
  have hg' : Good t'.bad t'.ledger evs t'.blocks := by rw [hb, hl, h.bad]; exact hg.perm_left h.ledger
  obtain ⟨h1, h2⟩ := Tab.apply_good hg'
  exact { empty := hown.empty, full := hown.full, auxArr := hown.auxArr, sound := hown.sound, ledger := h2,
          bad := h1.trans (hb.trans h.bad) }

theorem Tab.InvX.ownX_of {t t' : Tab} (h : t.InvX) (hnd : t.ndim ≠ 0) (e1 : t'.ndim = t.ndim) (e2 : t'.core = t.core)
    (e3 : t'.dims.length = t.dims.length) (ha : t'.aux ≠ [] → t'.auxArr = true) (hs : t'.broken = false) : t'.OwnX :=
  ⟨fun e => absurd (e1 ▸ e) hnd, fun _ => ⟨e2 ▸ (h.full hnd).1, e3.trans ((h.full hnd).2.trans e1.symm)⟩, ha, hs⟩

theorem Tab.isEmpty_iff {t : Tab} : t.isEmpty = true ↔ t.ndim = 0 ∧ t.core = false ∧ t.periods = false ∧ t.auxArr = false ∧
    t.aux = [] ∧ t.dims = [] ∧ t.broken = false ∧ t.noExtents = false := by
  simp [Tab.isEmpty, and_assoc]

theorem Tab.InvX.blocks_nil {t : Tab} (h : t.InvX) (h0 : t.ndim = 0) : t.blocks = [] := by
  obtain ⟨c, p, a, x, _, _⟩ := h.empty h0
  simp [Tab.blocks, c, p, a, x, auxBlocks, auxEntryBlocks]

theorem Tab.InvX.ledger_nil {t : Tab} (h : t.InvX) (h0 : t.ndim = 0) : t.ledger = [] :=
  perm_nil.mp (h.blocks_nil h0 ▸ h.ledger)

theorem Tab.empty_inv : Tab.empty.Inv :=
  { empty := fun _ => ⟨rfl, rfl, rfl, rfl, rfl, rfl⟩, full := fun h => absurd rfl h, auxArr := fun h => absurd rfl h,
    sound := rfl, extents := rfl, ledger := Perm.refl _, bad := rfl }

theorem Tab.empty_invX : Tab.empty.InvX := Tab.empty_inv.toInvX

/-- what a table owns besides its key store -/
def Tab.base (t : Tab) : List Nat :=
  (if t.core then (if t.noExtents then fixedBlocksNoExt t.ndim t.dims else fixedBlocks t.ndim t.dims) ++ knotBlocks t.dims else []) ++
  (if t.periods then [8 * t.ndim] else [])

theorem Tab.blocks_eq (t : Tab) : t.blocks = t.base ++ auxBlocks t.auxArr t.aux := rfl

/-- Outcome of a single-table call: the table is still destructible and leak-free (`InvX`), a throwing
    call left it unchanged or empty, the call had no undefined behaviour, and a table that has its
    `extents` keeps them. -/
structure Spec (t : Tab) (o : Out) : Prop where
  inv : o.tab.InvX
  threw : o.res = .threw → o.tab.shape = t.shape ∨ o.tab.isEmpty = true
  nocrash : o.res ≠ .crash
  ext : t.noExtents = false → o.tab.noExtents = false

theorem spec_unchanged {t : Tab} {cd : Option Nat} {r : Res} (h : t.InvX) (hr : r ≠ .crash) : Spec t ⟨t, cd, r, []⟩ :=
  ⟨h, fun _ => Or.inl rfl, hr, id⟩

/-- `read` reports success as `true` -/
theorem Spec.okAsTrue {t : Tab} {o : Out} (h : Spec t o) : Spec t { o with res := if o.res = .ok then .tt else o.res } := by
  refine ⟨h.inv, fun e => h.threw ?_, ?_, h.ext⟩
  · dsimp only at e; split at e
    · cases e
    · exact e
  · dsimp only; split
    · nofun
    · exact h.nocrash

/-- building storage from the empty state: what `read` and `fit` share -/
theorem build_spec {guard : Bool} {t target : Tab} {cd : Option Nat} {steps : List Step} {n : Nat}
    (h : t.InvX) (h0 : t.ndim = 0) (hl : target.ledger = t.ledger) (hb : target.bad = t.bad)
    (hown : target.OwnX) (hx : target.noExtents = t.noExtents) (hnet : (net steps).Perm target.blocks)
    (hg : guard = true ∨ Completes cd steps) : Spec t (build guard t cd steps target n) := by
  have hnil := h.blocks_nil h0
  unfold build
  refine iteInduction (fun hok => ?_) fun hno => ?_
  · refine ⟨h.apply hl hb hown ?_, nofun, nofun, hx.trans⟩
    rw [hnil]
    exact (Good.run cd steps []).perm_right (by rw [kept_of_completes hok, append_nil]; exact hnet)
  · obtain rfl := hg.resolve_right hno
    exact ⟨h.apply rfl rfl h.toOwnX (Good.run_release cd steps _), fun _ => Or.inl rfl, nofun, id⟩

/-- The circumstances under which `read_fits` keeps the invariant whatever the configuration: the C07 /
    C20-11 guard is in, or the read runs to its end; C20-9 is in, or no aux value changes size. -/
def ReadSafe (c : Cfg) (cd : Option Nat) (f : FileDesc) : Prop :=
  (c.readGuard = true ∨ Completes cd (readSteps c f)) ∧ (c.readAuxExact = true ∨ ∀ e ∈ f.aux, e.stored = e.raw)

theorem read_spec (c : Cfg) (t : Tab) (cd : Option Nat) (f : FileDesc) (h : t.InvX)
    (hs : t.ndim ≠ 0 ∨ ReadSafe c cd f) : Spec t (read c t cd f) := by
  unfold read
  refine iteInduction (fun _ => spec_unchanged h nofun) fun h0 => iteInduction (fun _ => spec_unchanged h nofun) fun hk => ?_
  obtain ⟨hs1, hs2⟩ := hs.resolve_left h0
  have h0 : t.ndim = 0 := Decidable.not_not.mp h0
  have hd : f.dims ≠ [] := fun e => hk (Or.inr e)
  have hb : Spec t (build c.readGuard t cd (readSteps c f) (readTarget f t) f.dims.length) := by
    refine build_spec h h0 rfl rfl ⟨fun e => absurd (length_eq_zero_iff.mp e) hd, fun _ => ⟨rfl, rfl⟩,
      fun e => Decidable.byContradiction fun hk => e (if_neg hk), h.sound⟩ rfl ?_ hs1
    have haux : net (if f.hasKeys then [Step.a (8 * f.aux.length)] ++ auxInSteps c f.aux else []) =
        auxBlocks f.hasKeys (if f.hasKeys then readAux f.aux else []) := by
      cases f.hasKeys
      · rfl
      · simp [net, net_auxInSteps c f.aux hs2, auxBlocks, readAux]
    refine perm_iff_count.mpr fun x => ?_
    simp only [readSteps, net_append, net_knotSteps, net_failIf, haux, net, readTarget, Tab.blocks, fixedBlocks,
      (h.empty h0).2.2.2.2.2, if_true, Bool.false_eq_true, if_false, count_append, count_cons, count_nil]
    omega
  exact hb.okAsTrue

/-- neither the invariant nor the aux sizes are needed for this -/
theorem read_fails (c : Cfg) (hg : c.readGuard = true) (t : Tab) (cd : Option Nat) (f : FileDesc) (h0 : t.ndim = 0)
    (hf : f.kind = 1 ∨ f.failsLate) : (read c t cd f).res = .threw ∧ (read c t cd f).tab.shape = t.shape := by
  unfold read
  rw [if_neg (by simp [h0])]
  split
  · exact ⟨rfl, rfl⟩
  · rename_i hk
    have hl : f.failsLate := hf.resolve_left fun e => hk (Or.inl e)
    have hno := runSteps_fail (readSteps c f) cd [] (fail_mem_readSteps c f hl)
    simp [build, hno, hg, Tab.apply, Tab.shape]

/-- `fit`: C20-2 is in, or the table is empty, or the arguments are refused anyway; C20-3 is in, or the
    fit runs to its end (no allocation failure, GLAM succeeds). -/
def FitSafe (c : Cfg) (cd : Option Nat) (t : Tab) (a : FitArgs) : Prop :=
  (c.fitRefuse = true ∨ t.ndim = 0 ∨ a.valid = false ∨ a.dims = []) ∧ (c.fitGuard = true ∨ Completes cd (fitSteps a))

theorem completes_fitSteps_iff (a : FitArgs) : Completes none (fitSteps a) ↔ a.glamOk = true := by
  unfold fitSteps
  cases a.glamOk
  · exact iff_of_false (not_completes_of_fail (List.mem_append_right _ List.mem_cons_self) none) nofun
  · exact iff_of_true (Completes.of_none (by simp)) rfl

theorem fit_spec (c : Cfg) (t : Tab) (cd : Option Nat) (a : FitArgs) (h : t.InvX) (hs : FitSafe c cd t a) :
    Spec t (fit c t cd a) := by
  obtain ⟨hs1, hs2⟩ := hs
  unfold fit
  refine iteInduction (fun _ => spec_unchanged h nofun) fun hr0 => iteInduction (fun _ => spec_unchanged h nofun) fun hk => ?_
  have hd : a.dims ≠ [] := fun e => hk (Or.inr e)
  have h0 : t.ndim = 0 := by
    rcases hs1 with h1 | h1 | h1 | h1
    · exact Decidable.byContradiction fun h0 => hr0 ⟨h1, h0⟩
    · exact h1
    · exact absurd (Or.inl (by rw [h1]; rfl)) hk
    · exact absurd h1 hd
  rw [if_neg (not_not_intro h0)]
  obtain ⟨_, p, x, y, _, ne⟩ := h.empty h0
  refine build_spec h h0 rfl rfl ⟨fun e => absurd (length_eq_zero_iff.mp e) hd, fun _ => ⟨rfl, rfl⟩,
    fun e => absurd y e, h.sound⟩ rfl ?_ hs2
  have hglam : net (if a.glamOk then [] else [Step.fail]) = [] := by cases a.glamOk <;> rfl
  simp only [fitSteps, net_append, net_map_a, hglam, fitTarget, Tab.blocks, p, x, y, ne, auxBlocks, auxEntryBlocks, if_true,
    Bool.false_eq_true, if_false, flatMap_nil, append_nil]
  exact Perm.refl _

/-- `fit` on an empty table with accepted arguments and the guard in force (C20-3): the new dimensions if its program runs to
    its end, the table as it was if not -/
theorem fit_empty_valid (c : Cfg) (hg : c.fitGuard = true) (t : Tab) (cd : Option Nat) (a : FitArgs) (ht : t.ndim = 0)
    (hv : a.valid = true) (hd : a.dims ≠ []) :
    (Completes cd (fitSteps a) → (fit c t cd a).res = .ok ∧ (fit c t cd a).tab.ndim = a.dims.length) ∧
    (¬ Completes cd (fitSteps a) → (fit c t cd a).res = .threw ∧ (fit c t cd a).tab.ndim = t.ndim) := by
  unfold fit build Completes
  simp only [ht, hv, hd, hg, ne_eq, not_true_eq_false, and_false, if_false, Bool.not_true, Bool.false_eq_true, or_self]
  exact ⟨fun h => by simp [h, fitTarget, Tab.apply], fun h => by simp [h, Tab.apply, ht]⟩

theorem fit_refused (c : Cfg) (t : Tab) (cd : Option Nat) (a : FitArgs)
    (h : (c.fitRefuse = true ∧ t.ndim ≠ 0) ∨ a.valid = false) : fit c t cd a = ⟨t, cd, .threw, []⟩ := by
  unfold fit
  rcases h with h | h
  · rw [if_pos h]
  · simp [h]

theorem findIdx_some {aux : List Aux} {id i : Nat} (h : findIdx aux id = some i) :
    ∃ pre e post, aux = pre ++ e :: post ∧ pre.length = i ∧ aux.getD i ⟨0, 0, 0⟩ = e := by
  unfold findIdx at h
  dsimp only at h
  split at h
  · rename_i hlt
    simp only [Option.some.injEq] at h
    subst h
    refine ⟨aux.take (aux.findIdx (·.id == id)), aux[aux.findIdx (·.id == id)], aux.drop (aux.findIdx (·.id == id) + 1), ?_, ?_, ?_⟩
    · simp
    · simp [List.length_take, Nat.min_eq_left (Nat.le_of_lt hlt)]
    · simp [List.getD_eq_getElem?_getD, hlt]
  · simp at h

/-- The shape of a key edit: of what the table holds, `fs` is released and `rest` stays; a program run to its end
    supplies what the new state owns besides `rest`.  In this order … -/
theorem run_frees_inv {t t' : Tab} {cd : Option Nat} {steps : List Step} {fs rest : List Nat}
    (h : t.InvX) (hl : t'.ledger = t.ledger) (hb : t'.bad = t.bad) (hown : t'.OwnX) (hok : Completes cd steps)
    (hsplit : t.blocks.Perm (fs ++ rest)) (hperm : (net steps ++ rest).Perm t'.blocks) :
    (t'.apply ((runSteps cd steps []).1 ++ fs.map .d)).InvX := by
  refine h.apply hl hb hown (((Good.run cd steps _).perm_right ?_).append (Good.frees fs))
  rw [kept_of_completes hok]
  exact ((hsplit.append_left _).trans (perm_append_comm_assoc ..)).trans (hperm.append_left _)

/-- … and in the other (unrepaired `remove_key`) -/
theorem frees_run_inv {t t' : Tab} {cd : Option Nat} {steps : List Step} {fs rest : List Nat}
    (h : t.InvX) (hl : t'.ledger = t.ledger) (hb : t'.bad = t.bad) (hown : t'.OwnX) (hok : Completes cd steps)
    (hsplit : t.blocks.Perm (fs ++ rest)) (hperm : (net steps ++ rest).Perm t'.blocks) :
    (t'.apply (fs.map .d ++ (runSteps cd steps []).1)).InvX :=
  h.apply hl hb hown (((Good.frees fs).perm_left hsplit).append
    ((Good.run cd steps rest).perm_right (by rw [kept_of_completes hok]; exact hperm)))

/-- `write_key`: C20-1 is in, or the table is not empty, or the key / value is refused anyway -/
def WriteKeySafe (c : Cfg) (t : Tab) (a : KeyArg) : Prop := c.writeKeyRefuse = true ∨ t.ndim ≠ 0 ∨ a.kind ≠ 0

theorem writeKey_spec (c : Cfg) (t : Tab) (cd : Option Nat) (a : KeyArg) (h : t.InvX) (hs : WriteKeySafe c t a) :
    Spec t (writeKey c t cd a) := by
  unfold writeKey
  refine iteInduction (fun _ => spec_unchanged h nofun) fun hr0 => iteInduction (fun _ => spec_unchanged h nofun) fun hk => ?_
  have h0 : t.ndim ≠ 0 := by
    rcases hs with h1 | h1 | h1
    · exact fun e => hr0 ⟨h1, e⟩
    · exact h1
    · exact absurd h1 hk
  split
  · -- update in place: the new value block for the old one
    rename_i i hi
    obtain ⟨pre, e, post, hsplit, rfl, hget⟩ := findIdx_some hi
    refine iteInduction (fun _ => ?_) fun _ => spec_unchanged h nofun
    have harr : t.auxArr = true := h.auxArr (by rw [hsplit]; exact append_ne_nil_of_right_ne_nil _ (cons_ne_nil _ _))
    have hperm : (a.v :: (t.base ++ auxBlocks t.auxArr t.aux)).Perm
        (e.v :: (t.base ++ auxBlocks t.auxArr (t.aux.set pre.length { e with v := a.v }))) := by
      refine perm_iff_count.mpr fun x => ?_
      simp only [auxBlocks, auxEntryBlocks, hsplit, Std.le_refl, set_append_right, Nat.sub_self, set_cons_zero,
        flatMap_append, flatMap_cons, length_append, length_cons, count_append, count_cons, count_nil]
      omega
    rw [hget]
    exact ⟨h.apply rfl rfl (h.ownX_of h0 rfl rfl rfl (fun _ => harr) h.sound)
      ((Good.alloc a.v).append ((Good.free e.v).perm_left hperm)), nofun, nofun, id⟩
  · refine iteInduction (fun hok => ?_) fun _ =>
      ⟨h.apply rfl rfl h.toOwnX (Good.run_release cd _ _), fun _ => Or.inl rfl, nofun, id⟩
    have hfs : (if t.auxArr = true then [Ev.d (8 * t.aux.length)] else []) =
        (if t.auxArr = true then [8 * t.aux.length] else []).map .d := by split <;> rfl
    have hperm : (net [.a (8 * (t.aux.length + 1)), .a 16, .a a.k, .a a.v] ++ (t.base ++ auxEntryBlocks t.aux)).Perm
        (t.base ++ auxBlocks true (t.aux ++ [⟨a.id, a.k, a.v⟩])) := by
      refine perm_iff_count.mpr fun x => ?_
      simp only [auxBlocks, auxEntryBlocks, net, flatMap_append, flatMap_cons, flatMap_nil, length_append,
        length_cons, length_nil, Nat.zero_add, reduceIte, count_append, count_cons, count_nil]
      omega
    have key := run_frees_inv (t' := { t with aux := t.aux ++ [⟨a.id, a.k, a.v⟩], auxArr := true }) h rfl rfl
      (h.ownX_of h0 rfl rfl rfl (fun _ => rfl) h.sound) hok (perm_append_comm_assoc ..) hperm
    dsimp only
    rw [hfs]
    exact ⟨key, nofun, nofun, id⟩

/-- `remove_key`: C20-6 is in, or the key is not there, or the smaller array is obtained -/
def RemoveKeySafe (c : Cfg) (cd : Option Nat) (t : Tab) (id : Nat) : Prop :=
  c.removeKeyFirst = true ∨ findIdx t.aux id = none ∨ Completes cd [.a (8 * (t.aux.length - 1))]

theorem removeKey_spec (c : Cfg) (t : Tab) (cd : Option Nat) (id : Nat) (h : t.InvX) (hs : RemoveKeySafe c cd t id) :
    Spec t (removeKey c t cd id) := by
  unfold removeKey
  cases hi : findIdx t.aux id with
  | none => exact spec_unchanged h nofun
  | some i =>
    obtain ⟨pre, e, post, hsplit, rfl, hget⟩ := findIdx_some hi
    have hlt : pre.length < t.aux.length := by rw [hsplit, length_append]; exact Nat.lt_add_of_pos_right (Nat.succ_pos _)
    have hne : t.aux ≠ [] := fun e => by rw [e] at hlt; cases hlt
    have harr := h.auxArr hne
    have hnd : t.ndim ≠ 0 := fun e0 => hne (h.empty e0).2.2.2.1
    -- the entry and the array go, …
    have hfree : t.blocks.Perm ([e.k, e.v, 16, 8 * t.aux.length] ++ (t.base ++ auxEntryBlocks (t.aux.eraseIdx pre.length))) := by
      refine perm_iff_count.mpr fun x => ?_
      simp only [t.blocks_eq, auxBlocks, auxEntryBlocks, hsplit, harr, eraseIdx_append_of_length_le (Nat.le_refl _),
        Nat.sub_self, eraseIdx_cons_zero, flatMap_append, flatMap_cons, length_append, length_cons, if_true, count_append, count_cons, count_nil]
      omega
    -- … the smaller array comes
    have hnew : (net [.a (8 * (t.aux.length - 1))] ++ (t.base ++ auxEntryBlocks (t.aux.eraseIdx pre.length))).Perm
        (t.base ++ auxBlocks true (t.aux.eraseIdx pre.length)) := by
      rw [auxBlocks, length_eraseIdx, if_pos hlt]
      exact perm_append_comm_assoc ..
    dsimp only
    rw [hget]
    refine iteInduction (fun _ => iteInduction (fun hok => ?_) fun _ => spec_unchanged h nofun) fun hfirst => ?_
    · have key := run_frees_inv (t' := { t with aux := t.aux.eraseIdx pre.length }) h rfl rfl
        (h.ownX_of hnd rfl rfl rfl (fun _ => harr) h.sound) hok hfree
        (by show _ ~ t.base ++ auxBlocks t.auxArr _; rw [harr]; exact hnew)
      exact ⟨key, nofun, nofun, fun hx => hx⟩
    · -- unrepaired: release first; safe only when the smaller array is then obtained
      have hok : Completes cd [.a (8 * (t.aux.length - 1))] := by
        rcases hs with h1 | h1 | h1
        · exact absurd h1 hfirst
        · rw [hi] at h1; cases h1
        · exact h1
      rw [show (runSteps cd [Step.a (8 * (t.aux.length - 1))] []).2.2.2 = true from hok]
      have key := frees_run_inv (t' := { t with aux := t.aux.eraseIdx pre.length, auxArr := true, broken := false })
        h rfl rfl (h.ownX_of hnd rfl rfl rfl (fun _ => rfl) rfl) hok hfree hnew
      exact ⟨key, nofun, nofun, fun hx => hx⟩

theorem convDims_length (dims : List Dim) (dim nk : Nat) : (convDims dims dim nk).length = dims.length := by
  simp [convDims]

/-- `convolve`: C20-5 is in, or the arguments are in range; the table has its `extents`, or the
    arguments are refused before they are read; C20-4 is in, or the replacement arrays are obtained. -/
def ConvSafe (c : Cfg) (cd : Option Nat) (t : Tab) (dim nk : Nat) : Prop :=
  (c.convCheck = true ∨ (dim < t.ndim ∧ nk ≠ 0)) ∧ (t.noExtents = false ∨ t.ndim ≤ dim ∨ nk = 0) ∧
  (c.convGuard = true ∨ Completes cd (convSteps t dim nk))

/-- A complete table with its `extents` owns its coefficients and knot vectors and what `release_storage` returns
    besides them; the latter does not depend on the dimensions' contents. -/
theorem blocks_perm_conv {t : Tab} (hcore : t.core = true) (hne : t.noExtents = false) (dims : List Dim) :
    ({ t with dims := dims } : Tab).blocks.Perm ((4 * ncoef dims :: knotBlocks dims) ++
      ([8 * t.ndim, 8 * t.ndim, 4 * t.ndim, 16 * t.ndim, 8 * t.ndim] ++
        (if t.periods then [8 * t.ndim] else []) ++ [8 * t.ndim, 8 * t.ndim] ++
        auxEntryBlocks t.aux ++ (if t.auxArr then [8 * t.aux.length] else []))) := by
  refine perm_iff_count.mpr fun x => ?_
  simp only [Tab.blocks, hcore, hne, if_true, fixedBlocks, auxBlocks, Bool.false_eq_true, if_false, count_append, count_cons, count_nil]
  omega

theorem convolve_spec (c : Cfg) (t : Tab) (cd : Option Nat) (dim nk : Nat) (h : t.InvX) (hs : ConvSafe c cd t dim nk) :
    Spec t (convolve c t cd dim nk) := by
  obtain ⟨hs1, hs2, hs3⟩ := hs
  unfold convolve
  refine iteInduction (fun hbad => ?_) fun hd => ?_
  · rw [if_pos (hs1.resolve_right (by omega))]
    exact spec_unchanged h nofun
  have hne : t.noExtents = false := by
    rcases hs2 with h1 | h1 | h1
    · exact h1
    · exact absurd (Or.inl h1) hd
    · exact absurd (Or.inr h1) hd
  have hnd : t.ndim ≠ 0 := by omega
  obtain ⟨hcore, hlen⟩ := h.full hnd
  rw [if_neg (by rw [hne]; nofun)]
  -- the old coefficients and knot vectors go, then the program of the new ones runs as far as it gets
  have hrun := ((Good.frees _).perm_left (blocks_perm_conv hcore hne t.dims)).append (Good.run (b := 0) cd (convSteps t dim nk) _)
  refine iteInduction (fun hok => ?_) fun hno => ?_
  · refine ⟨h.apply (t' := { t with dims := convDims t.dims dim nk }) rfl rfl
      (h.ownX_of hnd rfl rfl (convDims_length ..) h.auxArr h.sound) (hrun.perm_right ?_),
      nofun, nofun, id⟩
    rw [kept_of_completes hok, convSteps, net_map_a]
    exact (blocks_perm_conv hcore hne _).symm
  · rw [if_pos (hs3.resolve_right hno)]
    refine ⟨?_, fun _ => Or.inr ?_, nofun, fun hx => hx⟩
    · refine h.apply (t' := { t with ndim := 0, dims := [], core := false, periods := false, auxArr := false, aux := [] })
        rfl rfl ⟨fun _ => ⟨rfl, rfl, rfl, rfl, rfl, hne⟩, fun e => absurd rfl e, fun e => absurd rfl e, h.sound⟩ ?_
      exact hrun.append (Good.frees_all _)
    · exact Tab.isEmpty_iff.mpr ⟨rfl, rfl, rfl, rfl, rfl, rfl, h.sound, hne⟩

theorem ncoef_perm {a b : List Dim} (p : a.Perm b) : ncoef a = ncoef b := (p.map _).prod_nat

/-- `permuteDimensions`: C20-8 is in, or the table is not empty, or the permutation is refused; the
    table has its `extents`, or the permutation is refused before they are read. -/
def PermSafe (c : Cfg) (t : Tab) (p : List Nat) : Prop :=
  (c.permuteEmpty = true ∨ t.ndim ≠ 0 ∨ p.isPerm (List.range t.ndim) = false) ∧
  (t.noExtents = false ∨ p.isPerm (List.range t.ndim) = false)

theorem permute_spec (c : Cfg) (t : Tab) (cd : Option Nat) (p : List Nat) (h : t.InvX) (hs : PermSafe c t p) :
    Spec t (permute c t cd p) := by
  obtain ⟨hs1, hs2⟩ := hs
  unfold permute
  refine iteInduction (fun _ => spec_unchanged h nofun) fun hp => ?_
  have hpb : p.isPerm (List.range t.ndim) = true := by simpa using hp
  have hne : t.noExtents = false := hs2.resolve_right (by rw [hpb]; nofun)
  refine iteInduction (fun h0 => ?_) fun hnd => ?_
  · have : c.permuteEmpty = true := by
      rcases hs1 with h1 | h1 | h1
      · exact h1
      · exact absurd h0 h1
      · rw [hpb] at h1; cases h1
    rw [if_pos this]
    exact spec_unchanged h nofun
  obtain ⟨hcore, hlen⟩ := h.full hnd
  rw [if_neg (by rw [hne]; nofun)]
  have hp : p.Perm (List.range t.ndim) := List.isPerm_iff.mp hpb
  -- the dimensions are rearranged: the same blocks, the same number of coefficients
  have hd : (p.map fun j => t.dims.getD j ⟨0, 0, 0⟩).Perm t.dims := by
    have := hp.map (fun j => t.dims.getD j ⟨0, 0, 0⟩)
    rwa [← hlen, map_getD_range _ _ _ rfl] at this
  refine ⟨{ toOwnX := h.ownX_of hnd rfl rfl ?_ h.auxArr h.sound, ledger := h.ledger.trans ?_, bad := h.bad },
    nofun, nofun, fun _ => hne⟩
  · rw [length_map, hp.length_eq, length_range, hlen]
  · simp only [Tab.blocks, hcore, hne, if_true, fixedBlocks, ncoef_perm hd, Bool.false_eq_true, if_false]
    exact ((Perm.refl _).append (hd.map _).symm).append_right _ |>.append_right _

theorem getKey_spec (t : Tab) (cd : Option Nat) (id : Nat) (h : t.InvX) : Spec t (getKey t cd id) :=
  ⟨h, fun _ => Or.inl rfl, by simp only [getKey]; split <;> nofun, fun hx => hx⟩

theorem writeFits_spec (t : Tab) (cd : Option Nat) (ioOk : Bool) (h : t.InvX) : Spec t (writeFits t cd ioOk) :=
  ⟨h, fun _ => Or.inl rfl, by simp only [writeFits]; split <;> nofun, fun hx => hx⟩

/-- the destructor returns everything, exactly once — also for a table without `extents` -/
theorem destroy_spec {t : Tab} (h : t.InvX) : ((destroy t).1.ledger, (destroy t).1.bad) = ([], 0) := by
  suffices key : (destroy t).1.ledger = [] ∧ (destroy t).1.bad = 0 from Prod.ext key.1 key.2
  unfold destroy
  rw [if_neg (by rw [h.sound]; nofun)]
  refine iteInduction (motive := fun d : Tab × List Ev => d.1.ledger = [] ∧ d.1.bad = 0) (fun h0 => ⟨h.ledger_nil h0, h.bad⟩) fun hnd => ?_
  obtain ⟨hcore, hlen⟩ := h.full hnd
  -- the two `extents` blocks are there or not, in the table and in what the destructor returns alike
  have hext : (if t.noExtents = true then fixedBlocksNoExt t.ndim t.dims else fixedBlocks t.ndim t.dims).Perm
      (extBlocks t.noExtents t.ndim ++ fixedBlocksNoExt t.ndim t.dims) := by
    cases t.noExtents
    · exact (perm_middle (l₁ := [4 * t.ndim, 8 * t.ndim, 8 * t.ndim, 8 * t.ndim])).trans
        ((perm_middle (l₁ := [4 * t.ndim])).cons _)
    · exact Perm.refl _
  have hperm : t.blocks.Perm (knotBlocks t.dims ++ [8 * t.ndim, 8 * t.ndim, 4 * t.ndim] ++ extBlocks t.noExtents t.ndim ++
      (if t.periods then [8 * t.ndim] else []) ++ [4 * ncoef t.dims, 8 * t.ndim, 8 * t.ndim] ++
      auxEntryBlocks t.aux ++ (if t.auxArr then [8 * t.aux.length] else [])) := by
    rw [Tab.blocks, if_pos hcore]
    refine (((hext.append_right _).append_right _).append_right _).trans ?_
    refine perm_iff_count.mpr fun x => ?_
    simp only [fixedBlocksNoExt, auxBlocks, count_append, count_cons, count_nil]
    omega
  obtain ⟨h1, h2⟩ := Tab.apply_good (t := t) (by rw [h.bad]; exact (Good.frees_all _).perm_left (h.ledger.trans hperm))
  exact ⟨perm_nil.mp h2, h1.trans h.bad⟩
