import PsV.Proofs.MixedRadix
import Mathlib.Algebra.BigOperators.Ring.Finset
/-!
# Sums over all positions of a row-major array, one weight per axis

`digitProd ns ws q = Π_k w_k(digit_k q)` is the weight a tensor-product sum puts on position `q` (`compProd` of C09 is
it, `TensorCoef.compProd_eq_digitProd`); the sum over all positions peels off one axis at a time (`sum_digitProd_cons`) and factorises
when nothing else depends on `q` (`sum_digitProd`); the weight itself factorises over leading and trailing axes
(`digitProd_append`).  `sum_range_mul` is the two-digit case for any summand.
-/
namespace PsV.Permute
open Finset

theorem sum_range_mul {M} [AddCommMonoid M] (a b : Nat) (f : Nat → M) :
    ∑ q ∈ Finset.range (a * b), f q = ∑ x ∈ Finset.range a, ∑ y ∈ Finset.range b, f (x * b + y) := by
  induction a with
  | zero => rw [Nat.zero_mul]; rfl
  | succ a ih => rw [Nat.succ_mul, Finset.sum_range_add, ih, Finset.sum_range_succ]

variable {R : Type} [CommSemiring R]

/-- `Π_k w_k(q / stride_k % n_k)`, strides row-major for the axis lengths `ns` (0 when the lists differ in length, as in
`PsV.compProd` and `PsV.basisProd`) -/
def digitProd : List Nat → List (Nat → R) → Nat → R
  | n :: ns, w :: ws, q => w (q / prodL ns % n) * digitProd ns ws q
  | [], [], _ => 1
  | _, _, _ => 0

theorem digitProd_shift (ns : List Nat) (ws : List (Nat → R)) (M i r : Nat) (h : prodL ns ∣ M) :
    digitProd ns ws (M * i + r) = digitProd ns ws r := by
  induction ns generalizing ws with
  | nil => cases ws <;> rfl
  | cons n ns ih =>
    cases ws with
    | nil => rfl
    | cons w ws =>
      rw [prodL, Nat.mul_comm] at h
      rw [digitProd, digitProd, digit_shift _ _ _ _ _ h, ih ws (Nat.dvd_trans (Nat.dvd_mul_right _ _) h)]

theorem digitProd_cons_block (n : Nat) (ns : List Nat) (w : Nat → R) (ws : List (Nat → R)) {i r : Nat} (hi : i < n)
    (hr : r < prodL ns) : digitProd (n :: ns) (w :: ws) (i * prodL ns + r) = w i * digitProd ns ws r := by
  rw [digitProd, Nat.mul_comm i, digitProd_shift ns ws _ _ _ (Nat.dvd_refl _), Nat.mul_add_div (Nat.zero_lt_of_lt hr),
    Nat.div_eq_of_lt hr, Nat.add_zero, Nat.mod_eq_of_lt hi]

theorem digitProd_append (ns' : List Nat) (ws' : List (Nat → R)) {r : Nat} (hr : r < prodL ns') (a : Nat) :
    ∀ (ns : List Nat) (ws : List (Nat → R)), ws.length = ns.length →
      digitProd (ns ++ ns') (ws ++ ws') (a * prodL ns' + r) = digitProd ns ws a * digitProd ns' ws' r
  | [], [], _ => by
    rw [List.nil_append, List.nil_append, Nat.mul_comm, digitProd_shift _ _ _ _ _ (Nat.dvd_refl _), digitProd, one_mul]
  | n :: ns, w :: ws, h => by
    rw [List.cons_append, List.cons_append, digitProd, digitProd, digitProd_append ns' ws' hr a ns ws (Nat.succ.inj h),
      prodL_append, Nat.mul_comm (prodL ns), ← Nat.div_div_eq_div_mul, mul_add_div a hr, mul_assoc]

theorem sum_digitProd_cons (n : Nat) (ns : List Nat) (w : Nat → R) (ws : List (Nat → R)) (c : Nat → R) :
    ∑ q ∈ range (prodL (n :: ns)), digitProd (n :: ns) (w :: ws) q * c q
      = ∑ i ∈ range n, w i * ∑ r ∈ range (prodL ns), digitProd ns ws r * c (i * prodL ns + r) := by
  rw [prodL, sum_range_mul]
  refine sum_congr rfl fun i hi => ?_
  rw [mul_sum]
  refine sum_congr rfl fun r hr => ?_
  rw [digitProd_cons_block n ns w ws (mem_range.1 hi) (mem_range.1 hr), mul_assoc]

/-- `Π_k Σ_{i < n_k} w_k i` -/
def axisSums : List Nat → List (Nat → R) → R
  | n :: ns, w :: ws => (∑ i ∈ range n, w i) * axisSums ns ws
  | [], [] => 1
  | _, _ => 0

theorem sum_digitProd (ns : List Nat) (ws : List (Nat → R)) :
    ∑ q ∈ range (prodL ns), digitProd ns ws q = axisSums ns ws := by
  induction ns generalizing ws with
  | nil => cases ws <;> [exact sum_range_one _; exact sum_const_zero]
  | cons n ns ih =>
    cases ws with
    | nil => exact sum_const_zero
    | cons w ws =>
      have := sum_digitProd_cons n ns w ws fun _ => 1
      simp only [mul_one] at this
      rw [this, axisSums, ← ih ws, sum_mul]

end PsV.Permute
