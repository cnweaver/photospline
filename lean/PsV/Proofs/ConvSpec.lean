import PsV.Spec.Convolve
import PsV.Proofs.BasisTheory
import Mathlib.Algebra.Order.Field.Rat
import Mathlib.Algebra.Polynomial.Derivative
import Mathlib.Algebra.Polynomial.Roots
import Mathlib.Algebra.CharZero.Infinite
import Mathlib.Tactic.FieldSimp
import Mathlib.Tactic.Linarith
/-!
# Soundness of the polynomial calculus used by the exact specification of C14

The coefficient-list operations evaluate as they should (`peval_*`), the pieces `bpiece` evaluate to the shared
Cox–de Boor recursion `Bind` with the indicator of one interval (`peval_bpiece`), and the specification's integral is *the*
integral: `pintegral p lo hi` (difference of the coefficient-list antiderivative) equals `Q(hi) − Q(lo)` for **every**
polynomial `Q` (Mathlib `Polynomial ℚ`) whose derivative evaluates like `p`; hence it depends only on the function
`peval p`, and it can be computed through any antiderivative one can write down.
-/
namespace PsV.ConvSpec
open Polynomial Finset

theorem peval_nil (x : Rat) : peval [] x = 0 := rfl
theorem peval_cons (a : Rat) (p : Poly) (x : Rat) : peval (a :: p) x = a + x * peval p x := rfl

theorem peval_padd : ∀ (p q : Poly) (x : Rat), peval (padd p q) x = peval p x + peval q x
  | [], q, x => by rw [padd, peval_nil, zero_add]
  | a :: p, [], x => by rw [padd, peval_nil, add_zero]; exact List.cons_ne_nil a p
  | a :: p, b :: q, x => by
    simp only [padd, peval_cons, peval_padd p q x]; ring

theorem peval_pscale (c : Rat) : ∀ (p : Poly) (x : Rat), peval (pscale c p) x = c * peval p x
  | [], x => (mul_zero c).symm
  | a :: p, x => by
    have := peval_pscale c p x
    simp only [pscale, List.map_cons, peval_cons] at this ⊢
    rw [this]; ring

theorem peval_pmulLin (a b : Rat) (p : Poly) (x : Rat) :
    peval (pmulLin a b p) x = (a + b * x) * peval p x := by
  unfold pmulLin
  rw [peval_padd, peval_cons, peval_pscale, peval_pscale]; ring

theorem peval_pmul : ∀ (p q : Poly) (x : Rat), peval (pmul p q) x = peval p x * peval q x
  | [], q, x => (zero_mul _).symm
  | a :: p, q, x => by
    simp only [pmul, peval_padd, peval_cons, peval_pscale, peval_pmul p q x]; ring

theorem peval_pcompLin (a b : Rat) : ∀ (p : Poly) (x : Rat), peval (pcompLin p a b) x = peval p (a + b * x)
  | [], x => rfl
  | c :: p, x => by
    have ih := peval_pcompLin a b p x
    unfold pcompLin at ih ⊢
    simp only [List.foldr_cons, peval_padd, peval_pmulLin, peval_cons, peval_nil, ih]; ring

theorem peval_bpiece (t : Int → Rat) (j : Nat) (x : Rat) : ∀ (p i : Nat),
    peval (bpiece (fun n => t (n : Nat)) j p i) x = Bind (indAt (j : Int)) t x p (i : Int)
  | 0, i => by
    rw [Bind_zero, bpiece]
    by_cases h : i = j
    · rw [if_pos h, if_pos ((indAt_iff _ _).mpr (congrArg _ h)), peval_cons, peval_nil, mul_zero, add_zero]
    · rw [if_neg h, if_neg (by rw [indAt_of_ne (by exact_mod_cast h)]; exact Bool.false_ne_true), peval_nil]
  | p + 1, i => by
    rw [Bind_succ, bpiece]
    simp only [peval_padd, peval_pmulLin, peval_bpiece t j x p]
    push_cast
    ring

theorem bpiece_eval_zero (τ : Nat → ℚ) (a : Nat) (s : ℚ) (p j : Nat) (h : a < j ∨ j + p < a) :
    peval (bpiece τ a p j) s = 0 :=
  (peval_bpiece (fun i => τ i.toNat) a s p j).trans
    (Bind_eq_zero _ _ s p j fun m h1 h2 => indAt_of_ne (by omega))

theorem foldl_range_sum {β : Type} (φ : β → Rat) (g : β → Nat → β) (f : Nat → Rat)
    (hg : ∀ acc r, φ (g acc r) = φ acc + f r) :
    ∀ (n : Nat) (acc0 : β), φ ((List.range n).foldl g acc0) = φ acc0 + ∑ r ∈ range n, f r
  | 0, acc0 => by simp
  | n+1, acc0 => by
    rw [List.range_succ, List.foldl_append, List.foldl_cons, List.foldl_nil, hg,
      foldl_range_sum φ g f hg n acc0, sum_range_succ, add_assoc]

theorem derivFrom_antiFrom : ∀ (i : Nat) (p : Poly), derivFrom i (antiFrom i p) = p
  | _, [] => rfl
  | i, c :: p => by
    have h : ((i : Rat) + 1) ≠ 0 := by positivity
    rw [antiFrom, derivFrom, derivFrom_antiFrom (i+1) p, mul_div_cancel₀ c h]

/-- the coefficient list as a Mathlib polynomial -/
noncomputable def toPoly : Poly → ℚ[X]
  | [] => 0
  | a :: p => C a + X * toPoly p

theorem eval_toPoly : ∀ (p : Poly) (x : ℚ), (toPoly p).eval x = peval p x
  | [], x => eval_zero
  | a :: p, x => by rw [toPoly, eval_add, eval_C, eval_mul, eval_X, eval_toPoly p x, peval_cons]

/-- the specification's `derivFrom` is Mathlib's derivative -/
theorem toPoly_derivFrom : ∀ (p : Poly) (i : Nat),
    X^i * toPoly (derivFrom i p) = derivative (X^(i+1) * toPoly p)
  | [], i => by simp [derivFrom, toPoly]
  | c :: p, i => by
    rw [derivFrom, toPoly, toPoly,
      show (X : ℚ[X])^(i+1) * (C c + X * toPoly p) = C c * X^(i+1) + X^(i+1+1) * toPoly p by ring,
      derivative_add, ← toPoly_derivFrom p (i+1), derivative_C_mul, derivative_X_pow, Nat.add_sub_cancel, C_mul,
      C_add, C_1, Nat.cast_succ, C_add, C_1, map_natCast]
    ring

theorem deriv_antiFrom (p : Poly) (i : Nat) :
    derivative (X^(i+1) * toPoly (antiFrom i p)) = X^i * toPoly p := by
  rw [← toPoly_derivFrom, derivFrom_antiFrom]

theorem deriv_pantideriv (p : Poly) : derivative (toPoly (pantideriv p)) = toPoly p := by
  have := deriv_antiFrom p 0
  simp only [zero_add, pow_one, pow_zero, one_mul] at this
  unfold pantideriv
  simp only [toPoly, map_zero, zero_add]
  exact this

theorem eval_sub_eq_of_deriv (P Q : ℚ[X]) (h : ∀ t, (derivative P).eval t = (derivative Q).eval t) (a b : ℚ) :
    P.eval b - P.eval a = Q.eval b - Q.eval a := by
  have hz : derivative (P - Q) = 0 := by
    rw [derivative_sub, sub_eq_zero]
    exact Polynomial.funext h
  obtain ⟨k, hk⟩ := natDegree_eq_zero.mp (Polynomial.derivative_eq_zero.mp hz)
  have e : ∀ t, P.eval t - Q.eval t = k := fun t => by rw [← eval_sub, ← hk, eval_C]
  linarith [e a, e b]

theorem pintegral_eq_of_deriv (p : Poly) (Q : ℚ[X]) (h : ∀ t, (derivative Q).eval t = peval p t) (lo hi : ℚ) :
    pintegral p lo hi = Q.eval hi - Q.eval lo := by
  rw [eval_sub_eq_of_deriv Q (toPoly (pantideriv p)) (fun t => by rw [h t, deriv_pantideriv, eval_toPoly]) lo hi,
    eval_toPoly, eval_toPoly]
  rfl

theorem pintegral_congr (p p' : Poly) (h : ∀ t, peval p t = peval p' t) (lo hi : ℚ) :
    pintegral p lo hi = pintegral p' lo hi := by
  rw [pintegral_eq_of_deriv p (toPoly (pantideriv p')) (fun t => by
    rw [deriv_pantideriv, eval_toPoly, h t]) lo hi]
  simp only [eval_toPoly]
  rfl

theorem pintegral_eq_sum {ι : Type} (s : Finset ι) (P : Poly) (k : ι → ℚ) (G : ι → ℚ[X])
    (h : ∀ t, peval P t = ∑ i ∈ s, k i * (derivative (G i)).eval t) (lo hi : ℚ) :
    pintegral P lo hi = ∑ i ∈ s, k i * ((G i).eval hi - (G i).eval lo) := by
  rw [pintegral_eq_of_deriv P (∑ i ∈ s, C (k i) * G i)]
  · simp only [eval_finsetSum, eval_mul, eval_C, mul_sub, sum_sub_distrib]
  · intro t
    simp only [h t, derivative_sum, eval_finsetSum, derivative_C_mul, eval_C_mul]

end PsV.ConvSpec
