import PsV.Proofs.ConvStrom
/-!
# Strøm's identity for the whole table

`convolve_is_convolution`: the table returned by `convolve`, evaluated through the shared Cox–de Boor specification,
is the specification's convolution integral of the original table.

The one-dimensional identity holds for every slice along `dim` (`convolve_slices_spec`) and the integral is linear in
the coefficients, so what is left is to walk down the two row lists of the specification's `contract` side by side
(`contract_lift`): the new table's rows and the old table's rows carry the same basis values off `dim` and differ only
in strides, so with row-major strides the two positions reached after the same choices are `A·(size of the rest)` for
one and the same `A`; at `dim` the new side sums over its row, the old side substitutes the slice index; below `dim`
both sides add the same offset `K` (`contract_lift_post`), and at the leaves stands the identity of slice `(A, K)`.
-/
namespace PsV
open Finset ConvSpec Permute

theorem foldl_zipIdx_sum (g : Nat → Rat) : ∀ (vs : List Rat) (k : Nat) (a : Rat),
    (vs.zipIdx k).foldl (fun acc (p : Rat × Nat) => if p.1 = 0 then acc else acc + p.1 * g p.2) a =
      a + ∑ i ∈ range vs.length, vs.getD i 0 * g (k + i)
  | [], k, a => by rw [List.length_nil, sum_range_zero, add_zero]; rfl
  | v :: vs, k, a => by
    rw [List.zipIdx_cons, List.foldl_cons, foldl_zipIdx_sum g vs (k+1), List.length_cons, Finset.sum_range_succ']
    have e : ∀ i, (v :: vs).getD (i+1) 0 * g (k + (i+1)) = vs.getD i 0 * g (k + 1 + i) := by
      intro i
      rw [List.getD_cons_succ]
      congr 2
      omega
    simp only [e, List.getD_cons_zero, Nat.add_zero]
    by_cases hv : v = 0
    · rw [if_pos hv, hv, zero_mul, add_zero]
    · rw [if_neg hv, add_assoc, add_comm (v * g k)]

theorem contract_some (coef : Nat → Rat) (s : Nat) (vs : List Rat) (rest : List (Nat × Option (List Rat))) (l pos : Nat) :
    contract coef ((s, some vs) :: rest) l pos =
      ∑ i ∈ range vs.length, vs.getD i 0 * contract coef rest l (pos + i * s) := by
  rw [contract]
  have h := foldl_zipIdx_sum (fun i => contract coef rest l (pos + i * s)) vs 0 0
  simp only [zero_add] at h
  exact h

theorem contract_none (coef : Nat → Rat) (s : Nat) (rest : List (Nat × Option (List Rat))) (l pos : Nat) :
    contract coef ((s, none) :: rest) l pos = contract coef rest l (pos + l * s) := by
  rw [contract]

theorem contract_nil (coef : Nat → Rat) (l pos : Nat) : contract coef [] l pos = coef pos := by
  rw [contract]

/-- basis values of one dimension at its coordinate -/
def vsOf (p : CDim Rat × Rat) : List Rat := (List.range p.1.naxes).map (Bsel (toDim p.1) p.2 0)
/-- the `some` row of one dimension -/
def rowS (p : CDim Rat × Rat) : Nat × Option (List Rat) := (p.1.stride, some (vsOf p))
theorem vsOf_length (p : CDim Rat × Rat) : (vsOf p).length = p.1.naxes := by
  rw [vsOf, List.length_map, List.length_range]

theorem vsOf_getD (p : CDim Rat × Rat) (l : Nat) (h : l < p.1.naxes) :
    (vsOf p).getD l 0 = Bsel (toDim p.1) p.2 0 l :=
  getD_map_range_of_lt _ h 0

theorem evalTable_eq (R : CTable Rat) (xs : List Rat) :
    evalTable R xs = contract (fun p => R.coef.getD p 0) ((R.dims.zip xs).map rowS) 0 0 := by
  unfold evalTable
  have : (fun (p : CDim Rat × Rat) => match p with
      | (d, x) => (d.stride, some ((List.range d.naxes).map (Bsel (toDim d) x 0)))) = rowS := by
    funext ⟨d, x⟩; rfl
  rw [this]

theorem vsOf_congr (e e' : CDim Rat) (x : Rat) (h1 : e'.order = e.order) (h2 : e'.naxes = e.naxes)
    (h3 : e'.knots = e.knots) : vsOf (e', x) = vsOf (e, x) := by
  cases e; cases e'
  simp only at h1 h2 h3
  subst h1 h2 h3
  rfl

theorem contract_rowS (coef : Nat → Rat) (p : CDim Rat × Rat) (rest : List (Nat × Option (List Rat))) (l pos : Nat) :
    contract coef (rowS p :: rest) l pos =
      ∑ i ∈ range p.1.naxes, (vsOf p).getD i 0 * contract coef rest l (pos + i * p.1.stride) := by
  rw [rowS, contract_some, vsOf_length]

theorem sum_contract_rowS (coef : Nat → Rat) (p : CDim Rat × Rat) (rest : List (Nat × Option (List Rat))) (a : Nat)
    (w : Nat → Rat) (lam q : Nat → Nat) :
    ∑ l ∈ range a, w l * contract coef (rowS p :: rest) (lam l) (q l) =
      ∑ i ∈ range p.1.naxes, (vsOf p).getD i 0 *
        ∑ l ∈ range a, w l * contract coef rest (lam l) (q l + i * p.1.stride) := by
  simp only [contract_rowS, mul_sum]
  rw [sum_comm]
  exact sum_congr rfl fun i _ => sum_congr rfl fun l _ => mul_left_comm _ _ _

theorem rowsFor_zero (e : CDim Rat) (es : List (CDim Rat)) (x : Rat) (xs : List Rat) :
    rowsFor (e :: es) 0 (x :: xs) = (e.stride, none) :: (es.zip xs).map rowS := by
  unfold rowsFor
  rw [List.zip_cons_cons, List.zipIdx_cons, List.map_cons]
  congr 1
  apply map_zipIdx_const
  rintro ⟨e', y⟩ i h1 _
  show (if i = 0 then _ else _) = _
  rw [if_neg (by omega)]; rfl

theorem rowsFor_succ (e : CDim Rat) (es : List (CDim Rat)) (x : Rat) (xs : List Rat) (m : Nat) :
    rowsFor (e :: es) (m+1) (x :: xs) = rowS (e, x) :: rowsFor es m xs := by
  unfold rowsFor
  rw [List.zip_cons_cons, List.zipIdx_cons, List.map_cons, Nat.zero_add, List.zipIdx_succ, List.map_map]
  congr 1
  apply List.map_congr_left
  rintro ⟨⟨e', y⟩, i⟩ _
  show (if i + 1 = m + 1 then _ else _) = (if i = m then _ else _)
  simp only [Nat.add_right_cancel_iff]

/-- `es'` is `es` up to strides (and extents) -/
@[reducible] def SameBasis (es es' : List (CDim Rat)) : Prop :=
  ∀ (j : Nat) (e : CDim Rat), es[j]? = some e →
    ∃ e' : CDim Rat, es'[j]? = some e' ∧ e'.order = e.order ∧ e'.naxes = e.naxes ∧ e'.knots = e.knots

theorem SameBasis.map_naxes {es es' : List (CDim Rat)} (h : SameBasis es es') (hl : es'.length = es.length) :
    es'.map (·.naxes) = es.map (·.naxes) := by
  apply List.ext_getElem?
  intro j
  rw [List.getElem?_map, List.getElem?_map]
  rcases hj : es[j]? with _ | e
  · rw [List.getElem?_eq_none (by have := List.getElem?_eq_none_iff.mp hj; omega)]
  · obtain ⟨e', he', -, hn, -⟩ := h j e hj
    rw [he']
    exact congrArg some hn

/-- below `dim`: the same rows on both sides; what holds of the coefficients at every offset `K < S` holds of the
contractions. `Bo` is the offset chosen so far, in units of the size of the remaining rows. -/
theorem contract_lift_post (cR cT : Nat → Rat) (nNew nOld S : Nat) (Bv Kf : Nat → Rat) (φ ψ : Nat → Nat)
    (hleaf : ∀ K, K < S → ∑ l ∈ range nNew, Bv l * cR (φ l + K) = ∑ j ∈ range nOld, Kf j * cT (ψ j + K)) :
    ∀ (es es' : List (CDim Rat)) (xs : List Rat) (L Bo : Nat), es'.length = es.length → xs.length = es.length →
      SameBasis es es' → RowMajorIdx es → RowMajorIdx es' → L * (es.map (·.naxes)).prod = S → Bo < L →
      ∑ l ∈ range nNew, Bv l * contract cR ((es'.zip xs).map rowS) 0 (φ l + Bo * (es.map (·.naxes)).prod) =
        ∑ j ∈ range nOld, Kf j * contract cT ((es.zip xs).map rowS) j (ψ j + Bo * (es.map (·.naxes)).prod)
  | [], [], xs, L, Bo, _, _, _, _, _, hL, hB => by
    simp only [List.zip_nil_left, List.map_nil, contract_nil, List.prod_nil, Nat.mul_one] at hL ⊢
    exact hleaf Bo (hL ▸ hB)
  | [], _ :: _, _, _, _, hl, _, _, _, _, _, _ => absurd hl (Nat.succ_ne_zero _)
  | _ :: _, [], _, _, _, hl, _, _, _, _, _, _ => absurd hl.symm (Nat.succ_ne_zero _)
  | _ :: _, _ :: _, [], _, _, _, hx, _, _, _, _, _ => absurd hx.symm (Nat.succ_ne_zero _)
  | e :: es, e' :: es', x :: xs, L, Bo, hl, hx, hsame, hstr, hstr', hL, hB => by
    obtain ⟨e0, he0, ho, hn, hkn⟩ := hsame 0 e rfl
    obtain rfl : e' = e0 := Option.some.inj he0
    have hsame' : SameBasis es es' := fun j e he => hsame (j+1) e he
    have hs' : e'.stride = (es.map (·.naxes)).prod :=
      hstr'.head.trans (congrArg List.prod (hsame'.map_naxes (Nat.succ.inj hl)))
    have hpos : ∀ (b i : Nat), b + Bo * (e.naxes * (es.map (·.naxes)).prod) + i * (es.map (·.naxes)).prod =
        b + (Bo * e.naxes + i) * (es.map (·.naxes)).prod := fun b i => by ring
    simp only [List.zip_cons_cons, List.map_cons, List.prod_cons]
    rw [sum_contract_rowS, sum_contract_rowS]
    dsimp only
    rw [hn, vsOf_congr e e' x ho hn hkn, hs', hstr.head]
    refine sum_congr rfl fun i hi => congrArg _ ?_
    simp only [hpos]
    exact contract_lift_post cR cT nNew nOld S Bv Kf φ ψ hleaf es es' xs (L * e.naxes) (Bo * e.naxes + i)
      (Nat.succ.inj hl) (Nat.succ.inj hx) hsame' hstr.tail hstr'.tail
      (by rw [← hL, List.map_cons, List.prod_cons, Nat.mul_assoc]) (mul_add_lt hB (mem_range.mp hi))

/-- **the slice identities lift to the contractions**: `ds'` is `ds` off `m` up to strides, both row-major; if for
every slice `(I, K)` along `m` the new coefficients against `Bv` are the combination `Kf` of the old ones, the
contraction of the new table is the combination `Kf` of the old table's contractions with the index of `m` left open.
`A` is the position chosen so far, in units of the size of the remaining rows, on either side. -/
theorem contract_lift (cR cT : Nat → Rat) (nNew nOld S : Nat) (Bv Kf : Nat → Rat) :
    ∀ (m : Nat) (ds ds' : List (CDim Rat)) (xs : List Rat) (d d' : CDim Rat) (L A : Nat),
      ds'.length = ds.length → xs.length = ds.length → ds[m]? = some d → ds'[m]? = some d' →
      d.naxes = nOld → d'.naxes = nNew → ((ds.map (·.naxes)).drop (m+1)).prod = S →
      (∀ l, (vsOf (d', xs.getD m 0)).getD l 0 = Bv l) →
      (∀ j e, j ≠ m → ds[j]? = some e →
        ∃ e', ds'[j]? = some e' ∧ e'.order = e.order ∧ e'.naxes = e.naxes ∧ e'.knots = e.knots) →
      RowMajorIdx ds → RowMajorIdx ds' →
      (∀ I K, I < L * ((ds.map (·.naxes)).take m).prod → K < S →
        ∑ l ∈ range nNew, Bv l * cR ((I * nNew + l) * S + K) = ∑ j ∈ range nOld, Kf j * cT ((I * nOld + j) * S + K)) →
      A < L →
      contract cR ((ds'.zip xs).map rowS) 0 (A * (ds'.map (·.naxes)).prod) =
        ∑ j ∈ range nOld, Kf j * contract cT (rowsFor ds m xs) j (A * (ds.map (·.naxes)).prod)
  | _, [], _, _, _, _, _, _, _, _, hd, _, _, _, _, _, _, _, _, _, _ => nomatch hd
  | _, _ :: _, [], _, _, _, _, _, hl, _, _, _, _, _, _, _, _, _, _, _, _ => absurd hl.symm (Nat.succ_ne_zero _)
  | _, _ :: _, _ :: _, [], _, _, _, _, _, hx, _, _, _, _, _, _, _, _, _, _, _ => absurd hx.symm (Nat.succ_ne_zero _)
  | 0, d0 :: post, d0' :: post', x :: xs, d, d', L, A, hl, hx, hd, hd', hnO, hnN, hS, hBv, hsame, hstr, hstr',
      hslice, hA => by
    obtain rfl : d0 = d := Option.some.inj hd
    obtain rfl : d0' = d' := Option.some.inj hd'
    have hsame' : SameBasis post post' := fun j e he => hsame (j+1) e (Nat.succ_ne_zero j) he
    have hS0 : (post.map (·.naxes)).prod = S := hS
    have hS0' : (post'.map (·.naxes)).prod = S := (congrArg List.prod (hsame'.map_naxes (Nat.succ.inj hl))).trans hS0
    -- the new side sums over its row at `dim`, the old side puts the slice index there; below, slice `(A, K)`
    have h := contract_lift_post cR cT nNew nOld S Bv Kf (fun l => (A * nNew + l) * S) (fun j => (A * nOld + j) * S)
      (fun K hK => hslice A K (by rw [List.take_zero, List.prod_nil, Nat.mul_one]; exact hA) hK)
      post post' xs 1 0 (Nat.succ.inj hl) (Nat.succ.inj hx) hsame' hstr.tail hstr'.tail
      (by rw [Nat.one_mul]; exact hS0) Nat.one_pos
    simp only [Nat.zero_mul, Nat.add_zero] at h
    have e1 : ∀ n l, A * (n * S) + l * S = (A * n + l) * S := fun n l => by ring
    simp only [List.zip_cons_cons, List.map_cons, List.prod_cons, rowsFor_zero, contract_none]
    rw [contract_rowS]
    dsimp only
    rw [hnN, hnO, hstr'.head, hstr.head, hS0, hS0']
    simp only [e1, show ∀ l, (vsOf (d0', x)).getD l 0 = Bv l from hBv]
    exact h
  | m+1, e :: es, e' :: es', x :: xs, d, d', L, A, hl, hx, hd, hd', hnO, hnN, hS, hBv, hsame, hstr, hstr',
      hslice, hA => by
    obtain ⟨e0, he0, ho, hn, hkn⟩ := hsame 0 e (Nat.succ_ne_zero m).symm rfl
    obtain rfl : e' = e0 := Option.some.inj he0
    have hpos : ∀ (f : CDim Rat) (fs : List (CDim Rat)) (i : Nat), A * ((f :: fs).map (·.naxes)).prod
        + i * (fs.map (·.naxes)).prod = (A * f.naxes + i) * (fs.map (·.naxes)).prod := fun f fs i => by
      rw [List.map_cons, List.prod_cons]; ring
    -- one `some` row on either side, with the same values; the positions stay `A'·(size of the rest)`, `A' = A·n + i`
    rw [List.zip_cons_cons, List.map_cons, contract_rowS, rowsFor_succ, sum_contract_rowS]
    dsimp only
    rw [hstr'.head, hstr.head, hn, vsOf_congr e e' x ho hn hkn]
    refine sum_congr rfl fun i hi => congrArg _ ?_
    rw [hpos e' es' i, hpos e es i, hn]
    exact contract_lift cR cT nNew nOld S Bv Kf m es es' xs d d' (L * e.naxes) (A * e.naxes + i) (Nat.succ.inj hl)
      (Nat.succ.inj hx) hd hd' hnO hnN hS hBv (fun j f hj hf => hsame (j+1) f (fun h => hj (Nat.succ.inj h)) hf)
      hstr.tail hstr'.tail
      (fun I K hI hK => hslice I K (by
        rw [List.map_cons, List.take_succ_cons, List.prod_cons, ← Nat.mul_assoc]; exact hI) hK)
      (mul_add_lt hA (mem_range.mp hi))

theorem convolve_is_convolution (T : CTable Rat) (dim : Nat) (ck : List Rat) (d : CDim Rat) (xs : List Rat)
    (hd : T.dims[dim]? = some d)
    (hstr : ∀ j e, T.dims[j]? = some e → e.stride = ((T.dims.map (·.naxes)).drop (j+1)).prod)
    (hxs : xs.length = T.dims.length)
    (hk : d.knots.length = d.nknots) (hnax : d.naxes + d.order + 1 = d.nknots) (hn1 : 1 ≤ d.naxes)
    (hτ : d.knots.Pairwise (· < ·)) (hy : ck.Pairwise (· < ·)) (hq : 2 ≤ ck.length)
    (h12 : d.order + ck.length - 1 ≤ 12) :
    ∃ R d', convolve T dim ck = some R ∧ R.dims[dim]? = some d' ∧
      (getK d'.knots 0 ≤ xs.getD dim 0 → xs.getD dim 0 ≤ getK d'.knots (d'.nknots - 1) →
        ConvSpec.evalTable R xs = ConvSpec.specConv T dim ck xs) := by
  obtain ⟨q', hq'⟩ : ∃ q', ck.length - 1 = q' + 1 := ⟨ck.length - 2, by omega⟩
  have hKf := conv1_eq_sum_kernel (getK d.knots) d.nknots d.order d.naxes (getK ck) q' (xs.getD dim 0) hnax
    (hτ.strictBelow.mono (by omega)) (hy.strictBelow.mono (by omega))
  rw [← hq'] at hKf
  generalize convKernel (getK d.knots) d.nknots d.order d.naxes (getK ck) (ck.length - 1) (xs.getD dim 0) = Kf at hKf
  obtain ⟨R, d', hR, hd', -, -, -, -, -, hslice⟩ :=
    convolve_slices_spec T dim ck d hd hk hnax hn1 hτ hy hq h12
  obtain ⟨hRlen, hother, hstrR, -⟩ := convolve_result T dim ck d R hd hk hR
  refine ⟨R, d', hR, hd', fun hx1 hx2 => ?_⟩
  have h := contract_lift (fun p => R.coef.getD p 0) (fun p => T.coef.getD p 0) d'.naxes d.naxes
    ((T.dims.map (·.naxes)).drop (dim+1)).prod (fun l => (vsOf (d', xs.getD dim 0)).getD l 0) Kf dim T.dims R.dims xs d d'
    1 0 hRlen hxs hd hd' rfl rfl rfl (fun _ => rfl)
    (fun j e hj he => by
      obtain ⟨e', he', h1, -, h2, h3, -, -⟩ := hother j e hj he
      exact ⟨e', he', h1, h2, h3⟩)
    hstr hstrR
    (fun I K hI hK => by
      rw [Nat.one_mul, ← prodL_eq] at hI
      rw [← prodL_eq] at hK ⊢
      have := hslice I K hI hK (xs.getD dim 0) hx1 hx2
      rw [hKf] at this
      refine (sum_congr rfl fun l hl => ?_).trans (this.trans (sum_congr rfl fun j _ => ?_))
      · rw [vsOf_getD (d', xs.getD dim 0) l (mem_range.mp hl), mul_comm]
        congr 3; ring
      · rw [mul_comm]
        congr 3; ring)
    Nat.one_pos
  rw [Nat.zero_mul, Nat.zero_mul] at h
  rw [evalTable_eq, h]
  unfold specConv
  simp only [hd]
  refine Eq.trans ?_ (hKf _).symm
  exact sum_congr rfl fun j hj => by rw [rd_tab _ _ j (mem_range.mp hj), mul_comm]

end PsV
