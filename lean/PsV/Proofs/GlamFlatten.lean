import PsV.Model.GlamFlatten
import PsV.Proofs.GlamIdx
import PsV.Proofs.GlamNdFlat
/-!
# C09: the `long` / `unsigned` / `size_t` index arithmetic of `flatten_ndarray_to_sparse`

Below `Π ranges < 2⁶³` (and every range an `unsigned int`, every index inside its range) no conversion of
`flattenC` (Model/GlamFlatten.lean, `long moduli[]`) changes a value: the flattened position is the
mixed-radix number `glamRowMajor ranges idx` of the natural-number model, and row / column are its quotient and
remainder by `ncol`.
-/
namespace PsV

theorem toU64_nat (n : Nat) (h : n < 18446744073709551616) : toU64 (n : Int) = n := by
  unfold toU64; omega

theorem natProd_pos_of_idxIn (rs is : List Nat) (h : IdxIn is rs) : 0 < natProd rs :=
  Nat.lt_of_le_of_lt (Nat.zero_le _) (glamRowMajor_lt rs is h)

/-- `moduli[i]` is the exact product of the following ranges: each range fits its type `unsigned` (`h32`, below 2³²) and the
product fits `long` (`hb`, below 2⁶³), so neither conversion of `modStep .long` changes a value -/
theorem sufProdT_long (rs : List Nat) (hpos : ∀ r ∈ rs, 0 < r) (h32 : ∀ r ∈ rs, r < 4294967296)
    (hb : natProd rs < 9223372036854775808) : sufProdT .long rs = (natProd rs : Int) := by
  induction rs with
  | nil => rfl
  | cons r rs ih =>
    have hr := hpos r (by simp)
    have hle : natProd rs ≤ r * natProd rs := Nat.le_mul_of_pos_left _ hr
    simp only [natProd] at hb
    simp only [sufProdT, modStep, natProd]
    rw [ih (fun a ha => hpos a (by simp [ha])) (fun a ha => h32 a (by simp [ha])) (by omega),
      toU32_nat r (h32 r (by simp)), ← Int.natCast_mul, toI64_nat _ (by rw [Nat.mul_comm]; exact hb),
      Nat.mul_comm]

theorem idxIn_pos (rs is : List Nat) (h : IdxIn is rs) : ∀ r ∈ rs, 0 < r := by
  induction rs generalizing is with
  | nil => intro r hr; simp at hr
  | cons a rs ih =>
    cases is with
    | nil => exact absurd h.1 (by simp)
    | cons i is =>
      rw [idxIn_cons] at h
      intro r hr
      rcases List.mem_cons.1 hr with rfl | hr
      · omega
      · exact ih is h.2 r hr

/-- loop invariant of `k += i[j]*moduli[j]` -/
theorem accKT_long (rs : List Nat) : ∀ (is : List Nat) (k : Nat), IdxIn is rs →
    (∀ r ∈ rs, r < 4294967296) → k + natProd rs < 9223372036854775808 →
    accKT .long is (moduliT .long rs) (k : Int) = ((k + glamRowMajor rs is : Nat) : Int) := by
  induction rs with
  | nil =>
    intro is k h _ _
    rw [idxIn_nil_right] at h
    subst h
    simp [accKT, glamRowMajor]
  | cons r rs ih =>
    intro is k h h32 hb
    cases is with
    | nil => exact absurd h.1 (by simp)
    | cons i is =>
      rw [idxIn_cons] at h
      obtain ⟨hi, his⟩ := h
      have hP := natProd_pos_of_idxIn rs is his
      simp only [natProd] at hb
      have h1 : i * natProd rs + natProd rs ≤ r * natProd rs := by
        rw [← Nat.succ_mul]; exact Nat.mul_le_mul_right _ hi
      have hr32 := h32 r (by simp)
      simp only [moduliT, accKT, termT, glamRowMajor]
      rw [sufProdT_long rs (idxIn_pos rs is his) (fun a ha => h32 a (by simp [ha])) (by omega),
        toU32_nat i (by omega), ← Int.natCast_mul, toI64_nat _ (by omega), ← Int.natCast_add,
        toI64_nat _ (by omega),
        ih is (k + i * natProd rs) his (fun a ha => h32 a (by simp [ha])) (by omega), Nat.add_assoc]

theorem flattenKT_long (ranges idx : List Nat) (hv : IdxIn idx ranges) (h32 : ∀ r ∈ ranges, r < 4294967296)
    (hb : natProd ranges < 9223372036854775808) :
    flattenKT .long ranges idx = (glamRowMajor ranges idx : Int) := by
  have := accKT_long ranges idx 0 hv h32 (by omega)
  simpa [flattenKT] using this

theorem flattenC_eq_nat (ranges idx : List Nat) (ncol : Nat) (hv : IdxIn idx ranges)
    (h32 : ∀ r ∈ ranges, r < 4294967296) (hb : natProd ranges < 9223372036854775808)
    (hn0 : 0 < ncol) (hn : ncol < 18446744073709551616) :
    flattenC ranges idx ncol
      = .ok (((glamRowMajor ranges idx / ncol : Nat) : Int), ((glamRowMajor ranges idx % ncol : Nat) : Int)) := by
  have hk := glamRowMajor_lt ranges idx hv
  have hd : glamRowMajor ranges idx / ncol ≤ glamRowMajor ranges idx := Nat.div_le_self _ _
  have hm : glamRowMajor ranges idx % ncol ≤ glamRowMajor ranges idx := Nat.mod_le _ _
  unfold flattenC flattenCT
  simp only [flattenKT_long ranges idx hv h32 hb]
  rw [toU64_nat (glamRowMajor ranges idx) (by omega), toU64_nat ncol hn]
  have hne : ¬ ((ncol : Int) = 0) := by omega
  rw [if_neg hne, ← Int.natCast_ediv, ← Int.natCast_emod, toI64_nat _ (by omega), toI64_nat _ (by omega)]

theorem idxIn_append (as bs A B : List Nat) (ha : IdxIn as A) (hb : IdxIn bs B) : IdxIn (as ++ bs) (A ++ B) :=
  Permute.inBox_append ha hb

theorem flatPositionsC_eq {α : Type} (ranges : List Nat) (ncol : Nat) (es : List (List Nat × α))
    (hv : ∀ e ∈ es, IdxIn e.1 ranges) (h32 : ∀ r ∈ ranges, r < 4294967296)
    (hb : natProd ranges < 9223372036854775808) (hn0 : 0 < ncol) (hn : ncol < 18446744073709551616) :
    flatPositionsC ranges ncol es
      = .ok (es.map fun e => ((glamRowMajor ranges e.1 / ncol) * ncol + glamRowMajor ranges e.1 % ncol, e.2)) := by
  induction es with
  | nil => rfl
  | cons e es ih =>
    simp only [flatPositionsC, List.map_cons]
    rw [flattenC_eq_nat ranges e.1 ncol (hv e (by simp)) h32 hb hn0 hn, ih (fun x hx => hv x (by simp [hx]))]
    simp only [Int.toNat_natCast]

end PsV
