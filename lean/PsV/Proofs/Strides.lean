import PsV.Model.Eval
import PsV.Proofs.ListBasics
import PsV.Proofs.MixedRadix
/-!
# Valid index tuples and row-major strides of a dimension list

`IdxIn` is `MixedRadix`'s `InBox` under the name the GLAM files use; `StridesRowMajor dims` says that the strides of the
dimensions are `rowMajor` of their lengths (`eq_rowMajor`), the hypothesis under which positions and index tuples of
coefficients are `flat` and `digits`.
-/
namespace PsV
open PsV.Permute

/-- `idx` is a valid index tuple for `ranges`: same length, every entry below its range -/
def IdxIn (idx ranges : List Nat) : Prop :=
  idx.length = ranges.length ∧ ∀ k, k < ranges.length → idx.getD k 0 < ranges.getD k 0

theorem idxIn_cons (j a : Nat) (js as : List Nat) :
    IdxIn (j :: js) (a :: as) ↔ j < a ∧ IdxIn js as := inBox_cons

theorem idxIn_nil_right (idx : List Nat) : IdxIn idx [] ↔ idx = [] := by
  unfold IdxIn; simp

theorem IdxIn.set {idx ranges : List Nat} (h : IdxIn idx ranges) (k v n : Nat) (hv : v < n) :
    IdxIn (idx.set k v) (ranges.set k n) := by
  obtain ⟨hl, hb⟩ := h
  refine ⟨by simp [hl], ?_⟩
  intro p hp
  simp only [List.length_set] at hp
  rw [getD_set, getD_set, hl]
  by_cases h : k = p ∧ k < ranges.length
  · rw [if_pos h, if_pos h]; exact hv
  · rw [if_neg h, if_neg h]; exact hb p hp

section
variable {α : Type}

/-- strides of a C-ordered array: last stride 1, `stride_d = stride_{d+1} · naxes_{d+1}` -/
def StridesRowMajor : List (Dim α) → Prop
  | [] => True
  | [d] => d.stride = 1
  | d :: d' :: ds => d.stride = d'.stride * d'.naxes ∧ StridesRowMajor (d' :: ds)

theorem StridesRowMajor.tail {d : Dim α} {ds : List (Dim α)} (h : StridesRowMajor (d :: ds)) :
    StridesRowMajor ds := by
  cases ds with
  | nil => trivial
  | cons d' ds' => exact h.2

theorem StridesRowMajor.suffix : ∀ (pre : List (Dim α)) {ds : List (Dim α)}, StridesRowMajor (pre ++ ds) →
    StridesRowMajor ds
  | [], _, h => h
  | _ :: pre, _, h => StridesRowMajor.suffix pre h.tail

theorem StridesRowMajor.eq_rowMajor {dims : List (Dim α)} (hs : StridesRowMajor dims) :
    dims.map (·.stride) = rowMajor (dims.map (·.naxes)) := by
  induction dims with
  | nil => rfl
  | cons d ds ih =>
    have ih' := ih hs.tail
    cases ds with
    | nil => simp only [List.map_cons, List.map_nil, rowMajor, prodL, show d.stride = 1 from hs]
    | cons d' ds' =>
      simp only [List.map_cons, rowMajor, List.cons.injEq] at ih' ⊢
      exact ⟨by rw [hs.1, ih'.1, prodL, Nat.mul_comm], ih'⟩

theorem StridesRowMajor.stride_head {d : Dim α} {ds : List (Dim α)} (hs : StridesRowMajor (d :: ds)) :
    d.stride = prodL (ds.map (·.naxes)) := (List.cons.inj hs.eq_rowMajor).1

end

end PsV
