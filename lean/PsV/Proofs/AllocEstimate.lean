import PsV.Model.Alloc
/-!
# C19 - table shapes and `estimateMemory`

Core Lean only; independent of the event sequences.  For `n ≥ 1` the shape `estimateMemory` computes is the one
`convolve` installs; under the pointwise order `DimsLe` knot bytes and coefficient count grow, and convolving only
enlarges a consistent shape (`naxesAdj_mono` is the one inequality behind that and behind the monotonicity of
`estimateMemory`, `estimate_mono`); `estimateMemory` in closed form between its two rounding bounds; what the reader's
validation says about a shape.
-/
namespace PsV.C19
open PsV.Generated.C19

/-- bytes of the knot vectors (with their `2·order` padding) of a shape -/
def knotBytes (ds : List Dim) : Nat := (ds.map fun d => (d.nknots + 2 * d.order) * 8).sum

theorem length_adjustAt (f : Dim → Dim) (c : Nat) (ds : List Dim) : (adjustAt f c ds).length = ds.length := by
  induction ds generalizing c with
  | nil => cases c <;> rfl
  | cons d ds ih => cases c <;> simp only [adjustAt, List.length_cons, ih]

theorem convDims_length (p : Params) : (convDims p).length = p.dims.length := length_adjustAt _ _ _

theorem sumKnotTerms_eq (ds : List Dim) : sumKnotTerms ds = knotBytes ds := by
  induction ds with
  | nil => rfl
  | cons d ds ih =>
    simp only [sumKnotTerms, knotBytes, List.map_cons, List.sum_cons, knotTerms, List.sum_nil, Nat.add_zero, ih]

theorem estDims_eq_convDims (p : Params) (hn : 1 ≤ p.n) : estDims p = convDims p := by
  have h : estDim p.n = convDim p.n := funext fun d => by
    simp only [estDim, convDim, orderAdj, nknotsAdj, naxesAdj, Nat.add_sub_assoc hn]
  unfold estDims convDims
  rw [h]

/-- pointwise order on the three numbers of a dimension -/
def Dim.le (d e : Dim) : Prop := d.order ≤ e.order ∧ d.nknots ≤ e.nknots ∧ d.naxes ≤ e.naxes

/-- same number of dimensions, pointwise `Dim.le` -/
def DimsLe : List Dim → List Dim → Prop
  | [], [] => True
  | d :: ds, e :: es => Dim.le d e ∧ DimsLe ds es
  | _, _ => False

theorem DimsLe.induction {motive : ∀ ds es, DimsLe ds es → Prop} (nil : motive [] [] trivial)
    (cons : ∀ {d e ds es} (hd : Dim.le d e) (hds : DimsLe ds es), motive ds es hds → motive (d :: ds) (e :: es) ⟨hd, hds⟩) :
    ∀ ds es (h : DimsLe ds es), motive ds es h
  | [], [], _ => nil
  | _ :: _, _ :: _, h => cons h.1 h.2 (DimsLe.induction nil cons _ _ h.2)
  | [], _ :: _, h => h.elim
  | _ :: _, [], h => h.elim

theorem DimsLe.length_eq {ds es : List Dim} (h : DimsLe ds es) : ds.length = es.length := by
  induction ds, es, h using DimsLe.induction with
  | nil => rfl
  | cons _ _ ih => exact congrArg (· + 1) ih

theorem knotBytes_mono {ds es : List Dim} (h : DimsLe ds es) : knotBytes ds ≤ knotBytes es := by
  induction ds, es, h using DimsLe.induction with
  | nil => exact Nat.le_refl _
  | cons hd _ ih =>
    exact Nat.add_le_add (Nat.mul_le_mul_right 8 (Nat.add_le_add hd.2.1 (Nat.mul_le_mul_left 2 hd.1))) ih

theorem prodNaxes_mono {ds es : List Dim} (h : DimsLe ds es) : prodNaxes ds ≤ prodNaxes es := by
  induction ds, es, h using DimsLe.induction with
  | nil => exact Nat.le_refl _
  | cons hd _ ih => exact Nat.mul_le_mul hd.2.2 ih

theorem Dim.le_refl (d : Dim) : Dim.le d d := ⟨Nat.le_refl _, Nat.le_refl _, Nat.le_refl _⟩

theorem DimsLe.refl : ∀ ds : List Dim, DimsLe ds ds
  | [] => trivial
  | d :: ds => ⟨d.le_refl, DimsLe.refl ds⟩

theorem dimsLe_adjustAt (f : Dim → Dim) (c : Nat) (ds : List Dim) (h : ∀ d, ds[c]? = some d → Dim.le d (f d)) :
    DimsLe ds (adjustAt f c ds) := by
  induction ds generalizing c with
  | nil => cases c <;> trivial
  | cons d ds ih =>
    cases c with
    | zero => exact ⟨h d rfl, .refl ds⟩
    | succ c => exact ⟨d.le_refl, ih c h⟩

theorem getElem?_dimsLe {ds es : List Dim} (h : DimsLe ds es) :
    ∀ (c : Nat) {d e : Dim}, ds[c]? = some d → es[c]? = some e → Dim.le d e := by
  induction ds, es, h using DimsLe.induction with
  | nil => exact fun _ _ _ hd _ => nomatch hd
  | cons hd _ ih =>
    intro c d e h1 h2
    cases c with
    | zero => exact Option.some.inj h1 ▸ Option.some.inj h2 ▸ hd
    | succ c => exact ih c h1 h2

/-- the coefficient count `estimateMemory` derives for the convolved dimension is monotone as long as
    `nknots − order` does not drop -/
theorem naxesAdj_mono (k o n k' o' n' : Nat) (hk : k ≤ k') (hn : n ≤ n') (hko : k + o' ≤ k' + o) :
    naxesAdj (nknotsAdj k n) (orderAdj o n) ≤ naxesAdj (nknotsAdj k' n') (orderAdj o' n') := by
  -- for `k, n ≥ 1`: `k·n = (k−1)(n−1) + (n−1) + k`, and `(k−1)(n−1)` is monotone
  have e : ∀ {k n : Nat}, 1 ≤ k → 1 ≤ n → k * n = (k - 1) * (n - 1) + (n - 1) + k := fun h1 h2 => by
    obtain ⟨a, rfl⟩ := Nat.exists_eq_add_of_le' h1
    obtain ⟨b, rfl⟩ := Nat.exists_eq_add_of_le' h2
    rw [Nat.succ_mul_succ, Nat.add_sub_cancel, Nat.add_sub_cancel]
    exact congrArg (· + 1) (Nat.add_right_comm _ _ _)
  show k * n - (o + (n - 1)) - 1 ≤ k' * n' - (o' + (n' - 1)) - 1
  rcases Nat.eq_zero_or_pos n with rfl | hn0
  · rw [Nat.mul_zero, Nat.zero_sub, Nat.zero_sub]; exact Nat.zero_le _
  rcases Nat.eq_zero_or_pos k with rfl | hk0
  · rw [Nat.zero_mul, Nat.zero_sub, Nat.zero_sub]; exact Nat.zero_le _
  have := Nat.mul_le_mul (Nat.sub_le_sub_right hk 1) (Nat.sub_le_sub_right hn 1)
  rw [e hk0 hn0, e (Nat.le_trans hk0 hk) (Nat.le_trans hn0 hn)]
  omega

/-- In the convolved dimension the coefficient axis does not shrink (needs the file's axis to be consistent
    with its knot count): `n·nknots − (order+n−1) − 1 − (nknots−order−1) = (n−1)(nknots−1) ≥ 0`. -/
theorem convDim_naxes_ge (n : Nat) (hn : 1 ≤ n) (d : Dim) (hc : d.naxes + d.order + 1 = d.nknots) :
    d.naxes ≤ (convDim n d).naxes := by
  -- `naxesAdj_mono` from a kernel of one knot to a kernel of `n`
  have h := naxesAdj_mono d.nknots d.order 1 d.nknots d.order n (Nat.le_refl _) hn (Nat.le_refl _)
  simp only [naxesAdj, nknotsAdj, orderAdj, Nat.mul_one, Nat.sub_self, Nat.add_zero] at h
  have e : d.naxes = d.nknots - d.order - 1 := by
    rw [← hc, Nat.add_right_comm, Nat.add_sub_cancel, Nat.add_sub_cancel]
  show d.naxes ≤ d.nknots * n - (d.order + n - 1) - 1
  rw [Nat.add_sub_assoc hn, e]
  exact h

theorem dimsLe_convDims (p : Params) (hn : 1 ≤ p.n)
    (hcons : ∀ d, p.dims[p.cdim]? = some d → d.naxes + d.order + 1 = d.nknots) : DimsLe p.dims (convDims p) :=
  dimsLe_adjustAt _ _ _ fun d hd => ⟨Nat.le_sub_one_of_lt (Nat.lt_add_of_pos_right hn), Nat.le_mul_of_pos_right _ hn,
    convDim_naxes_ge p.n hn d (hcons d hd)⟩

theorem estDim_le (n m : Nat) (hnm : n ≤ m) (d e : Dim) (h : Dim.le d e)
    (hko : d.nknots + e.order ≤ e.nknots + d.order) : Dim.le (estDim n d) (estDim m e) :=
  ⟨Nat.add_le_add h.1 (Nat.sub_le_sub_right hnm 1), Nat.mul_le_mul h.2.1 hnm, naxesAdj_mono _ _ _ _ _ _ h.2.1 hnm hko⟩

/-- adjusting one dimension on both sides keeps the order when the adjusted pair is in order -/
theorem DimsLe.adjustAt {f g : Dim → Dim} {ds es : List Dim} (h : DimsLe ds es) :
    ∀ c : Nat, (∀ d e, ds[c]? = some d → es[c]? = some e → Dim.le (f d) (g e)) →
      DimsLe (adjustAt f c ds) (adjustAt g c es) := by
  induction ds, es, h using DimsLe.induction with
  | nil => exact fun c _ => by cases c <;> exact True.intro
  | cons hd hds ih =>
    intro c hc
    match c with
    | 0 => exact ⟨hc _ _ rfl rfl, hds⟩
    | c + 1 => exact ⟨hd, ih c hc⟩

theorem estDims_le (n m : Nat) (hnm : n ≤ m) :
    ∀ (c : Nat) (ds es : List Dim), DimsLe ds es →
      (∀ d e, ds[c]? = some d → es[c]? = some e → d.nknots + e.order ≤ e.nknots + d.order) →
      DimsLe (adjustAt (estDim n) c ds) (adjustAt (estDim m) c es) :=
  fun c _ _ h hc => h.adjustAt c fun d e hd he => estDim_le n m hnm d e (getElem?_dimsLe h c hd he) (hc d e hd he)

theorem rawSizeWith_closed (naux : Nat) (p : Params) :
    rawSizeWith naux p =
      p.objsize + knotBytes (estDims p) + 68 * p.dims.length + 4 * prodNaxes (estDims p) + 146 * naux := by
  simp only [rawSizeWith, sizeInit, fixedTerms, sumKnotTerms_eq, List.sum_cons, List.sum_nil]
  omega

theorem roundingTerm_bounds (s : Nat) : 1025 ≤ roundingTerm s ∧ roundingTerm s ≤ 2048 := by
  unfold roundingTerm; omega

theorem rounded_mono {s t : Nat} (h : s ≤ t) : s + roundingTerm s ≤ t + roundingTerm t := by
  unfold roundingTerm; omega

theorem estimateWith_ge (naux : Nat) (p : Params) :
    p.objsize + knotBytes (estDims p) + 68 * p.dims.length + 4 * prodNaxes (estDims p) + 146 * naux + 1025
      ≤ estimateWith naux p :=
  rawSizeWith_closed naux p ▸ Nat.add_le_add_left (roundingTerm_bounds _).1 _

theorem estimateWith_le (naux : Nat) (p : Params) :
    estimateWith naux p ≤
      p.objsize + knotBytes (estDims p) + 68 * p.dims.length + 4 * prodNaxes (estDims p) + 146 * naux + 2048 :=
  rawSizeWith_closed naux p ▸ Nat.add_le_add_left (roundingTerm_bounds _).2 _

/-- **Order on file descriptions** under which `estimateMemory` is monotone: object size, number of auxiliary cards,
    kernel knots, and the three numbers of every dimension grow (same number of dimensions, same convolved
    dimension), and in the convolved dimension `nknots − order` (one more than the coefficient count the knot vector
    implies) does not drop.  For two files the reader accepts the last condition follows from the others
    (`C19_paramsLe_of_loadable`). -/
structure ParamsLe (p q : Params) : Prop where
  objsize : p.objsize ≤ q.objsize
  naux : p.aux.length ≤ q.aux.length
  n : p.n ≤ q.n
  cdim : p.cdim = q.cdim
  dims : DimsLe p.dims q.dims
  conv : ∀ d e, p.dims[p.cdim]? = some d → q.dims[p.cdim]? = some e → d.nknots + e.order ≤ e.nknots + d.order

theorem estimate_mono (p q : Params) (h : ParamsLe p q) : estimate p ≤ estimate q := by
  have hd : DimsLe (estDims p) (estDims q) := by
    unfold estDims; rw [← h.cdim]
    exact estDims_le p.n q.n h.n p.cdim p.dims q.dims h.dims h.conv
  refine rounded_mono ?_
  rw [rawSizeWith_closed, rawSizeWith_closed]
  exact Nat.add_le_add (Nat.add_le_add (Nat.add_le_add (Nat.add_le_add h.objsize (knotBytes_mono hd))
    (Nat.le_of_eq (congrArg (68 * ·) h.dims.length_eq))) (Nat.mul_le_mul_left 4 (prodNaxes_mono hd)))
    (Nat.mul_le_mul_left 146 h.naux)

theorem loadable_dim (p : Params) (hl : loadable p = true) (d : Dim) (hd : d ∈ p.dims) :
    d.naxes + d.order + 1 = d.nknots ∧ 2 * d.order + 2 ≤ d.nknots := by
  have := List.all_eq_true.mp hl d hd
  simp [readerRejects] at this
  omega

/-- `84 = 68 + 16`: the eight per-dimension arrays of one dimension and a knot vector of at least two knots -/
theorem tail_ge (p : Params) (hl : loadable p = true) (hnd : 0 < p.dims.length) :
    84 ≤ 68 * p.dims.length + 4 * prodNaxes p.dims + knotBytes p.dims := by
  cases hds : p.dims with
  | nil => rw [hds] at hnd; simp at hnd
  | cons d ds =>
    have := (loadable_dim p hl d (by rw [hds]; exact List.mem_cons_self ..)).2
    simp only [knotBytes, List.map_cons, List.sum_cons, List.length_cons]; omega

/-- at least 84 bytes are requested after the cards, more than a raw card value is long -/
theorem card_le_tail (p : Params) (hl : loadable p = true) (hnd : 0 < p.dims.length)
    (card : ∀ a ∈ p.aux, a.keylen + a.vallen ≤ 82) :
    ∀ a ∈ p.aux, a.vallen ≤ 68 * p.dims.length + 4 * prodNaxes p.dims + knotBytes p.dims :=
  fun a ha => Nat.le_trans (Nat.le_trans (Nat.le_add_left _ _) (card a ha)) (Nat.le_trans (by decide) (tail_ge p hl hnd))

end PsV.C19
