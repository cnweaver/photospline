import PsV.Model.CApiRefine
/-!
# C18 - what the C caller sees: soundness of the decidable checks on a wrapper record

Core Lean only.  Everything here is about one `Wrapper` record (any record, generated or not) and the return codes read
off it: a record that passes `wrapperOk` shows, for every call and every possible outcome, what a faithful wrapper
shows (`wrapperOk_sound`; for the guard `guardRet_sound`, for an allocation failure of its own `oomRet_sound`), whole
bodies included (`execTrace_sound`); `LifeRetsOk` collects the return literals of the seven wrappers that `cstep` models
one by one.  Handles and ledger are not mentioned: they are `Proofs/CApi.lean`, and the two meet in `Proofs/CApiRefine.lean`.
-/
namespace PsV.CApi

theorem callOk_sound {w : Wrapper} {c : Call} (h : callOk w c = true) (o : Outcome) (hp : possible c.op o = true) :
    wrapRet w c o ≠ .escapes ∧ wrapRet w c o = expected w.ret o := by
  have := List.all_eq_true.mp h o (by cases o <;> simp)
  simpa [hp] using this

theorem wrapperOk_sound {w : Wrapper} (h : wrapperOk w = true) :
    (∀ c ∈ w.calls, ∀ o, possible c.op o = true → wrapRet w c o ≠ .escapes ∧ wrapRet w c o = expected w.ret o)
    ∧ w.guardFails = true := by
  unfold wrapperOk at h
  simp only [Bool.and_eq_true, List.all_eq_true] at h
  exact ⟨fun c hc o hp => callOk_sound (h.1 c hc) o hp, h.2⟩

theorem fallThrough_ne_escapes (w : Wrapper) : fallThrough w ≠ .escapes := by
  unfold fallThrough
  cases w.ret <;> cases w.finalSucceeds <;> simp

theorem escapes_iff (w : Wrapper) (c : Call) (o : Outcome) :
    wrapRet w c o = .escapes ↔ (o = .throws ∧ c.guarded = false) := by
  have hft := fallThrough_ne_escapes w
  cases o
  · have : wrapRet w c .ok ≠ .escapes := by
      simp only [wrapRet]
      cases c.disp <;> cases w.ret <;> simp [hft]
    simp [this]
  · have : wrapRet w c .fail ≠ .escapes := by
      simp only [wrapRet]
      cases c.disp <;> cases w.ret <;> simp [hft]
    simp [this]
  · simp only [wrapRet]
    cases c.guarded <;> cases w.ret <;> cases w.handlerFails <;> simp

theorem wrapperOk2_iff {w : Wrapper} :
    wrapperOk2 w = true ↔ wrapperOk w = true ∧ failReturns w = true ∧ finalOk w = true := by
  simp only [wrapperOk2, Bool.and_eq_true, and_assoc]

theorem failReturns_sound {w : Wrapper} (h : failReturns w = true) {c : Call} (hc : c ∈ w.calls)
    (hp : possible c.op .fail = true) : c.returnsOn .fail = true := by
  have := List.all_eq_true.mp h c hc
  simp only [possible] at hp
  simpa [hp] using this

theorem expected_ne_escapes (r : RetTy) (o : Outcome) : expected r o ≠ .escapes := by
  cases r <;> cases o <;> nofun

/-- with `expected_ne_escapes`: no exception leaves a whole body either -/
theorem execTrace_sound {w : Wrapper} (hw : wrapperOk w = true) (hf : failReturns w = true) :
    ∀ tr : List (Call × Outcome), (∀ p ∈ tr, p.1 ∈ w.calls ∧ possible p.1.op p.2 = true) → completes w tr = true →
      execTrace w tr = expected w.ret (traceOutcome tr)
  | [], _, hc => by
    simp only [completes, List.any_nil, Bool.false_or, Bool.or_eq_true, beq_iff_eq] at hc
    unfold execTrace traceOutcome fallThrough expected
    rcases hc with (h | h) | h
    · rw [h]; cases w.ret <;> rfl
    · rw [h]
    · rw [h]
  | (c, o) :: rest, hall, hc => by
    have hco := hall (c, o) (List.mem_cons_self ..)
    cases hret : c.returnsOn o with
    | true =>
      simp only [execTrace, traceOutcome, hret, if_true, Bool.true_or]
      exact ((wrapperOk_sound hw).1 c hco.1 o hco.2).2
    | false =>
      -- the body goes on past this call: it succeeded, since a throw or a reported failure ends the body
      have hok : o = .ok := by
        cases o with
        | ok => rfl
        | fail => rw [failReturns_sound hf hco.1 hco.2] at hret; cases hret
        | throws => cases hret
      subst hok
      simp only [execTrace, traceOutcome, hret, Bool.false_eq_true, if_false, Bool.false_or, bne_self_eq_false]
      apply execTrace_sound hw hf rest (fun p hp => hall p (List.mem_cons_of_mem _ hp))
      simpa only [completes, List.any_cons, hret, Bool.false_or] using hc

theorem completes_of_reaches_last {w : Wrapper} (hf : finalOk w = true) (tr : List (Call × Outcome))
    (hl : tr.getLast?.map Prod.fst = w.calls.getLast?) : completes w tr = true := by
  simp only [finalOk, Bool.or_eq_true] at hf
  simp only [completes, Bool.or_eq_true]
  rcases hf with ((h | h) | h) | h
  · exact .inl (.inl (.inr h))
  · exact .inl (.inr h)
  · exact .inr h
  · refine .inl (.inl (.inl ?_))
    cases hc : w.calls.getLast? with
    | none => rw [hc] at h; cases h
    | some c =>
      rw [hc] at h hl
      obtain ⟨p, hp, rfl⟩ := Option.map_eq_some_iff.mp hl
      simp only [Bool.and_eq_true] at h
      refine List.any_eq_true.mpr ⟨p, List.mem_of_getLast? hp, ?_⟩
      cases p.2
      · exact h.1
      · exact h.2
      · rfl

theorem mem_of_mem_ite_filter {α : Type} {p : α → Bool} {b : Prop} [Decidable b] {l : List α} {x : α}
    (h : x ∈ if b then l.filter p else l) : x ∈ l := by
  split at h
  · exact (List.mem_filter.mp h).1
  · exact h

theorem principal_mem {w : Wrapper} {sel : Nat} {c : Call} (h : principal w sel = some c) : c ∈ w.calls := by
  unfold principal at h
  simp only at h
  split at h
  · cases h
  · next l hl =>
    split at h <;> cases h
    · next hc =>
      exact (List.mem_filter.mp (mem_of_mem_ite_filter (List.mem_filter.mp (List.mem_of_getElem? hc)).1)).1
    · exact (List.mem_filter.mp (mem_of_mem_ite_filter (List.mem_of_getLast? hl))).1

theorem expected_status_of_ok_throws {op : UOp} (hc : canFail op = false) {o : Outcome} (hp : possible op o = true)
    {r : Outcome → CRet} (hok : r .ok = .success) (hth : r .throws = .failure) : r o = expected .status o := by
  cases o with
  | ok => exact hok
  | throws => exact hth
  | fail => rw [possible, hc] at hp; cases hp

theorem guardRet_sound {w : Wrapper} (hw : wrapperOk w = true) : guardRet w = expected w.ret .fail := by
  unfold guardRet expected
  cases w.ret <;> simp [(wrapperOk_sound hw).2]

theorem oomRet_sound {w : Wrapper} (hw : wrapperOk w = true) (hm : w.mayThrow = true) :
    oomRet w = expected w.ret .throws ∧ oomRet w ≠ .escapes := by
  unfold oomRet
  cases hf : w.calls.find? (fun c => canThrow c.op) with
  | none =>
    obtain ⟨c, hc, hct⟩ := List.any_eq_true.mp hm
    exact absurd hct (by simpa using List.find?_eq_none.mp hf c hc)
  | some c =>
    have hs := (wrapperOk_sound hw).1 c (List.mem_of_find?_eq_some hf) .throws (by simpa [possible] using List.find?_some hf)
    exact ⟨hs.2, hs.1⟩

/-- What the table must say about the seven wrappers that move pointers (`lifeNames`), which `cstep` models one by one:
    the return literals of each for the outcomes it can have — success, a throwing C++ call, an allocation failure of
    its own (`oom`), a NULL argument caught by the guard.  Decided on the generated table (`C18_life_rets`). -/
structure LifeRetsOk (T : List Wrapper) : Prop where
  init_ok : lifeRet T "splinetable_init" .ok = .success
  init_throws : lifeRet T "splinetable_init" .throws = .failure
  free_ok : lifeRet T "splinetable_free" .ok = .void
  readFile_ok : lifeRet T "readsplinefitstable" .ok = .success
  readFile_throws : lifeRet T "readsplinefitstable" .throws = .failure
  readMem_ok : lifeRet T "readsplinefitstable_mem" .ok = .success
  readMem_throws : lifeRet T "readsplinefitstable_mem" .throws = .failure
  readMem_oom : lifeOomRet T "readsplinefitstable_mem" = .failure
  grideval_ok : lifeRet T "splinetable_grideval" .ok = .success
  grideval_throws : lifeRet T "splinetable_grideval" .throws = .failure
  grideval_oom : lifeOomRet T "splinetable_grideval" = .failure
  grideval_guard : lifeGuardRet T "splinetable_grideval" = .failure
  destroy_ok : lifeRet T "ndsparse_destroy" .ok = .void
  writeMem_ok : lifeRet T "writesplinefitstable_mem" .ok = .success
  writeMem_throws : lifeRet T "writesplinefitstable_mem" .throws = .failure
  writeMem_oom : lifeOomRet T "writesplinefitstable_mem" = .failure

instance (T : List Wrapper) : Decidable (LifeRetsOk T) :=
  decidable_of_iff
    (lifeRet T "splinetable_init" .ok = .success ∧ lifeRet T "splinetable_init" .throws = .failure ∧
     lifeRet T "splinetable_free" .ok = .void ∧
     lifeRet T "readsplinefitstable" .ok = .success ∧ lifeRet T "readsplinefitstable" .throws = .failure ∧
     lifeRet T "readsplinefitstable_mem" .ok = .success ∧ lifeRet T "readsplinefitstable_mem" .throws = .failure ∧
     lifeOomRet T "readsplinefitstable_mem" = .failure ∧
     lifeRet T "splinetable_grideval" .ok = .success ∧ lifeRet T "splinetable_grideval" .throws = .failure ∧
     lifeOomRet T "splinetable_grideval" = .failure ∧ lifeGuardRet T "splinetable_grideval" = .failure ∧
     lifeRet T "ndsparse_destroy" .ok = .void ∧
     lifeRet T "writesplinefitstable_mem" .ok = .success ∧ lifeRet T "writesplinefitstable_mem" .throws = .failure ∧
     lifeOomRet T "writesplinefitstable_mem" = .failure)
    ⟨fun ⟨a, b, c, d, e, f, g, h, i, j, k, l, m, n, o, p⟩ => ⟨a, b, c, d, e, f, g, h, i, j, k, l, m, n, o, p⟩,
     fun ⟨a, b, c, d, e, f, g, h, i, j, k, l, m, n, o, p⟩ => ⟨a, b, c, d, e, f, g, h, i, j, k, l, m, n, o, p⟩⟩

end PsV.CApi
