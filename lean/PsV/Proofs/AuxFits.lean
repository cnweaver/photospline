import PsV.Proofs.AuxText
import PsV.Proofs.AuxValidate
/-!
Helper lemmas for C16, FITS part: the card `write_fits_core` produces for an accepted entry
(`cardOf` = `ffs2c`, `ffmkky`, `ffprec`) in closed form, and what `read_fits_core` makes of it
(`entryOfCard` = `ffgrec`, `ffgknm`, `ffpsvc`, quote stripping), for standard and HIERARCH keys (`entry_survives`);
the round trip of an accepted store gives the same entries with padded values (`fitsTrip_accepted`).
-/
namespace PsV.Aux
open PsV.Gen

theorem sanitize_printable (c : Char) (h : printable c = true) : sanitize c = c := by
  unfold printable at h
  simp only [Bool.and_eq_true, decide_eq_true_eq] at h
  unfold sanitize
  rw [if_neg]
  simp only [Bool.or_eq_true, decide_eq_true_eq]
  omega

theorem map_sanitize (l : List Char) (h : PlainVal l) : l.map sanitize = l :=
  (List.map_congr_left fun c hc => sanitize_printable c (h c hc)).trans (List.map_id' l)

theorem plainVal_blanks (n : Nat) : PlainVal (blanks n) := fun _ h => eq_of_mem_blanks h ▸ rfl

theorem plainVal_dbl (v : Str) (h : PlainVal v) : PlainVal (dbl v) := by
  fun_induction dbl v with
  | case1 => exact h
  | case2 c r _ ih =>
    obtain ⟨hc, hr⟩ := List.forall_mem_cons.mp h
    exact List.forall_mem_cons.mpr ⟨hc, List.forall_mem_cons.mpr ⟨hc, ih hr⟩⟩
  | case3 c r _ ih =>
    obtain ⟨hc, hr⟩ := List.forall_mem_cons.mp h
    exact List.forall_mem_cons.mpr ⟨hc, ih hr⟩

theorem plainVal_quoted (w : Str) (h : PlainVal w) : PlainVal (quoted w) :=
  List.forall_mem_cons.mpr ⟨rfl, plainVal_append.mpr ⟨plainVal_dbl w h, List.forall_mem_cons.mpr ⟨rfl, List.forall_mem_nil _⟩⟩⟩

/-- the last step of `ffmkky`: append the value, cut at column 80, force a closing quote when it was cut -/
def cardTail (h : List Char) (namelen : Nat) (qv : List Char) : List Char :=
  if namelen + qv.length ≥ 80 then (h ++ qv.take (80 - namelen)).take 79 ++ ['\''] else h ++ qv.take (80 - namelen)

/-- Behind a head of `n` columns that leaves room for the two quotes, cutting a quoted value at column 80 and
    closing it again amounts to cutting its body to the `s = 78 - n` columns between the quotes. -/
theorem cardTail_quote (h b : List Char) (n s : Nat) (hn : h.length = n) (hs : n + s = 78) :
    cardTail h n ('\'' :: b ++ ['\'']) = h ++ '\'' :: b.take s ++ ['\''] := by
  subst hn
  -- columns: the head, the opening quote, `s` columns of body, the closing quote make 80
  have h80 : 80 = h.length + (s + 2) := congrArg (· + 2) hs.symm
  have h79 : 79 = h.length + (s + 1) := congrArg (· + 1) hs.symm
  unfold cardTail
  rw [show ('\'' :: b ++ ['\'']).length = b.length + 2 from List.length_append, h80, Nat.add_sub_cancel_left]
  split
  · next hc =>
    -- cut: the body has at least `s` characters, `take 79` keeps head, quote and `s` of them
    rw [h79, List.take_length_add_append, List.take_take, Nat.min_eq_left (Nat.le_succ _), List.cons_append,
      List.take_succ_cons, List.take_append_of_le_length (Nat.le_of_add_le_add_right (Nat.le_of_add_le_add_left hc))]
  · next hc =>
    -- not cut: the body has fewer than `s` characters, both `take`s are the identity
    have hb : b.length + 2 ≤ s + 2 := Nat.le_of_lt (Nat.lt_of_add_lt_add_left (Nat.not_le.mp hc))
    rw [List.take_of_length_le (List.length_append ▸ hb), List.take_of_length_le (Nat.le_of_add_le_add_right hb),
      ← List.append_assoc]

theorem take_pad (a : List Char) (p m : Nat) (h : a.length ≤ m) :
    (a ++ blanks p).take m = a ++ blanks (min p (m - a.length)) := by
  rw [List.take_append, List.take_of_length_le h, take_blanks, Nat.min_comm]

theorem pad8_eq (d : Nat) : d + (8 - d) = max d 8 := by rw [Nat.add_comm, Nat.sub_add_eq_max, Nat.max_comm]

theorem length_pad8 (a : List Char) : (a ++ blanks (8 - a.length)).length = max a.length 8 := by
  rw [List.length_append, length_blanks, pad8_eq]

/-- the padding to 8 characters is cut short (never the value) when the card is full -/
theorem cardTail_eq (h : List Char) (v : Str) (hd : (dbl v).length ≤ 68) (hfit : h.length + (dbl v).length ≤ 78) :
    cardTail h h.length (ffs2c v) =
      h ++ '\'' :: (dbl v ++ blanks (min (8 - (dbl v).length) (78 - h.length - (dbl v).length))) ++ ['\''] := by
  rw [ffs2c_eq v hd, cardTail_quote h _ _ (78 - h.length) rfl (Nat.add_sub_of_le (Nat.le_trans (Nat.le_add_right ..) hfit)),
    take_pad _ _ _ (Nat.le_sub_of_add_le' hfit)]

theorem contains_eq_false {l : List Char} {a : Char} (h : a ∉ l) : l.contains a = false :=
  Bool.eq_false_iff.mpr fun hc => h (List.contains_iff_mem.mp hc)

theorem alnum_head (k : Str) (h : Alnum k) : k.head? ≠ some ' ' :=
  fun hl => h.not_blank (List.mem_of_mem_head? hl)

theorem alnum_last (k : Str) (h : Alnum k) : k.getLast? ≠ some ' ' :=
  fun hl => h.not_blank (List.mem_of_getLast? hl)

theorem keyName_verbatim (k : Str) (hhead : k.head? ≠ some ' ') (hlast : k.getLast? ≠ some ' ') (hlen : k.length ≤ 74) :
    rstrip ((lstrip k).take (C16.flenKeyword - 1)) = k := by
  rw [lstrip_of_head k hhead, List.take_of_length_le (i := C16.flenKeyword - 1) hlen, rstrip_of_getLast k hlast]

theorem mkCard_std (k qv : List Char) (hk : k.length ≤ 8) (ha : Alnum k) :
    mkCard k qv = some (cardTail (k ++ blanks (8 - k.length) ++ ['=', ' ']) 10 qv) := by
  have hne : k.contains '=' = false := contains_eq_false ha.not_eq
  have hall : k.all stdKeyChar = true := ha.stdKeyChar
  unfold mkCard
  simp only [keyName_verbatim k (alnum_head k ha) (alnum_last k ha) (Nat.le_trans hk (by decide)), hne, hk, hall,
    Bool.false_eq_true, if_false, decide_true, Bool.and_self, if_true, cardTail, show ¬ 10 > 77 by decide]

theorem mkCard_short (k v : Str) (hk : k.length ≤ 8) (ha : Alnum k) (hv : (dbl v).length ≤ 68) :
    mkCard k (ffs2c v) =
      some ((k ++ blanks (8 - k.length) ++ ['=', ' ']) ++ '\'' :: (dbl v ++ blanks (8 - (dbl v).length)) ++ ['\'']) := by
  have hlen : (k ++ blanks (8 - k.length) ++ ['=', ' ']).length = 10 := by
    rw [List.length_append, List.length_append, length_blanks, Nat.add_sub_of_le hk]; rfl
  rw [mkCard_std k _ hk ha, ffs2c_eq v hv, cardTail_quote _ _ 10 68 hlen rfl,
    List.take_of_length_le (length_pad8 _ ▸ Nat.max_le.mpr ⟨hv, by decide⟩)]

/-- separator `ffmkky` puts between a HIERARCH name of `n` characters and the value: `" = "`, or `"= "` when the card
    would overflow.  `14` = 9 (`HIERARCH `) + 3 (`" = "`) + the two quotes; `max d 8` is the length `ffs2c` gives a
    value of `d` characters (quotes doubled). -/
def hierSep (n d : Nat) : List Char := if 14 + n + max d 8 > 80 then ['=', ' '] else [' ', '=', ' ']

theorem mkCard_hier (k qv : List Char) (h9 : 9 ≤ k.length) (h66 : k.length ≤ 66) (hhead : k.head? ≠ some ' ')
    (hlast : k.getLast? ≠ some ' ') (heq : '=' ∉ k) (hh : hierPrefix.isPrefixOf k = false) (hq : 3 ≤ qv.length) :
    mkCard k qv = some (if k.length + 9 + 3 + qv.length > 80
      then cardTail (hierPrefix ++ k ++ ['=', ' ']) (k.length + 9 + 2) qv
      else cardTail (hierPrefix ++ k ++ [' ', '=', ' ']) (k.length + 9 + 3) qv) := by
  have hf : (hierPrefix ++ k).length = k.length + 9 := List.length_append.trans (Nat.add_comm ..)
  have h11 : ¬ k.length + 11 > 81 - 1 := Nat.not_lt.mpr (Nat.add_le_add_right (Nat.le_trans h66 (by decide)) 11)
  have h77 : ¬ k.length + 9 + 2 > 77 := Nat.not_lt.mpr (Nat.add_le_add_right h66 11)
  unfold mkCard
  simp only [keyName_verbatim k hhead hlast (Nat.le_trans h66 (by decide)), contains_eq_false heq, hh, hf, C16.flenCard,
    Nat.not_le.mpr h9, h11, Bool.false_eq_true, if_false, decide_false, Bool.false_and, Option.map_some]
  by_cases hc : k.length + 9 + 3 + qv.length > 80
  · simp only [hc, if_true, h77, if_false, cardTail]
  · have h65 : k.length + 9 + 3 + 3 ≤ 77 + 3 := Nat.le_trans (Nat.add_le_add_left hq _) (Nat.not_lt.mp hc)
    simp only [hc, Nat.not_lt.mpr (Nat.le_of_add_le_add_right h65), if_false, cardTail]

/-- `66` is the longest name `write_key` lets through and `67 = cardLen - hierOverhead` the room
    name and value share: 80 columns less `HIERARCH `, `"= "` and the two quotes; the separator `" = "` takes one more
    column, which only the padding gives up. -/
theorem mkCard_long (k v : Str) (hk : 9 ≤ k.length) (hk66 : k.length ≤ 66) (hfit : k.length + (dbl v).length ≤ 67)
    (hhead : k.head? ≠ some ' ') (hlast : k.getLast? ≠ some ' ') (heq : '=' ∉ k)
    (hh : hierPrefix.isPrefixOf k = false) :
    mkCard k (ffs2c v) =
      some ((hierPrefix ++ k ++ hierSep k.length (dbl v).length) ++
        '\'' :: (dbl v ++ blanks (min (8 - (dbl v).length) (67 - k.length - (dbl v).length))) ++ ['\'']) := by
  have hd : (dbl v).length ≤ 68 := Nat.le_trans (Nat.le_add_left ..) (Nat.le_trans hfit (by decide))
  have hf : ∀ s : List Char, (hierPrefix ++ k ++ s).length = k.length + 9 + s.length := fun s => by
    rw [List.length_append, List.length_append, Nat.add_comm hierPrefix.length]; rfl
  have hq : ('\'' :: (dbl v ++ blanks (8 - (dbl v).length)) ++ ['\'']).length = max (dbl v).length 8 + 2 :=
    List.length_append.trans (congrArg (· + 1 + 1) (length_pad8 _))
  have hq3 : 3 ≤ max (dbl v).length 8 + 2 := Nat.add_le_add_right (Nat.le_trans (by decide) (Nat.le_max_right ..)) 2
  -- the overflow test of `ffmkky` is the condition of `hierSep`
  have e : ∀ m, k.length + 9 + 3 + (m + 2) = 14 + k.length + m := fun m => by omega
  rw [ffs2c_eq v hd, mkCard_hier k _ hk hk66 hhead hlast heq hh (hq ▸ hq3), hq, e, hierSep,
    ← take_pad _ _ _ (Nat.le_sub_of_add_le' hfit)]
  split
  · -- `"= "`: the card is full, its body is cut to `78 - (k.length + 11)` columns
    rw [cardTail_quote _ _ (k.length + 9 + 2) (67 - k.length) (hf _)
      (by -- `(k.length + 11) + (67 - k.length) = 78`
        rw [Nat.add_right_comm _ 2, Nat.add_right_comm _ 9, Nat.add_sub_of_le (Nat.le_trans hk66 (by decide))])]
  · -- `" = "`: the body (`max d 8` columns) fits the `66 - k.length` columns left, nothing is cut
    next hc =>
    have hb : (dbl v ++ blanks (8 - (dbl v).length)).length ≤ 66 - k.length :=
      length_pad8 _ ▸ Nat.le_sub_of_add_le' (Nat.le_of_add_le_add_left (Nat.add_assoc .. ▸ Nat.not_lt.mp hc))
    rw [cardTail_quote _ _ (k.length + 9 + 3) (66 - k.length) (hf _)
      (by rw [Nat.add_right_comm _ 3, Nat.add_right_comm _ 9, Nat.add_sub_of_le hk66]),
      List.take_of_length_le hb, List.take_of_length_le (Nat.le_trans hb (Nat.sub_le_sub_right (by decide) _))]

theorem ffpsvc_std (c : List Char) (h1 : hierPrefix.isPrefixOf c = false)
    (h2 : commentaryHeads.any (·.isPrefixOf c) = false) (hlen : 9 ≤ c.length) (h8 : (c.drop 8).take 2 = ['=', ' ']) :
    ffpsvc c = valTail (c.drop 10) := by
  unfold ffpsvc
  simp only [h1, h2, h8, Nat.not_lt.mpr hlen, Bool.false_eq_true, if_false, Bool.or_false, decide_false, BEq.rfl, if_true]
  rfl

theorem ffpsvc_hier (c : List Char) (h1 : hierPrefix.isPrefixOf c = true) (h2 : c.contains '=' = true) :
    ffpsvc c = valTail (c.drop ((c.takeWhile (· != '=')).length + 1)) := by
  unfold ffpsvc
  simp only [h1, h2, if_true]
  rfl

theorem eq_of_isPrefixOf_append {a b r : List Char} (hl : a.length = b.length) (hp : a.isPrefixOf (b ++ r) = true) :
    a = b :=
  (List.prefix_iff_eq_take.mp (List.isPrefixOf_iff_prefix.mp hp)).trans (List.take_left' hl.symm)

theorem commentaryHeads_facts : ∀ h ∈ commentaryHeads, h.length = 8 ∧
    (rstrip h = commentKey ∨ rstrip h = historyKey ∨ rstrip h = endKey ∨ rstrip h = continueKey ∨ rstrip h = []) := by
  decide +kernel

theorem quoted_last (l : List Char) (w : Str) : (l ++ quoted w).getLast? ≠ some ' ' := by
  rw [quoted, ← List.cons_append, ← List.append_assoc, List.getLast?_concat]; decide

theorem rstrip_card (h : List Char) (w : Str) (m : Nat) : rstrip (h ++ quoted w ++ blanks m) = h ++ quoted w :=
  rstrip_append_blanks _ m (quoted_last h w)

/-- the value of a string card in the standard layout, whatever its first eight columns hold: `= ` in columns 9-10
    sends `ffpsvc` to column 11, and the repaired quote stripping gives back the string -/
theorem value_std (h8 : List Char) (w : Str) (hl : h8.length = 8)
    (h1 : hierPrefix.isPrefixOf (h8 ++ '=' :: ' ' :: quoted w) = false)
    (h2 : commentaryHeads.any (·.isPrefixOf (h8 ++ '=' :: ' ' :: quoted w)) = false) (hw : (dbl w).length ≤ 68) :
    stripValue (ffpsvc (h8 ++ '=' :: ' ' :: quoted w)) = w := by
  have hd8 : (h8 ++ '=' :: ' ' :: quoted w).drop 8 = '=' :: ' ' :: quoted w := List.drop_left' hl
  rw [ffpsvc_std _ h1 h2 (by rw [List.length_append, hl]; exact Nat.add_le_add_left (Nat.succ_le_succ (Nat.zero_le _)) 8)
      (by rw [hd8]; rfl),
    show (h8 ++ '=' :: ' ' :: quoted w).drop 10 = blanks 0 ++ quoted w by
      rw [← List.drop_drop (i := 2) (j := 8), hd8]; rfl,
    valTail_quoted 0 w hw, stripValue_quoted]

theorem read_std (k w : Str) (hk : k.length ≤ 8) (hne : k ≠ []) (ha : Alnum k) (hres : reserved k = false)
    (hE : k ≠ endKey) (hH : k ≠ historyKey) (hC : k ≠ continueKey) (hw : (dbl w).length ≤ 68) :
    ffgknm (k ++ blanks (8 - k.length) ++ '=' :: ' ' :: quoted w) = k ∧
    stripValue (ffpsvc (k ++ blanks (8 - k.length) ++ '=' :: ' ' :: quoted w)) = w ∧
    isEndCard (k ++ blanks (8 - k.length) ++ '=' :: ' ' :: quoted w) = false := by
  have hk8 : (k ++ blanks (8 - k.length)).length = 8 := by rw [List.length_append, length_blanks, Nat.add_sub_of_le hk]
  generalize hc : k ++ blanks (8 - k.length) ++ '=' :: ' ' :: quoted w = c
  -- the first eight columns determine the keyword
  have hkey : ∀ h : List Char, h.length = 8 → h.isPrefixOf c = true → k = rstrip h := fun h hl hp => by
    rw [eq_of_isPrefixOf_append (hl.trans hk8.symm) (hc ▸ hp), rstrip_append_blanks k _ (alnum_last k ha)]
  have hhier : hierPrefix.isPrefixOf c = false := Bool.eq_false_iff.mpr fun hp => by
    have hc9 : k ++ blanks (8 - k.length) ++ ['='] ++ ' ' :: quoted w = c := by rw [← hc, List.append_assoc _ ['=']]; rfl
    have h9 := congrArg List.getLast? (eq_of_isPrefixOf_append (by rw [List.length_append, hk8]; rfl) (hc9 ▸ hp))
    rw [List.getLast?_concat] at h9
    exact absurd h9 (by decide)
  have hcomm : commentaryHeads.any (·.isPrefixOf c) = false := List.any_eq_false.mpr fun h hm hp => by
    obtain ⟨hl, hr⟩ := commentaryHeads_facts h hm
    have hkk := hkey h hl hp
    rcases hr with hr | hr | hr | hr | hr
    · exact absurd (hkk.trans hr ▸ hres) (by decide)
    · exact hH (hkk.trans hr)
    · exact hE (hkk.trans hr)
    · exact hC (hkk.trans hr)
    · exact hne (hkk.trans hr)
  refine ⟨?_, ?_, ?_⟩
  · obtain ⟨b, r', hbr, hb⟩ : ∃ b r', blanks (8 - k.length) ++ '=' :: ' ' :: quoted w = b :: r' ∧
        (b != ' ' && b != '=') = false := by
      cases 8 - k.length with
      | zero => exact ⟨_, _, rfl, rfl⟩
      | succ j => exact ⟨_, _, rfl, rfl⟩
    unfold ffgknm
    rw [if_neg (Bool.eq_false_iff.mp hhier), ← hc, List.append_assoc, hbr,
      takeWhile_append_stop _ k b r' (fun x hx => by
        have h1 : x ≠ ' ' := fun e => ha.not_blank (e ▸ hx)
        have h2 : x ≠ '=' := fun e => ha.not_eq (e ▸ hx)
        simp [h1, h2]) hb,
      List.take_of_length_le (Nat.le_trans hk (by decide))]
  · subst hc
    exact value_std _ w hk8 hhier hcomm hw
  · unfold isEndCard
    rw [← hc, List.take_left' hk8]
    exact Bool.eq_false_iff.mpr fun hb => hE ((hkey endHead rfl (hc ▸ by
      rw [eq_of_beq hb]; exact List.isPrefixOf_iff_prefix.mpr (List.prefix_append ..))).trans (by decide))

theorem read_hier (k w : Str) (j : Nat) (hne : k ≠ []) (hhead : k.head? ≠ some ' ') (hlast : k.getLast? ≠ some ' ')
    (heq : '=' ∉ k) (hw : (dbl w).length ≤ 68) :
    ffgknm (hierPrefix ++ (k ++ blanks j) ++ '=' :: ' ' :: quoted w) = k ∧
    stripValue (ffpsvc (hierPrefix ++ (k ++ blanks j) ++ '=' :: ' ' :: quoted w)) = w ∧
    isEndCard (hierPrefix ++ (k ++ blanks j) ++ '=' :: ' ' :: quoted w) = false := by
  generalize hc : hierPrefix ++ (k ++ blanks j) ++ '=' :: ' ' :: quoted w = c
  have hc' : hierPrefix ++ ((k ++ blanks j) ++ '=' :: ' ' :: quoted w) = c := (List.append_assoc ..).symm.trans hc
  have hpre : hierPrefix.isPrefixOf c = true := List.isPrefixOf_iff_prefix.mpr (hc' ▸ List.prefix_append ..)
  have hcont : c.contains '=' = true :=
    List.contains_iff_mem.mpr (hc ▸ List.mem_append_right _ List.mem_cons_self)
  have hkj : ∀ x ∈ k ++ blanks j, (x != '=') = true := fun x hx => by
    rcases List.mem_append.mp hx with h | h
    · exact bne_iff_ne.mpr fun e => heq (e ▸ h)
    · exact eq_of_mem_blanks h ▸ rfl
  have hall : ∀ x ∈ hierPrefix ++ (k ++ blanks j), (x != '=') = true :=
    List.forall_mem_append.mpr ⟨by decide, hkj⟩
  refine ⟨?_, ?_, ?_⟩
  · unfold ffgknm
    rw [if_pos hpre, if_pos hcont, ← hc', List.drop_left' (l₁ := hierPrefix) (i := 9) rfl,
      takeWhile_append_stop _ _ '=' _ hkj rfl,
      lstrip_of_head _ (by obtain ⟨a, r, rfl⟩ := List.exists_cons_of_ne_nil hne; exact hhead),
      rstrip_append_blanks k j hlast]
  · rw [ffpsvc_hier c hpre hcont, ← hc, takeWhile_append_stop _ _ '=' _ hall rfl,
      show hierPrefix ++ (k ++ blanks j) ++ '=' :: ' ' :: quoted w =
        (hierPrefix ++ (k ++ blanks j) ++ ['=']) ++ (blanks 1 ++ quoted w) by rw [List.append_assoc _ ['=']]; rfl,
      List.drop_left' (l₁ := hierPrefix ++ (k ++ blanks j) ++ ['=']) (i := (hierPrefix ++ (k ++ blanks j)).length + 1)
        List.length_append, valTail_quoted 1 w hw, stripValue_quoted]
  · unfold isEndCard
    rw [← hc', List.take_append_of_le_length (by decide)]
    decide

/-- number of blanks a FITS round trip appends to the value `v` stored under key `k`: `ffs2c` pads to 8 characters;
    behind a long key the card may be full before that (`67 = cardLen - hierOverhead`, the columns name and value share) -/
def padOf (k v : Str) : Nat :=
  if k.length ≤ 8 then 8 - (v.length + countQuotes v)
  else min (8 - (v.length + countQuotes v)) (67 - k.length - (v.length + countQuotes v))

theorem padOf_le (k v : Str) : padOf k v ≤ 8 := by
  unfold padOf
  split
  · exact Nat.sub_le ..
  · exact Nat.le_trans (Nat.min_le_left ..) (Nat.sub_le ..)

theorem padOf_short {k : Str} (v : Str) (h : k.length ≤ 8) : padOf k v = 8 - (dbl v).length := by
  rw [padOf, if_pos h, length_dbl]

theorem padOf_long {k : Str} (v : Str) (h : 9 ≤ k.length) :
    padOf k v = min (8 - (dbl v).length) (67 - k.length - (dbl v).length) := by
  rw [padOf, if_neg (Nat.not_le.mpr h), length_dbl]

/-- the card of an entry, given the (unpadded) text `ffmkky` produced, and what the reader makes of it -/
theorem entry_of_text (k v w : Str) (h : List Char) (hmk : mkCard k (ffs2c v) = some (h ++ quoted w))
    (hh : PlainVal h) (hw : PlainVal w) (hres : reserved k = false)
    (hread : ffgknm (h ++ quoted w) = k ∧ stripValue (ffpsvc (h ++ quoted w)) = w ∧ isEndCard (h ++ quoted w) = false)
    (hl : 8 ≤ h.length) (hfit : h.length + (dbl w).length ≤ 78) :
    ∃ card, cardOf (k, v) = some card ∧ card.length = 80 ∧ isEndCard card = false ∧ entryOfCard card = some (k, w) := by
  have ht : (h ++ quoted w).length ≤ 80 := by
    rw [List.length_append, quoted, List.length_cons, List.length_append]
    exact Nat.add_le_add_right hfit 2
  refine ⟨h ++ quoted w ++ blanks (80 - (h ++ quoted w).length), ?_, ?_, ?_, ?_⟩
  · rw [cardOf, hmk, Option.map_some,
      map_sanitize _ (plainVal_append.mpr ⟨plainVal_append.mpr ⟨hh, plainVal_quoted w hw⟩, plainVal_blanks _⟩)]
  · rw [List.length_append, length_blanks, Nat.add_sub_of_le ht]
  · rw [isEndCard, List.append_assoc, List.take_append_of_le_length hl, ← List.take_append_of_le_length hl]
    exact hread.2.2
  · rw [entryOfCard, rstrip_card, hread.1, hread.2.1, hres]; rfl

theorem add_min_sub_le (n a c : Nat) (h : n ≤ c) : n + min a (c - n) ≤ c :=
  Nat.le_trans (Nat.add_le_add_left (Nat.min_le_right ..) n) (Nat.le_of_eq (Nat.add_sub_of_le h))

/-- the separator of a long key is one or no blank, then `= `; either way the padded value fits the card -/
theorem hierSep_eq (n d : Nat) (h : n + d ≤ 67) :
    ∃ j, hierSep n d = blanks j ++ ['=', ' '] ∧ n + j + (d + min (8 - d) (67 - n - d)) ≤ 67 := by
  unfold hierSep
  split
  · -- `"= "`: the padding is cut to the `67 - n - d` columns left
    exact ⟨0, rfl, Nat.le_trans (Nat.add_le_add_left (add_min_sub_le _ _ _ (Nat.le_sub_of_add_le' h)) n)
      (Nat.le_of_eq (Nat.add_sub_of_le (Nat.le_trans (Nat.le_add_right ..) h)))⟩
  · next hc =>
    -- `" = "`: name and padded value (`max d 8`) take at most 66 columns
    have hn : n + max d 8 ≤ 66 := Nat.le_of_add_le_add_left (Nat.add_assoc .. ▸ Nat.not_lt.mp hc)
    refine ⟨1, rfl, Nat.le_trans (Nat.add_le_add_left (Nat.add_le_add_left (Nat.min_le_left ..) d) _) ?_⟩
    rw [pad8_eq, Nat.add_right_comm]
    exact Nat.succ_le_succ hn

/-- the padded value passes the length test that let the value through -/
theorem add_padOf_short {k v : Str} (h : k.length ≤ 8) (hd : (dbl v).length ≤ 68) : (dbl v).length + padOf k v ≤ 68 := by
  rw [padOf_short v h, pad8_eq]
  exact Nat.max_le.mpr ⟨hd, by decide⟩

theorem add_padOf_long {k v : Str} (h : 9 ≤ k.length) (hfit : k.length + (dbl v).length ≤ 67) :
    k.length + ((dbl v).length + padOf k v) ≤ 67 := by
  obtain ⟨j, _, hj⟩ := hierSep_eq k.length (dbl v).length hfit
  rw [padOf_long v h]
  exact Nat.le_trans (Nat.add_le_add_right (Nat.le_add_right ..) _) hj

theorem entry_survives (k v : Str) (hval : validate k v = none) :
    ∃ card, cardOf (k, v) = some card ∧ card.length = 80 ∧ isEndCard card = false ∧
      entryOfCard card = some (k, v ++ blanks (padOf k v)) := by
  obtain ⟨hk, hv⟩ := validate_plain k v hval
  obtain ⟨hres, _, _, hshort, hlong, _⟩ := (validate_none_iff k v).mp hval
  have hwp : ∀ p, PlainVal (v ++ blanks p) := fun p => plainVal_append.mpr ⟨hv, plainVal_blanks p⟩
  rw [← length_dbl] at hshort hlong
  by_cases hlen : k.length ≤ 8
  · obtain ⟨ha, hd⟩ := hshort hlen
    have hpad := add_padOf_short hlen hd
    rw [padOf_short v hlen] at hpad ⊢
    -- the four goals left by `entry_of_text`: the text `ffmkky` gives, its read-back, a head of 8 columns or more,
    -- head and value within 78 columns (80 with the quotes)
    refine entry_of_text k v _ (k ++ blanks (8 - k.length) ++ ['=', ' ']) ?_
      (plainVal_append.mpr ⟨plainVal_append.mpr ⟨hk.print, plainVal_blanks _⟩, by decide⟩) (hwp _) hres ?_ ?_ ?_
    · rw [mkCard_short k v hlen ha hd, List.append_assoc, ← quoted_pad]
    · rw [List.append_assoc]
      exact read_std k _ hlen hk.ne ha hres hk.notEnd hk.notHistory hk.notContinue (length_dbl_pad v _ ▸ hpad)
    · rw [List.length_append, List.length_append, length_blanks, Nat.add_sub_of_le hlen]; decide
    · rw [length_dbl_pad, List.length_append, List.length_append, length_blanks, Nat.add_sub_of_le hlen]
      exact Nat.add_le_add_left hpad 10
  · have h9 : 9 ≤ k.length := Nat.not_le.mp hlen
    obtain ⟨⟨_, heq, _⟩, h66, hfit⟩ := hlong h9
    obtain ⟨j, hj, hjfit⟩ := hierSep_eq k.length (dbl v).length hfit
    rw [padOf_long v h9]
    generalize hp : min (8 - (dbl v).length) (67 - k.length - (dbl v).length) = p at hjfit ⊢
    refine entry_of_text k v _ (hierPrefix ++ (k ++ blanks j) ++ ['=', ' ']) ?_
      (plainVal_append.mpr ⟨plainVal_append.mpr ⟨by decide, plainVal_append.mpr ⟨hk.print, plainVal_blanks _⟩⟩, by decide⟩)
      (hwp _) hres ?_ ?_ ?_
    · rw [mkCard_long k v h9 h66 hfit hk.head hk.last heq hk.noHier, hj, hp]
      simp only [quoted_pad, List.append_assoc, List.cons_append]
    · rw [List.append_assoc _ ['=', ' ']]
      exact read_hier k _ j hk.ne hk.head hk.last heq
        (length_dbl_pad v _ ▸ Nat.le_trans (Nat.le_add_left ..) (Nat.le_trans hjfit (by decide)))
    · rw [List.length_append, List.length_append]
      exact Nat.le_trans (by decide : 8 ≤ hierPrefix.length) (Nat.le_trans (Nat.le_add_right ..) (Nat.le_add_right ..))
    · rw [length_dbl_pad, List.length_append, List.length_append, List.length_append, length_blanks]
      show 9 + (k.length + j) + 2 + _ ≤ 78
      omega

/-- the store with every value padded as a FITS round trip pads it -/
def padStore (st : Store) : Store := st.map fun e => (e.1, e.2 ++ blanks (padOf e.1 e.2))

theorem untilEnd_id (cards : List (List Char)) (h : ∀ c ∈ cards, isEndCard c = false) : untilEnd cards = cards := by
  induction cards with
  | nil => rfl
  | cons c r ih =>
    obtain ⟨hc, hr⟩ := List.forall_mem_cons.mp h
    rw [untilEnd, hc, if_neg Bool.false_ne_true, ih hr]

/-- `pre`: the structural cards of the primary header -/
theorem filterMap_reserved_cards (pre cards : List (List Char))
    (h : ∀ c ∈ pre, reserved (ffgknm (rstrip c)) = true) :
    (pre ++ cards).filterMap entryOfCard = cards.filterMap entryOfCard := by
  induction pre with
  | nil => rfl
  | cons c r ih =>
    obtain ⟨hc, hr⟩ := List.forall_mem_cons.mp h
    rw [List.cons_append, List.filterMap_cons, show entryOfCard c = none from if_pos hc]
    exact ih hr

theorem cards_of_accepted (st : Store) (h : Accepted st) :
    ∃ cards, st.mapM cardOf = some cards ∧ (∀ c ∈ cards, isEndCard c = false) ∧
      cards.filterMap entryOfCard = padStore st := by
  induction st with
  | nil => exact ⟨[], rfl, List.forall_mem_nil _, rfl⟩
  | cons e r ih =>
    obtain ⟨he, hr⟩ := List.forall_mem_cons.mp h
    obtain ⟨cards, h1, h2, h3⟩ := ih hr
    obtain ⟨card, c1, _, c2, c3⟩ := entry_survives e.1 e.2 he
    refine ⟨card :: cards, ?_, List.forall_mem_cons.mpr ⟨c2, h2⟩, ?_⟩
    · rw [List.mapM_cons, show cardOf e = some card from c1, h1]; rfl
    · rw [List.filterMap_cons, c3, h3]; rfl

theorem fitsTrip_accepted (st : Store) (h : Accepted st) : fitsTrip st = some (padStore st) := by
  obtain ⟨cards, h1, h2, h3⟩ := cards_of_accepted st h
  rw [fitsTrip, h1, Option.map_some, untilEnd_id cards h2, h3]

end PsV.Aux
