import PsV.Proofs.SyncSelect
/-! C12: the transitions of the hand-shake model `PsV.Sync` as relations (`CStep`, `WStep`, `Spur`), the
inductive invariant `Inv` with one preservation lemma per kind of move and, beside it, which blocks have been started
(`BlkInv`); every schedule that runs ends in a reachable state. -/
namespace PsV.Sync

theorem loopHead_cases (c : Cfg) (i : Nat) (b : Bool) :
    (loopHead c i b = .lockA ∧ i < c.blocks ∧ b = false) ∨ (loopHead c i b = .lockT ∧ (i < c.blocks → b = true)) := by
  unfold loopHead
  cases b <;> by_cases h : i < c.blocks <;> simp [h]

def cHolds : CPc → Bool
  | .bcastA | .unlockA | .condWait | .unlockB | .bcastT | .unlockT => true
  | _ => false
def wHolds : WPc → Bool
  | .hold | .bcast | .unlock2 => true
  | _ => false
def inBlock : CPc → Bool
  | .bcastA | .unlockA | .lockB | .condWait | .waiting | .woken | .unlockB => true
  | _ => false
def termPhase : CPc → Bool
  | .bcastT | .unlockT | .join _ | .final => true
  | _ => false
def isCreate : CPc → Bool
  | .create _ => true
  | _ => false
def isBcast : CPc → Bool
  | .bcastA | .bcastT => true
  | _ => false

/-- the pcs at which a worker has a next pthread call -/
def pcLive : WPc → Bool
  | .lock1 | .hold | .woken | .lock2 | .bcast | .unlock2 | .exit => true
  | _ => false

theorem termPhase_of_inBlock {p : CPc} (h : inBlock p = true) : termPhase p = false := by
  cases p <;> first | rfl | cases h

theorem wakeC_of_ne {p : CPc} (h : p ≠ .waiting) : wakeC p = p := by
  cases p <;> first | rfl | exact absurd rfl h
theorem wakeC_ne_waiting (p : CPc) : wakeC p ≠ .waiting := by cases p <;> nofun
theorem termPhase_wakeC (p : CPc) : termPhase (wakeC p) = termPhase p := by cases p <;> rfl

theorem inBlock_wakeC (p : CPc) : inBlock (wakeC p) = inBlock p := by cases p <;> rfl

theorem termPhase_loopHead (c : Cfg) (i : Nat) (b : Bool) : termPhase (loopHead c i b) = false := by
  rcases loopHead_cases c i b with ⟨h, _⟩ | ⟨h, _⟩ <;> rw [h] <;> rfl

theorem inBlock_loopHead (c : Cfg) (i : Nat) (b : Bool) : inBlock (loopHead c i b) = false := by
  rcases loopHead_cases c i b with ⟨h, _⟩ | ⟨h, _⟩ <;> rw [h] <;> rfl

/-- The inductive invariant of the hand-shake.  Phases of the coordinator: thread creation (`isCreate`), the head of
   the block loop (`lockA`, and `lockT` when the loop is left), inside a block (`inBlock`), teardown (`termPhase`). -/
structure Inv (c : Cfg) (s : State) : Prop where
  -- mutex discipline: the coordinator owns the mutex exactly between its `lock`/wake-up and its `unlock`/`cond_wait`
  own0 : s.owner = some 0 ↔ cHolds s.cpc = true
  -- ... and worker `w` exactly at `hold`, `bcast`, `unlock2`; hence at most one thread is in a critical section
  ownW : ∀ w, s.owner = some (w+1) ↔ wHolds (s.wpc w) = true
  -- there are only `n` workers
  idleOut : ∀ w, c.n ≤ w → s.wpc w = .idle
  -- creation: before `pthread_create` number `k` exactly the workers below `k` exist
  created : ∀ k, s.cpc = .create k → k < c.n ∧ (∀ w, w < k → s.wpc w ≠ .idle) ∧ (∀ w, k ≤ w → s.wpc w = .idle)
  -- after the creation loop all workers exist
  createdAll : isCreate s.cpc = false → ∀ w, w < c.n → s.wpc w ≠ .idle
  -- teardown: `pthread_join` is called for existing workers only
  joinLt : ∀ k, s.cpc = .join k → k < c.n
  -- a worker in the wait set has state WAIT, except between the coordinator's write of the states (RUN or TERMINATE)
  -- and its broadcast
  waitSt : ∀ w, s.wpc w = .waiting → s.st w = .wait ∨ isBcast s.cpc = true
  -- TERMINATE is written at `lockT` and nowhere else ...
  noTerm : termPhase s.cpc = false → ∀ w, s.st w ≠ .term
  -- ... for every worker
  allTerm : termPhase s.cpc = true → ∀ w, w < c.n → s.st w = .term
  -- teardown: no worker is computing or publishing any more
  termPcs : termPhase s.cpc = true → ∀ w, s.wpc w ≠ .lock2 ∧ s.wpc w ≠ .bcast ∧ s.wpc w ≠ .unlock2
  -- a worker exits only after it has seen TERMINATE
  exitTerm : ∀ w, (s.wpc w = .exit ∨ s.wpc w = .done) → termPhase s.cpc = true
  -- RUN is written at `lockA`, for the active workers of the current block, and is reset before the block ends
  runBlock : ∀ w, s.st w = .run → inBlock s.cpc = true ∧ w < c.active s.blk
  -- the compute region (between the `unlock` after seeing RUN and the `lock` that publishes) is entered with state RUN
  -- only, and the state stays RUN in it
  lock2Run : ∀ w, s.wpc w = .lock2 → s.st w = .run
  -- inside block `blk`: active worker `j` was handed `alpha[blk*n+j]`, and has either not reported back yet or holds
  -- the result for that index
  blockVals : inBlock s.cpc = true → ∀ j, j < c.active s.blk →
      s.aidx j = s.blk * c.n + j ∧ (s.st j = .run ∨ s.val j = some (s.blk * c.n + j))
  -- the wait loop is left (`done`) only when every active worker is back in state WAIT
  unlockBAll : s.cpc = .unlockB → ∀ j, j < c.active s.blk → s.st j = .wait
  -- repaired wait loop: the coordinator calls `pthread_cond_wait` only after it has seen a worker in state RUN ...
  condRun : c.repaired = true → s.cpc = .condWait → ∃ j, j < c.active s.blk ∧ s.st j = .run
  -- ... so while it is in the wait set somebody is still going to broadcast: no lost wake-up
  waitRun : c.repaired = true → s.cpc = .waiting →
      (∃ j, j < c.active s.blk ∧ s.st j = .run) ∨ (∃ w, s.wpc w = .bcast)
  -- the result scan: nothing scanned during creation,
  accCreate : isCreate s.cpc = true → s.base = none ∧ s.chosen = none ∧ s.blk = 0
  -- the indices of the finished blocks scanned in order while block `blk` is processed (`success` not yet set, and
  -- block `blk` is not empty),
  accLoop : (s.cpc = .lockA ∨ inBlock s.cpc = true) →
      (s.base, s.chosen) = flat c.less c.m (s.blk * c.n) ∧ s.chosen = none ∧ s.blk * c.n < c.m
  -- the sequential result once the loop has been left
  accDone : (s.cpc = .lockT ∨ termPhase s.cpc = true) → (s.base, s.chosen) = flat c.less c.m c.m

theorem allWait_iff (c : Cfg) (s : State) : allWait c s = true ↔ ∀ j, j < c.active s.blk → s.st j = .wait := by
  simp [allWait, List.all_eq_true]

theorem Inv.no_run {c : Cfg} {s : State} (h : Inv c s) (hq : inBlock s.cpc = false ∨ s.cpc = .unlockB) (w : Nat) :
    s.st w ≠ .run := fun e =>
  hq.elim (fun hb => ne_true_of_eq_false hb (h.runBlock w e).1) fun hp => by
    have := h.unlockBAll hp w (h.runBlock w e).2
    rw [e] at this; cases this

theorem Inv.no_lock2 {c : Cfg} {s : State} (h : Inv c s) (hq : inBlock s.cpc = false ∨ s.cpc = .unlockB) (w : Nat) :
    s.wpc w ≠ .lock2 := fun e => h.no_run hq w (h.lock2Run w e)

theorem Inv.lock2_active {c : Cfg} {s : State} (h : Inv c s) {w : Nat} (hp : s.wpc w = .lock2) :
    s.st w = .run ∧ inBlock s.cpc = true ∧ w < c.active s.blk ∧ s.aidx w = s.blk * c.n + w :=
  have hrun := h.lock2Run w hp
  have hb := h.runBlock w hrun
  ⟨hrun, hb.1, hb.2, (h.blockVals hb.1 w hb.2).1⟩

theorem Inv.ready {c : Cfg} {s : State} (h : Inv c s) (hp : s.cpc = .unlockB) (j : Nat) (hj : j < c.active s.blk) :
    s.val j = some (s.blk * c.n + j) :=
  (h.blockVals (by rw [hp]; rfl) j hj).2.resolve_left (by rw [h.unlockBAll hp j hj]; nofun)

theorem upd_self {α : Type} (f : Nat → α) (w : Nat) (v : α) : upd f w v w = v := if_pos rfl
theorem upd_ne {α : Type} (f : Nat → α) {w k : Nat} (v : α) (h : k ≠ w) : upd f w v k = f k := if_neg h
theorem upd_upd_self {α : Type} (f : Nat → α) (w : Nat) (a b : α) : upd (upd f w a) w b = upd f w b := by
  funext k; simp only [upd]; split <;> rfl
theorem upd_same {α : Type} (f : Nat → α) (w : Nat) : upd f w (f w) = f := by
  funext k; simp only [upd]; split
  · rename_i h; rw [h]
  · rfl

theorem forall_upd {α : Type} {P : Nat → α → Prop} {f : Nat → α} {w : Nat} (h : ∀ k, k ≠ w → P k (f k)) {v : α}
    (hv : P w v) : ∀ k, P k (upd f w v k) := by
  intro k
  by_cases hk : k = w
  · subst hk; rw [upd_self]; exact hv
  · rw [upd_ne _ _ hk]; exact h k hk

theorem wakeAll_eq_iff (f : Nat → WPc) (k : Nat) (p : WPc) (hp : p ≠ .waiting) (hp' : p ≠ .woken) :
    wakeAll f k = p ↔ f k = p := by
  unfold wakeAll
  split
  · rename_i hk; rw [hk]; exact iff_of_false (Ne.symm hp') (Ne.symm hp)
  · exact Iff.rfl

theorem wHolds_wakeAll (f : Nat → WPc) (k : Nat) : wHolds (wakeAll f k) = wHolds (f k) := by
  unfold wakeAll
  split
  · rename_i hk; rw [hk]; rfl
  · rfl

/-- `stepC` as a relation: one constructor per pthread call of the coordinator -/
inductive CStep (c : Cfg) (s : State) : State → Prop
  | create {k : Nat} : s.cpc = .create k →
      CStep c s { s with wpc := upd s.wpc k .lock1,
                         cpc := if k + 1 < c.n then .create (k+1) else loopHead c 0 false }
  | lockA : s.cpc = .lockA → s.owner = none →
      CStep c s { s with owner := some 0,
                         st := fun j => if j < c.active s.blk then .run else s.st j,
                         aidx := fun j => if j < c.active s.blk then s.blk * c.n + j else s.aidx j,
                         cpc := .bcastA }
  | bcastA : s.cpc = .bcastA → CStep c s { s with wpc := wakeAll s.wpc, cpc := .unlockA }
  | unlockA : s.cpc = .unlockA → CStep c s { s with owner := none, cpc := .lockB }
  | lockB : s.cpc = .lockB → s.owner = none →
      CStep c s { s with owner := some 0, cpc := if c.repaired && allWait c s then .unlockB else .condWait }
  | condWait : s.cpc = .condWait → CStep c s { s with owner := none, cpc := .waiting }
  | woken : s.cpc = .woken → s.owner = none →
      CStep c s { s with owner := some 0, cpc := if allWait c s then .unlockB else .condWait }
  | unlockB : s.cpc = .unlockB →
      CStep c s { s with owner := none, base := (scan c s.val s.blk (s.base, s.chosen)).1,
                         chosen := (scan c s.val s.blk (s.base, s.chosen)).2, calcs := s.calcs + c.n,
                         blk := s.blk + 1,
                         cpc := loopHead c (s.blk + 1) (scan c s.val s.blk (s.base, s.chosen)).2.isSome }
  | lockT : s.cpc = .lockT → s.owner = none →
      CStep c s { s with owner := some 0, st := fun j => if j < c.n then .term else s.st j, cpc := .bcastT }
  | bcastT : s.cpc = .bcastT → CStep c s { s with wpc := wakeAll s.wpc, cpc := .unlockT }
  | unlockT : s.cpc = .unlockT → CStep c s { s with owner := none, cpc := .join 0 }
  | join {k : Nat} : s.cpc = .join k → s.wpc k = .done →
      CStep c s { s with cpc := if k + 1 < c.n then .join (k+1) else .final }

theorem stepC_cases {c : Cfg} {s s' : State} (hs : stepC c s = some s') : CStep c s s' := by
  unfold stepC at hs
  split at hs
  · cases hs; exact .create ‹_›
  · split at hs
    · cases hs; exact .lockA ‹_› ‹_›
    · cases hs
  · cases hs; exact .bcastA ‹_›
  · cases hs; exact .unlockA ‹_›
  · split at hs
    · cases hs; exact .lockB ‹_› ‹_›
    · cases hs
  · cases hs; exact .condWait ‹_›
  · cases hs
  · split at hs
    · cases hs; exact .woken ‹_› ‹_›
    · cases hs
  · cases hs; exact .unlockB ‹_›
  · split at hs
    · cases hs; exact .lockT ‹_› ‹_›
    · cases hs
  · cases hs; exact .bcastT ‹_›
  · cases hs; exact .unlockT ‹_›
  · split at hs
    · cases hs; exact .join ‹_› ‹_›
    · cases hs
  · cases hs

/-- `stepW` as a relation: one constructor per pthread call of worker `w` -/
inductive WStep (s : State) (w : Nat) : State → Prop
  | lock1 : s.wpc w = .lock1 → s.owner = none →
      WStep s w { s with owner := some (w+1), wpc := upd s.wpc w .hold }
  | holdWait : s.wpc w = .hold → s.st w = .wait → WStep s w { s with owner := none, wpc := upd s.wpc w .waiting }
  | holdRun : s.wpc w = .hold → s.st w = .run → WStep s w { s with owner := none, wpc := upd s.wpc w .lock2 }
  | holdTerm : s.wpc w = .hold → s.st w = .term → WStep s w { s with owner := none, wpc := upd s.wpc w .exit }
  | woken : s.wpc w = .woken → s.owner = none →
      WStep s w { s with owner := some (w+1), wpc := upd s.wpc w .hold }
  | lock2 : s.wpc w = .lock2 → s.owner = none →
      WStep s w { s with owner := some (w+1), val := upd s.val w (some (s.aidx w)), st := upd s.st w .wait,
                         wpc := upd s.wpc w .bcast }
  | bcast : s.wpc w = .bcast → WStep s w { s with cpc := wakeC s.cpc, wpc := upd (wakeAll s.wpc) w .unlock2 }
  | unlock2 : s.wpc w = .unlock2 → WStep s w { s with owner := none, wpc := upd s.wpc w .lock1 }
  | exit : s.wpc w = .exit → WStep s w { s with wpc := upd s.wpc w .done }

theorem stepW_cases {s s' : State} {w : Nat} (hs : stepW s w = some s') : WStep s w s' := by
  unfold stepW at hs
  split at hs
  · cases hs
  · split at hs
    · cases hs; exact .lock1 ‹_› ‹_›
    · cases hs
  · split at hs
    · cases hs; exact .holdWait ‹_› ‹_›
    · cases hs; exact .holdRun ‹_› ‹_›
    · cases hs; exact .holdTerm ‹_› ‹_›
  · cases hs
  · split at hs
    · cases hs; exact .woken ‹_› ‹_›
    · cases hs
  · split at hs
    · cases hs; exact .lock2 ‹_› ‹_›
    · cases hs
  · cases hs; exact .bcast ‹_›
  · cases hs; exact .unlock2 ‹_›
  · cases hs; exact .exit ‹_›
  · cases hs

/-- the two spurious wake-ups, as `CStep` and `WStep` give the transitions -/
inductive Spur (c : Cfg) (s : State) : Nat → State → Prop
  | coord : s.cpc = .waiting → Spur c s 0 { s with cpc := .woken }
  | worker {w : Nat} : w < c.n → s.wpc w = .waiting → Spur c s (w+1) { s with wpc := upd s.wpc w .woken }

theorem spur_cases {c : Cfg} {s s' : State} {t : Nat} (hs : spur? c s t = some s') : Spur c s t s' := by
  cases t <;> simp only [spur?] at hs <;> split at hs <;> cases hs
  · exact .coord ‹_›
  · exact .worker ‹_ ∧ _›.1 ‹_ ∧ _›.2

theorem step_succ {c : Cfg} {s s' : State} {w : Nat} (hs : step? c s (w+1) = some s') :
    w < c.n ∧ stepW s w = some s' := by
  simp only [step?] at hs
  split at hs
  · exact ⟨‹_›, hs⟩
  · cases hs

/-! Most transitions move one thread to its next pc and hand the mutex over; `Inv.cmove` and `Inv.wmove` say what such a
move has to establish, as a table indexed by the pc the thread arrives at.  A broadcast is `Inv.broadcast` followed
by a move, the publication of a result is a move followed by `Inv.publish`.  The four coordinator transitions that
change the phase of the loop (`create`, `lockA`, `unlockB`, `lockT`) are treated one by one; two of them end outside
the blocks, where `Inv.outside` says what is left of the invariant (`Inv.atHead` at the head of the block loop).
Each lemma builds the invariant of the new state as `{ h with … }`: a clause that is not listed mentions only fields the
transition leaves alone, so its statement at `{ s with … }` unfolds to the one `h` proves. -/

theorem owner_acquire {o : Option Nat} (ho : o = none) (t : Nat) : ∀ u, u ≠ t → (some t = some u ↔ o = some u) :=
  fun u hu => by rw [ho]; exact iff_of_false (fun e => hu (Option.some.inj e).symm) nofun

theorem owner_release {o : Option Nat} {t : Nat} (ho : o = some t) : ∀ u, u ≠ t → (none = some u ↔ o = some u) :=
  fun u hu => by rw [ho]; exact iff_of_false nofun (fun e => hu (Option.some.inj e).symm)

/-- what a move of thread `t` does to the lock: it holds the lock at its old pc or not (`b`) and at its new one or not
    (`b'`), and the owner `o` becomes `o'`.  A thread takes the free lock, gives up the one it holds, or leaves the
    lock as it is. -/
def LockMove (t : Nat) (o : Option Nat) (b : Bool) (o' : Option Nat) (b' : Bool) : Prop :=
  (o = some t ↔ b = true) → (o' = some t ↔ b' = true) ∧ ∀ u, u ≠ t → (o' = some u ↔ o = some u)

theorem LockMove.acquire {o : Option Nat} {b : Bool} {t : Nat} (ho : o = none) : LockMove t o b (some t) true :=
  fun _ => ⟨iff_of_true rfl rfl, owner_acquire ho t⟩

theorem LockMove.release {o : Option Nat} {t : Nat} : LockMove t o true none false :=
  fun h => ⟨iff_of_false nofun nofun, owner_release (h.mpr rfl)⟩

theorem LockMove.keep {o : Option Nat} {b : Bool} {t : Nat} : LockMove t o b o b :=
  fun h => ⟨h, fun _ _ => Iff.rfl⟩

/-- what the clauses of `Inv` that name a coordinator pc ask of the state when the coordinator arrives at that pc by a
    move inside a phase of its loop; the pcs that open a phase cannot be reached this way -/
def ArriveC (c : Cfg) (s : State) : CPc → Prop
  | .create _ | .lockA | .lockT | .bcastA | .bcastT => False
  | .join k => k < c.n
  | .unlockB => ∀ j, j < c.active s.blk → s.st j = .wait
  | .condWait => c.repaired = true → ∃ j, j < c.active s.blk ∧ s.st j = .run
  | .waiting => c.repaired = true → (∃ j, j < c.active s.blk ∧ s.st j = .run) ∨ (∃ w, s.wpc w = .bcast)
  | _ => True

/-- what the clauses of `Inv` that name a worker pc ask of the state when worker `w` arrives at that pc -/
def ArriveW (s : State) (w : Nat) : WPc → Prop
  | .idle => False
  | .waiting => s.st w = .wait ∨ isBcast s.cpc = true
  | .lock2 => s.st w = .run ∧ termPhase s.cpc = false
  | .bcast | .unlock2 => termPhase s.cpc = false
  | .exit | .done => termPhase s.cpc = true
  | _ => True

theorem Inv.cmove {c : Cfg} {s : State} (h : Inv c s) {p : CPc} (hp : s.cpc = p) (q : CPc) {o : Option Nat}
    (hl : LockMove 0 s.owner (cHolds p) o (cHolds q))
    (hcr : isCreate p = false) (htp : termPhase q = termPhase p) (hib : inBlock q = inBlock p)
    (hbc : isBcast p = true → ∀ w, s.wpc w ≠ .waiting)
    (harr : ArriveC c s q) :
    Inv c { s with owner := o, cpc := q } := by
  subst hp
  obtain ⟨hoq, hown⟩ := hl h.own0
  have hq : isCreate q = false ∧ isBcast q = false ∧ q ≠ .lockA ∧ q ≠ .lockT := by
    cases q <;> first | exact harr.elim | exact ⟨rfl, rfl, nofun, nofun⟩
  exact { h with
    own0 := hoq
    ownW := fun w => (hown (w+1) (Nat.succ_ne_zero w)).trans (h.ownW w)
    created := fun k (hk : q = .create k) => by subst hk; exact harr.elim
    createdAll := fun _ => h.createdAll hcr
    joinLt := fun k (hk : q = .join k) => by subst hk; exact harr
    waitSt := fun w hw => (h.waitSt w hw).elim Or.inl fun hb => absurd hw (hbc hb w)
    noTerm := fun (ht : termPhase q = false) => h.noTerm (htp ▸ ht)
    allTerm := fun (ht : termPhase q = true) => h.allTerm (htp ▸ ht)
    termPcs := fun (ht : termPhase q = true) => h.termPcs (htp ▸ ht)
    exitTerm := fun w hw => htp ▸ h.exitTerm w hw
    runBlock := fun w hw => hib ▸ h.runBlock w hw
    blockVals := fun (hb : inBlock q = true) => h.blockVals (hib ▸ hb)
    unlockBAll := fun (hk : q = .unlockB) => by subst hk; exact harr
    condRun := fun hr (hk : q = .condWait) => by subst hk; exact harr hr
    waitRun := fun hr (hk : q = .waiting) => by subst hk; exact harr hr
    accCreate := fun (hk : isCreate q = true) => (ne_true_of_eq_false hq.1 hk).elim
    accLoop := fun (hk : q = .lockA ∨ inBlock q = true) =>
      h.accLoop (hk.elim (fun e => absurd e hq.2.2.1) fun hb => Or.inr (hib ▸ hb))
    accDone := fun (hk : q = .lockT ∨ termPhase q = true) =>
      h.accDone (hk.elim (fun e => absurd e hq.2.2.2) fun hb => Or.inr (htp ▸ hb)) }

theorem Inv.wmove {c : Cfg} {s : State} (h : Inv c s) {w : Nat} (hw : w < c.n) {p : WPc} (hp : s.wpc w = p)
    (q : WPc) {o : Option Nat} (hl : LockMove (w+1) s.owner (wHolds p) o (wHolds q))
    (hpi : p ≠ .idle) (hpb : p = .bcast → s.cpc ≠ .waiting)
    (harr : ArriveW s w q) :
    Inv c { s with owner := o, wpc := upd s.wpc w q } := by
  subst hp
  obtain ⟨hoq, hown⟩ := hl (h.ownW w)
  exact { h with
    own0 := (hown 0 (Nat.succ_ne_zero w).symm).trans h.own0
    ownW := forall_upd (P := fun k (r : WPc) => o = some (k+1) ↔ wHolds r = true)
      (fun k hk => (hown (k+1) (fun e => hk (Nat.succ.inj e))).trans (h.ownW k)) hoq
    idleOut := forall_upd (P := fun k (r : WPc) => c.n ≤ k → r = .idle) (fun k _ => h.idleOut k)
      fun hle => absurd hw (Nat.not_lt.mpr hle)
    created := fun k hk =>
      have hc := h.created k hk
      have hwk : w < k := Nat.lt_of_not_le fun hle => hpi (hc.2.2 w hle)
      ⟨hc.1, forall_upd (P := fun j (r : WPc) => j < k → r ≠ .idle) (fun j _ => hc.2.1 j) fun _ e => by subst e; exact harr,
        forall_upd (P := fun j (r : WPc) => k ≤ j → r = .idle) (fun j _ => hc.2.2 j) fun hle => absurd hwk (Nat.not_lt.mpr hle)⟩
    createdAll := fun hc => forall_upd (P := fun j (r : WPc) => j < c.n → r ≠ .idle) (fun j _ => h.createdAll hc j)
      fun _ e => by subst e; exact harr
    waitSt := forall_upd (P := fun j (r : WPc) => r = .waiting → s.st j = .wait ∨ isBcast s.cpc = true)
      (fun j _ => h.waitSt j) fun e => by subst e; exact harr
    termPcs := fun ht => forall_upd (P := fun _ (r : WPc) => r ≠ .lock2 ∧ r ≠ .bcast ∧ r ≠ .unlock2)
      (fun j _ => h.termPcs ht j)
      ⟨fun e => by subst e; exact ne_true_of_eq_false harr.2 ht, fun e => by subst e; exact ne_true_of_eq_false harr ht,
        fun e => by subst e; exact ne_true_of_eq_false harr ht⟩
    exitTerm := forall_upd (P := fun _ (r : WPc) => (r = .exit ∨ r = .done) → termPhase s.cpc = true)
      (fun j _ => h.exitTerm j) fun e => by rcases e with e | e <;> subst e <;> exact harr
    lock2Run := forall_upd (P := fun j (r : WPc) => r = .lock2 → s.st j = .run) (fun j _ => h.lock2Run j)
      fun e => by subst e; exact harr.1
    waitRun := fun hr hc => (h.waitRun hr hc).imp_right fun ⟨k, hk⟩ =>
      ⟨k, (upd_ne _ _ fun e => hpb ((congrArg s.wpc e).symm.trans hk) hc).trans hk⟩ }

/-- a broadcast empties the wait set; no clause of `Inv` distinguishes `waiting` from `woken` otherwise -/
theorem Inv.broadcast {c : Cfg} {s : State} (h : Inv c s) :
    Inv c { s with wpc := wakeAll s.wpc } ∧ ∀ w, wakeAll s.wpc w ≠ .waiting := by
  have idle := fun k => wakeAll_eq_iff s.wpc k .idle nofun nofun
  refine ⟨?_, fun w => ?_⟩
  · exact { h with
      ownW := fun w => (h.ownW w).trans (by rw [wHolds_wakeAll])
      idleOut := fun w hw => (idle w).mpr (h.idleOut w hw)
      created := fun k hk =>
        have hc := h.created k hk
        ⟨hc.1, fun w hw e => hc.2.1 w hw ((idle w).mp e), fun w hw => (idle w).mpr (hc.2.2 w hw)⟩
      createdAll := fun hc w hw e => h.createdAll hc w hw ((idle w).mp e)
      waitSt := fun w (hw : wakeAll s.wpc w = .waiting) => by
        unfold wakeAll at hw; split at hw
        · cases hw
        · exact absurd hw ‹_›
      termPcs := fun ht w =>
        have ht := h.termPcs ht w
        ⟨fun e => ht.1 ((wakeAll_eq_iff _ _ .lock2 nofun nofun).mp e),
          fun e => ht.2.1 ((wakeAll_eq_iff _ _ .bcast nofun nofun).mp e),
          fun e => ht.2.2 ((wakeAll_eq_iff _ _ .unlock2 nofun nofun).mp e)⟩
      exitTerm := fun w hw => h.exitTerm w
        (hw.imp (wakeAll_eq_iff _ _ .exit nofun nofun).mp (wakeAll_eq_iff _ _ .done nofun nofun).mp)
      lock2Run := fun w hw => h.lock2Run w ((wakeAll_eq_iff _ _ .lock2 nofun nofun).mp hw)
      waitRun := fun hr hc => (h.waitRun hr hc).imp_right fun ⟨k, hk⟩ => ⟨k, (wakeAll_eq_iff _ _ .bcast nofun nofun).mpr hk⟩ }
  · unfold wakeAll
    split
    · nofun
    · assumption

theorem Inv.publish {c : Cfg} {s : State} (h : Inv c s) {w : Nat} (hp : s.wpc w = .bcast) (hrun : s.st w = .run) :
    Inv c { s with val := upd s.val w (some (s.aidx w)), st := upd s.st w .wait } :=
  have hb := h.runBlock w hrun
  have hne : ∀ k p, p ≠ .bcast → s.wpc k = p → k ≠ w := fun k p hpb hk e => hpb ((e ▸ hk).symm.trans hp)
  { h with
    waitSt := fun k hk => (h.waitSt k hk).imp_left fun e => (upd_ne _ _ (hne k .waiting nofun hk)).trans e
    noTerm := fun ht => forall_upd (P := fun _ (x : WSt) => x ≠ .term) (fun k _ => h.noTerm ht k) nofun
    allTerm := fun ht => (ne_true_of_eq_false (termPhase_of_inBlock hb.1) ht).elim
    runBlock := forall_upd (P := fun k (x : WSt) => x = .run → inBlock s.cpc = true ∧ k < c.active s.blk)
      (fun k _ => h.runBlock k) nofun
    lock2Run := fun k hk => (upd_ne _ _ (hne k .lock2 nofun hk)).trans (h.lock2Run k hk)
    blockVals := fun hib j hj => by
      have hv := h.blockVals hib j hj
      refine ⟨hv.1, ?_⟩
      by_cases e : j = w
      · subst e; exact Or.inr ((upd_self ..).trans (congrArg some hv.1))
      · exact hv.2.imp (upd_ne _ _ e).trans (upd_ne _ _ e).trans
    unlockBAll := fun hc => forall_upd (P := fun j (x : WSt) => j < c.active s.blk → x = .wait)
      (fun j _ => h.unlockBAll hc j) fun _ => rfl
    condRun := fun _ hc => by
      have h0 := h.own0.mpr (by rw [hc]; rfl)
      have hw := (h.ownW w).mpr (by rw [hp]; rfl)
      rw [h0] at hw; cases hw
    waitRun := fun _ _ => Or.inr ⟨w, hp⟩ }

theorem Inv.lockA {c : Cfg} {s : State} (h : Inv c s) (hp : s.cpc = .lockA) (ho : s.owner = none) :
    Inv c { s with owner := some 0, st := fun j => if j < c.active s.blk then .run else s.st j,
                   aidx := fun j => if j < c.active s.blk then s.blk * c.n + j else s.aidx j, cpc := .bcastA } :=
  have hnt : termPhase s.cpc = false := by rw [hp]; rfl
  have hnorun := h.no_run (Or.inl (by rw [hp]; rfl))
  { h with
    own0 := iff_of_true rfl rfl
    ownW := fun w => (owner_acquire ho 0 (w+1) (Nat.succ_ne_zero w)).trans (h.ownW w)
    created := nofun
    createdAll := fun _ => h.createdAll (by rw [hp]; rfl)
    joinLt := nofun
    waitSt := fun _ _ => Or.inr rfl
    noTerm := fun _ w => by
      show (if w < c.active s.blk then WSt.run else s.st w) ≠ .term
      split
      · nofun
      · exact h.noTerm hnt w
    allTerm := nofun
    termPcs := nofun
    exitTerm := fun w hw => (ne_true_of_eq_false hnt (h.exitTerm w hw)).elim
    runBlock := fun w (hw : (if w < c.active s.blk then WSt.run else s.st w) = .run) => by
      split at hw
      · exact ⟨rfl, ‹_›⟩
      · exact absurd hw (hnorun w)
    lock2Run := fun w hw => absurd hw (h.no_lock2 (Or.inl (by rw [hp]; rfl)) w)
    blockVals := fun _ j hj => ⟨if_pos hj, Or.inl (if_pos hj)⟩
    unlockBAll := nofun
    condRun := nofun
    waitRun := nofun
    accCreate := nofun
    accLoop := fun _ => h.accLoop (Or.inl hp)
    accDone := nofun }

theorem Inv.lockT {c : Cfg} {s : State} (h : Inv c s) (hp : s.cpc = .lockT) (ho : s.owner = none) :
    Inv c { s with owner := some 0, st := fun j => if j < c.n then .term else s.st j, cpc := .bcastT } :=
  have hnorun := h.no_run (Or.inl (by rw [hp]; rfl))
  have hfree : ∀ w, wHolds (s.wpc w) ≠ true := fun w e => by have := (h.ownW w).mpr e; rw [ho] at this; cases this
  { h with
    own0 := iff_of_true rfl rfl
    ownW := fun w => (owner_acquire ho 0 (w+1) (Nat.succ_ne_zero w)).trans (h.ownW w)
    created := nofun
    createdAll := fun _ => h.createdAll (by rw [hp]; rfl)
    joinLt := nofun
    waitSt := fun _ _ => Or.inr rfl
    noTerm := nofun
    allTerm := fun _ w hw => if_pos hw
    termPcs := fun _ w =>
      ⟨h.no_lock2 (Or.inl (by rw [hp]; rfl)) w, fun e => hfree w (by rw [e]; rfl), fun e => hfree w (by rw [e]; rfl)⟩
    exitTerm := fun _ _ => rfl
    runBlock := fun w (hw : (if w < c.n then WSt.term else s.st w) = .run) => by
      split at hw
      · cases hw
      · exact absurd hw (hnorun w)
    lock2Run := fun w hw => absurd hw (h.no_lock2 (Or.inl (by rw [hp]; rfl)) w)
    blockVals := nofun
    unlockBAll := nofun
    condRun := nofun
    waitRun := nofun
    accCreate := nofun
    accLoop := nofun
    accDone := fun _ => h.accDone (Or.inl hp) }

theorem Inv.st_wait {c : Cfg} {s : State} (h : Inv c s) (hnt : termPhase s.cpc = false) (w : Nat)
    (hnr : s.st w ≠ .run) : s.st w = .wait := by
  have := h.noTerm hnt w
  cases hs : s.st w
  · rfl
  · exact absurd hs hnr
  · exact absurd hs this

/-- The invariant at a pc outside the blocks and the teardown at which the coordinator does not hold the mutex
    (`create _`, `lockA`, `lockT`), in a state where every worker is in state WAIT: the clauses about blocks and
    teardown are void, the others are the hypotheses. -/
theorem Inv.outside {c : Cfg} {s : State}
    (hq : cHolds s.cpc = false ∧ termPhase s.cpc = false ∧ inBlock s.cpc = false)
    (hown0 : s.owner ≠ some 0) (hownW : ∀ w, s.owner = some (w+1) ↔ wHolds (s.wpc w) = true)
    (hout : ∀ w, c.n ≤ w → s.wpc w = .idle)
    (hcreated : ∀ k, s.cpc = .create k →
      k < c.n ∧ (∀ w, w < k → s.wpc w ≠ .idle) ∧ (∀ w, k ≤ w → s.wpc w = .idle))
    (hall : isCreate s.cpc = false → ∀ w, w < c.n → s.wpc w ≠ .idle)
    (hst : ∀ w, s.st w = .wait) (hpcs : ∀ w, s.wpc w ≠ .lock2 ∧ ¬ (s.wpc w = .exit ∨ s.wpc w = .done))
    (hC : isCreate s.cpc = true → s.base = none ∧ s.chosen = none ∧ s.blk = 0)
    (hA : s.cpc = .lockA → (s.base, s.chosen) = flat c.less c.m (s.blk * c.n) ∧ s.chosen = none ∧ s.blk * c.n < c.m)
    (hT : s.cpc = .lockT → (s.base, s.chosen) = flat c.less c.m c.m) : Inv c s where
  own0 := iff_of_false hown0 (ne_true_of_eq_false hq.1)
  ownW := hownW
  idleOut := hout
  created := hcreated
  createdAll := hall
  joinLt := fun k e => by rw [e] at hq; cases hq.2.1
  waitSt := fun w _ => Or.inl (hst w)
  noTerm := fun _ w e => nomatch (hst w).symm.trans e
  allTerm := fun ht => absurd ht (ne_true_of_eq_false hq.2.1)
  termPcs := fun ht => absurd ht (ne_true_of_eq_false hq.2.1)
  exitTerm := fun w hw => absurd hw (hpcs w).2
  runBlock := fun w e => nomatch (hst w).symm.trans e
  lock2Run := fun w hw => absurd hw (hpcs w).1
  blockVals := fun hb => absurd hb (ne_true_of_eq_false hq.2.2)
  unlockBAll := fun e => by rw [e] at hq; cases hq.2.2
  condRun := fun _ e => by rw [e] at hq; cases hq.2.2
  waitRun := fun _ e => by rw [e] at hq; cases hq.2.2
  accCreate := hC
  accLoop := fun hk => hA (hk.resolve_right (ne_true_of_eq_false hq.2.2))
  accDone := fun hk => hT (hk.resolve_right (ne_true_of_eq_false hq.2.1))

/-- What has been scanned is stated as it holds wherever the coordinator is: after `blk` blocks, the trial indices
    below `min (blk·n) m`. -/
theorem Inv.atHead {c : Cfg} {s : State} (hn : 0 < c.n) (hcpc : s.cpc = loopHead c s.blk s.chosen.isSome)
    (hown0 : s.owner ≠ some 0) (hownW : ∀ w, s.owner = some (w+1) ↔ wHolds (s.wpc w) = true)
    (hout : ∀ w, c.n ≤ w → s.wpc w = .idle) (hall : ∀ w, w < c.n → s.wpc w ≠ .idle)
    (hst : ∀ w, s.st w = .wait) (hpcs : ∀ w, s.wpc w ≠ .lock2 ∧ ¬ (s.wpc w = .exit ∨ s.wpc w = .done))
    (hacc : (s.base, s.chosen) = flat c.less c.m (min (s.blk * c.n) c.m)) : Inv c s := by
  rcases loopHead_cases c s.blk s.chosen.isSome with ⟨hq, h1, h2⟩ | ⟨hq, h1⟩ <;> rw [hq] at hcpc
  · have hlt := (lt_blocks_iff c hn _).mp h1
    rw [Nat.min_eq_left (Nat.le_of_lt hlt)] at hacc
    exact Inv.outside (by rw [hcpc]; exact ⟨rfl, rfl, rfl⟩) hown0 hownW hout (fun k e => by rw [hcpc] at e; cases e)
      (fun _ => hall) hst hpcs (fun e => by rw [hcpc] at e; cases e)
      (fun _ => ⟨hacc, Option.not_isSome_iff_eq_none.mp (by rw [h2]; nofun), hlt⟩) (fun e => by rw [hcpc] at e; cases e)
  · exact Inv.outside (by rw [hcpc]; exact ⟨rfl, rfl, rfl⟩) hown0 hownW hout (fun k e => by rw [hcpc] at e; cases e)
      (fun _ => hall) hst hpcs (fun e => by rw [hcpc] at e; cases e) (fun e => by rw [hcpc] at e; cases e)
      (fun _ => hacc.trans (flat_min_final c.less c.m _ fun hlt =>
        (congrArg (fun a => a.2.isSome) hacc).symm.trans (h1 ((lt_blocks_iff c hn _).mpr hlt))))

/-- when the coordinator leaves a block all its results are in, so the scan has looked at the trial indices up to
    the end of the block -/
theorem Inv.scan_at_unlockB {c : Cfg} {s : State} (h : Inv c s) (hp : s.cpc = .unlockB) :
    scan c s.val s.blk (s.base, s.chosen) = flat c.less c.m (min ((s.blk + 1) * c.n) c.m) := by
  obtain ⟨hacc, _, hlt⟩ := h.accLoop (Or.inr (by rw [hp]; rfl))
  rw [hacc, ← blk_add_active c s.blk hlt]
  exact scan_flat c s.val s.blk (h.ready hp)

theorem Inv.unlockB {c : Cfg} {s : State} (h : Inv c s) (hn : 0 < c.n) (hp : s.cpc = .unlockB) :
    Inv c { s with owner := none, base := (scan c s.val s.blk (s.base, s.chosen)).1,
                   chosen := (scan c s.val s.blk (s.base, s.chosen)).2, calcs := s.calcs + c.n, blk := s.blk + 1,
                   cpc := loopHead c (s.blk + 1) (scan c s.val s.blk (s.base, s.chosen)).2.isSome } := by
  have hnt : termPhase s.cpc = false := by rw [hp]; rfl
  have hscan := h.scan_at_unlockB hp
  have hnorun := h.no_run (Or.inr hp)
  exact Inv.atHead hn rfl nofun (fun w => (owner_release (h.own0.mpr (by rw [hp]; rfl)) (w+1) (Nat.succ_ne_zero w)).trans (h.ownW w))
    h.idleOut (h.createdAll (by rw [hp]; rfl)) (fun w => h.st_wait hnt w (hnorun w))
    (fun w => ⟨h.no_lock2 (Or.inr hp) w, fun e => ne_true_of_eq_false hnt (h.exitTerm w e)⟩) hscan

theorem Inv.create {c : Cfg} {s : State} (h : Inv c s) (hn : 0 < c.n) {k : Nat} (hp : s.cpc = .create k) :
    Inv c { s with wpc := upd s.wpc k .lock1, cpc := if k + 1 < c.n then .create (k+1) else loopHead c 0 false } := by
  obtain ⟨hk, hlow, hhigh⟩ := h.created k hp
  obtain ⟨hbase, hchosen, hblk⟩ := h.accCreate (by rw [hp]; rfl)
  have hnt : termPhase s.cpc = false := by rw [hp]; rfl
  have hown0 : s.owner ≠ some 0 := fun e => by have := h.own0.mp e; rw [hp] at this; cases this
  have hownW := forall_upd (P := fun j (r : WPc) => s.owner = some (j+1) ↔ wHolds r = true) (fun j _ => h.ownW j)
    (w := k) (v := .lock1) ((h.ownW k).trans (by rw [hhigh k (Nat.le_refl k)]; exact Iff.rfl))
  have hout := forall_upd (P := fun j (r : WPc) => c.n ≤ j → r = .idle) (fun j _ => h.idleOut j) (w := k) (v := .lock1)
    fun hle => absurd hk (Nat.not_lt.mpr hle)
  have hsome := forall_upd (P := fun j (r : WPc) => j < k + 1 → r ≠ .idle) (w := k) (v := .lock1)
    (fun j hj hlt => hlow j (by omega)) nofun
  have hnorun := h.no_run (Or.inl (by rw [hp]; rfl))
  have hst := fun w => h.st_wait hnt w (hnorun w)
  have hpcs := forall_upd (P := fun _ (r : WPc) => r ≠ .lock2 ∧ ¬ (r = .exit ∨ r = .done)) (w := k) (v := .lock1)
    (fun j _ => ⟨h.no_lock2 (Or.inl (by rw [hp]; rfl)) j, fun e => ne_true_of_eq_false hnt (h.exitTerm j e)⟩) ⟨nofun, nofun⟩
  split
  · refine Inv.outside ⟨rfl, rfl, rfl⟩ hown0 hownW hout (fun k' (e : CPc.create (k+1) = .create k') => ?_) nofun hst
      hpcs (fun _ => ⟨hbase, hchosen, hblk⟩) nofun nofun
    cases e
    exact ⟨‹_›, hsome, forall_upd (P := fun j (r : WPc) => k + 1 ≤ j → r = .idle) (w := k) (v := .lock1)
      (fun j _ hj => hhigh j (by omega)) fun hle => absurd hle (Nat.not_succ_le_self k)⟩
  · -- all workers exist and no trial has been scanned
    refine Inv.atHead hn ?_ hown0 hownW hout (fun w hw => hsome w (by omega)) hst hpcs ?_ <;> dsimp only
    · rw [hchosen, hblk]; rfl
    · rw [hbase, hchosen, hblk, Nat.zero_mul, Nat.zero_min]; rfl

theorem inv_init (c : Cfg) (hn : 0 < c.n) : Inv c (init c) := by
  constructor <;> simp [init, cHolds, wHolds, inBlock, termPhase, isCreate, isBcast, hn]

theorem Inv.exists_run {c : Cfg} {s : State} (h : Inv c s) (hnt : termPhase s.cpc = false)
    (ha : allWait c s = false) : ∃ j, j < c.active s.blk ∧ s.st j = .run := by
  obtain ⟨j, hj, hne⟩ : ∃ j, j < c.active s.blk ∧ s.st j ≠ .wait := by simpa [allWait] using ha
  refine ⟨j, hj, ?_⟩
  have := h.noTerm hnt j
  cases hs : s.st j <;> simp_all

theorem inv_stepC (c : Cfg) (hn : 0 < c.n) (s s' : State) (h : Inv c s) (hs : stepC c s = some s') : Inv c s' := by
  cases stepC_cases hs with
  | create hp => exact h.create hn hp
  | lockA hp ho => exact h.lockA hp ho
  | lockT hp ho => exact h.lockT hp ho
  | unlockB hp => exact h.unlockB hn hp
  | bcastA hp =>
    exact h.broadcast.1.cmove hp .unlockA .keep rfl rfl rfl (fun _ => h.broadcast.2) trivial
  | bcastT hp =>
    exact h.broadcast.1.cmove hp .unlockT .keep rfl rfl rfl (fun _ => h.broadcast.2) trivial
  | unlockA hp => exact h.cmove hp .lockB .release rfl rfl rfl nofun trivial
  | unlockT hp => exact h.cmove hp (.join 0) .release rfl rfl rfl nofun hn
  | condWait hp =>
    exact h.cmove hp .waiting .release rfl rfl rfl nofun fun hr => Or.inl (h.condRun hr hp)
  | lockB hp ho =>
    have hnt : termPhase s.cpc = false := by rw [hp]; rfl
    cases hb : c.repaired && allWait c s with
    | true =>
      exact h.cmove hp .unlockB (.acquire ho) rfl rfl rfl nofun
        ((allWait_iff c s).mp (Bool.and_eq_true_iff.mp hb).2)
    | false =>
      exact h.cmove hp .condWait (.acquire ho) rfl rfl rfl nofun
        fun hr => h.exists_run hnt (by rw [hr] at hb; exact hb)
  | woken hp ho =>
    have hnt : termPhase s.cpc = false := by rw [hp]; rfl
    cases hb : allWait c s with
    | true =>
      exact h.cmove hp .unlockB (.acquire ho) rfl rfl rfl nofun
        ((allWait_iff c s).mp hb)
    | false =>
      exact h.cmove hp .condWait (.acquire ho) rfl rfl rfl nofun
        fun _ => h.exists_run hnt hb
  | join hp _ =>
    have hk := h.joinLt _ hp
    split
    · exact h.cmove hp (.join _) .keep rfl rfl rfl nofun ‹_›
    · exact h.cmove hp .final .keep rfl rfl rfl nofun trivial

theorem Inv.wakeC {c : Cfg} {s : State} (h : Inv c s) : Inv c { s with cpc := wakeC s.cpc } := by
  by_cases hc : s.cpc = .waiting
  · rw [hc]
    exact h.cmove hc .woken .keep rfl rfl rfl nofun trivial
  · rw [wakeC_of_ne hc]; exact h

theorem inv_stepW (c : Cfg) (s s' : State) (w : Nat) (hw : w < c.n) (h : Inv c s) (hs : stepW s w = some s') : Inv c s' := by
  cases stepW_cases hs with
  | lock1 hp ho => exact h.wmove hw hp .hold (.acquire ho) nofun nofun trivial
  | woken hp ho => exact h.wmove hw hp .hold (.acquire ho) nofun nofun trivial
  | holdWait hp hst => exact h.wmove hw hp .waiting .release nofun nofun (Or.inl hst)
  | holdRun hp hst =>
    exact h.wmove hw hp .lock2 .release nofun nofun ⟨hst, termPhase_of_inBlock (h.runBlock w hst).1⟩
  | holdTerm hp hst =>
    exact h.wmove hw hp .exit .release nofun nofun (eq_true_of_ne_false fun ht => h.noTerm ht w hst)
  | unlock2 hp => exact h.wmove hw hp .lock1 .release nofun nofun trivial
  | exit hp => exact h.wmove hw hp .done .keep nofun nofun (h.exitTerm w (Or.inl hp))
  | lock2 hp ho =>
    have hrun := h.lock2Run w hp
    have h1 := h.wmove hw hp .bcast (.acquire ho) nofun nofun (termPhase_of_inBlock (h.runBlock w hrun).1)
    exact h1.publish (upd_self ..) hrun
  | bcast hp =>
    have hnt : termPhase s.cpc = false := eq_false_of_ne_true fun ht => (h.termPcs ht w).2.1 hp
    exact h.wakeC.broadcast.1.wmove hw ((wakeAll_eq_iff _ _ .bcast nofun nofun).mpr hp) .unlock2 .keep nofun
      (fun _ => wakeC_ne_waiting s.cpc)
      ((termPhase_wakeC s.cpc).trans hnt)

theorem inv_spur (c : Cfg) (s s' : State) (t : Nat) (h : Inv c s) (hs : spur? c s t = some s') : Inv c s' := by
  cases spur_cases hs with
  | coord hp =>
    have := h.wakeC
    rwa [hp] at this
  | @worker w hw hp => exact h.wmove hw hp .woken .keep nofun nofun trivial

theorem inv_step (c : Cfg) (hn : 0 < c.n) (s s' : State) (t : Nat) (h : Inv c s) (hs : step? c s t = some s') : Inv c s' := by
  cases t with
  | zero => exact inv_stepC c hn s s' h hs
  | succ w => exact inv_stepW c s s' w (step_succ hs).1 h (step_succ hs).2

/-- states reachable from `init` by pthread-call transitions and spurious wake-ups -/
inductive Reach (c : Cfg) : State → Prop
  | init : Reach c (init c)
  | step {s s' : State} (t : Nat) : Reach c s → step? c s t = some s' → Reach c s'
  | spur {s s' : State} (t : Nat) : Reach c s → spur? c s t = some s' → Reach c s'

theorem reach_inv (c : Cfg) (hn : 0 < c.n) {s : State} (h : Reach c s) : Inv c s := by
  induction h with
  | init => exact inv_init c hn
  | step t _ hs ih => exact inv_step c hn _ _ t ih hs
  | spur t _ hs ih => exact inv_spur c _ _ t ih hs

/-- Wherever the coordinator is, after `blk` blocks the scan has looked at the trial indices below `min (blk·n) m`, in
    order; and block `blk - 1` was started because nothing had been chosen before it. -/
structure BlkInv (c : Cfg) (s : State) : Prop where
  acc : (s.base, s.chosen) = flat c.less c.m (min (s.blk * c.n) c.m)
  le : s.blk ≤ c.blocks
  prev : 0 < s.blk → (flat c.less c.m ((s.blk - 1) * c.n)).2 = none ∧ (s.blk - 1) * c.n < c.m

theorem blkInv_init (c : Cfg) : BlkInv c (init c) :=
  ⟨by show (none, none) = flat _ _ (min (0 * c.n) c.m); rw [Nat.zero_mul, Nat.zero_min]; rfl, Nat.zero_le _,
    fun h => absurd h (Nat.lt_irrefl 0)⟩

theorem BlkInv.frame {c : Cfg} {s s' : State} (h : BlkInv c s) (hb : s'.blk = s.blk) (h1 : s'.base = s.base)
    (h2 : s'.chosen = s.chosen) : BlkInv c s' :=
  ⟨by rw [h1, h2, hb]; exact h.acc, hb ▸ h.le, hb ▸ h.prev⟩

theorem blkInv_stepC (c : Cfg) (hn : 0 < c.n) (s s' : State) (hi : Inv c s) (h : BlkInv c s)
    (hs : stepC c s = some s') : BlkInv c s' := by
  cases stepC_cases hs with
  | unlockB hp =>
    obtain ⟨hacc, hch, hlt⟩ := hi.accLoop (Or.inr (by rw [hp]; rfl))
    exact ⟨hi.scan_at_unlockB hp, (lt_blocks_iff c hn s.blk).mpr hlt,
      fun _ => by show (flat _ _ ((s.blk + 1 - 1) * c.n)).2 = none ∧ _; rw [Nat.add_sub_cancel, ← hacc]; exact ⟨hch, hlt⟩⟩
  | _ => exact h.frame rfl rfl rfl

theorem blkInv_stepW (c : Cfg) (s s' : State) (w : Nat) (h : BlkInv c s) (hs : stepW s w = some s') : BlkInv c s' := by
  cases stepW_cases hs <;> exact h.frame rfl rfl rfl

theorem blkInv_spur (c : Cfg) (s s' : State) (t : Nat) (h : BlkInv c s) (hs : spur? c s t = some s') : BlkInv c s' := by
  cases spur_cases hs <;> exact h.frame rfl rfl rfl

theorem reach_blkInv (c : Cfg) (hn : 0 < c.n) {s : State} (h : Reach c s) : BlkInv c s := by
  induction h with
  | init => exact blkInv_init c
  | step t hr hs ih =>
    cases t with
    | zero => exact blkInv_stepC c hn _ _ (reach_inv c hn hr) ih hs
    | succ w => exact blkInv_stepW c _ _ w ih (step_succ hs).2
  | spur t _ hs ih => exact blkInv_spur c _ _ t ih hs

/-- once the coordinator holds the sequential choice, the chosen index lies in the last block that was started -/
theorem BlkInv.chosen_block {c : Cfg} {s : State} (B : BlkInv c s) (hm : 2 ≤ c.m)
    (hseq : (s.base, s.chosen) = selectSeq c.less c.m) :
    ∃ k, s.chosen = some (some k, c.less k 0) ∧ 0 < s.blk ∧ (s.blk - 1) * c.n ≤ k ∧ k < s.blk * c.n := by
  obtain ⟨k, hk1, _, hsel, hor, _⟩ := selectSeq_spec c.less c.m hm
  have hch : s.chosen = some (some k, c.less k 0) := congrArg Prod.snd (hseq.trans hsel)
  have hsome : (flat c.less c.m (min (s.blk * c.n) c.m)).2.isSome = true := by rw [← B.acc, hch]; rfl
  have hb0 : 0 < s.blk := Nat.pos_of_ne_zero fun h0 => by
    rw [h0, Nat.zero_mul, Nat.zero_min] at hsome; cases hsome
  exact ⟨k, hch, hb0, chosen_ge_of_flat_none c.less c.m _ k (B.prev hb0).1 hk1 hor,
    Nat.lt_of_lt_of_le (chosen_lt_of_flat_some c.less c.m _ k _ (Nat.min_le_right _ _) hsome hsel) (Nat.min_le_left _ _)⟩

/-- the transition with label `(t, sp)`: `sp = false` the next pthread call of thread `t`, `sp = true` a spurious
    wake-up of `t` -/
def stepL (c : Cfg) (s : State) (lab : Nat × Bool) : Option State :=
  if lab.2 then spur? c s lab.1 else step? c s lab.1

theorem stepL_cases {c : Cfg} {s s' : State} {lab : Nat × Bool} (h : stepL c s lab = some s') :
    (lab.2 = true ∧ spur? c s lab.1 = some s') ∨ (lab.2 = false ∧ step? c s lab.1 = some s') := by
  unfold stepL at h
  split at h
  · exact Or.inl ⟨‹_›, h⟩
  · exact Or.inr ⟨eq_false_of_ne_true ‹_›, h⟩

theorem Reach.stepL {c : Cfg} {s s' : State} {lab : Nat × Bool} (h : Reach c s) (hs : stepL c s lab = some s') :
    Reach c s' :=
  (stepL_cases hs).elim (fun e => Reach.spur _ h e.2) fun e => Reach.step _ h e.2

theorem runSched_cons {c : Cfg} {s s' : State} {l : Nat × Bool} {rest : List (Nat × Bool)}
    (h : runSched c s (l :: rest) = some s') : ∃ s1, stepL c s l = some s1 ∧ runSched c s1 rest = some s' := by
  obtain ⟨t, sp⟩ := l
  simp only [runSched] at h
  split at h
  · exact ⟨_, ‹_›, h⟩
  · cases h

theorem reach_runSched (c : Cfg) : ∀ (sched : List (Nat × Bool)) (s s' : State),
    Reach c s → runSched c s sched = some s' → Reach c s'
  | [], _, _, h, hs => by cases hs; exact h
  | _ :: rest, _, s', h, hs => by
    obtain ⟨s1, h1, h2⟩ := runSched_cons hs
    exact reach_runSched c rest s1 s' (h.stepL h1) h2

end PsV.Sync
