import PsV.Proofs.FitsText
import PsV.Proofs.FitsRead
/-!
# What `write_fits_core` writes, and how the readers read it back (C06)

`writeGen E s t = primHdu E s t :: restHdus t`.  The primary header is cut into blocks once (`hdr_prim`; `keysIn` tells a
block from the keyword that is looked up), and each kind of key is looked up by a lemma of its own (`find_order_i`,
`find_ORDER_true`, `find_period_some`, …; the extensions by name: `movnam_knots`, `movnam_extents`).  From these, one lemma
per stage of the reader (`orders_false`, `periods_read`, `aux_read`, `coef_read`, `knots_read`), put together through
`readWith_ok_iff` of `FitsRead`: `readCore_writeGen` gives the table read back explicitly (`rereadTable`), for both
layouts; `readFixed_writeGen` the same under the repaired reader; `Reread` is that table as the C06 statements describe
it.  `Storable` is the hypothesis; `order_big_not_read` shows that its bound on the orders cannot be dropped.
Mathlib-free.
-/
namespace PsV.Fits

def typeCard : Card := cardStr "TYPE".toList "Spline Coefficient Table".toList []

def ordCards (single : Bool) (t : Table) : List Card :=
  if single then [cardInt "ORDER".toList (t.order.headD 0) "B-Spline Order".toList] else orderCards t

/-- the primary HDU of `writeGen` (its `let`s, named: `wAxes`, `typeCard`, `ordCards`) -/
def primHdu (E : Ext) (single : Bool) (t : Table) : Hdu :=
  ⟨wAxes t, primaryBoiler ++ [typeCard] ++ ordCards single t ++ periodCards E t ++ auxCards t,
   .f32 (t.coef.take (prod (wAxes t)))⟩

def restHdus (t : Table) : List Hdu := (List.range t.ndim).map (knotHdu t) ++ extentsHdus t

theorem writeGen_eq (E : Ext) (single : Bool) (t : Table) :
    writeGen E single t = primHdu E single t :: restHdus t := rfl

/-- the cards in front of the order cards; `structCards` reads only the axes and `BITPIX` of the HDU it is given, so a
    header without cards and data does for it -/
def preCards (t : Table) : List Card :=
  structCards true ⟨wAxes t, [], .f32 []⟩ ++ primaryBoiler ++ [typeCard]

theorem hdr_prim (E : Ext) (s : Bool) (t : Table) :
    hdrCards true (primHdu E s t) = preCards t ++ (ordCards s t ++ (periodCards E t ++ auxCards t)) := by
  show structCards true ⟨wAxes t, [], .f32 []⟩ ++ _ = _
  simp only [primHdu, preCards, List.append_assoc]

theorem mem_axisCards {c : Card} {axes : List Nat} (h : c ∈ axisCards axes) :
    ∃ i, c.key = "NAXIS".toList ++ natStr (i+1) := by
  obtain ⟨i, _, rfl⟩ := List.mem_map.1 h
  exact ⟨i, rfl⟩

/-- Every key of `l` is reserved (so `readAux` drops the card) and begins with one of the letters `hs`: how a block
    of header cards is told apart from the keyword that is looked up. -/
def keysIn (hs : List Char) (l : List Card) : Bool :=
  l.all fun c => reserved c.key && hs.any fun x => c.key.head? == some x

theorem keysIn_iff {hs : List Char} {l : List Card} :
    keysIn hs l = true ↔ ∀ c ∈ l, reserved c.key = true ∧ ∃ x ∈ hs, c.key.head? = some x := by
  simp only [keysIn, List.all_eq_true, Bool.and_eq_true, List.any_eq_true, beq_iff_eq]

theorem keysIn_ne {hs : List Char} {l : List Card} (h : keysIn hs l = true) {name : Str}
    (hn : reserved name = false ∨ ∃ y, name.head? = some y ∧ y ∉ hs) : ∀ c ∈ l, c.key ≠ name := by
  rintro c hc rfl
  obtain ⟨hr, x, hx, hh⟩ := keysIn_iff.1 h c hc
  rcases hn with hn | ⟨y, hy, hys⟩
  · rw [hr] at hn; cases hn
  · rw [hh] at hy; cases hy; exact hys hx

theorem keysIn_keyN (b : String) (x : Char) (hb : b ∈ reservedPrefixes) (hx : ∀ i, (keyN b i).head? = some x)
    (l : List Card) (h : ∀ c ∈ l, ∃ i, c.key = keyN b i) : keysIn [x] l = true :=
  keysIn_iff.2 fun c hc => by
    obtain ⟨i, hi⟩ := h c hc
    rw [hi]
    exact ⟨reserved_keyN b hb i, x, List.mem_singleton_self x, hx i⟩

theorem preCards_keys (t : Table) : keysIn ['S', 'B', 'N', 'E', 'C', 'T'] (preCards t) = true := by
  have hax : keysIn ['S', 'B', 'N', 'E', 'C', 'T'] (axisCards (wAxes t)) = true :=
    keysIn_iff.2 fun c hc => by
      obtain ⟨i, hi⟩ := mem_axisCards hc
      rw [hi]
      exact ⟨reserved_keyN "NAXIS" (by decide) (i+1), 'N', by decide, rfl⟩
  unfold keysIn at hax ⊢
  simp only [preCards, structCards, if_true, List.all_append, hax, List.all_cons, List.all_nil]
  decide +kernel

theorem ordCards_keys (s : Bool) (t : Table) : keysIn ['O'] (ordCards s t) = true := by
  cases s
  · exact keysIn_keyN "ORDER" 'O' (by decide) head_order _ fun c hc => by
      obtain ⟨i, _, rfl⟩ := List.mem_map.1 hc
      exact ⟨i, rfl⟩
  · simp -index only [ordCards, if_true, keysIn, cardInt, String.toList_ofList, List.all_cons, List.all_nil]
    decide +kernel

theorem periodCards_keys (E : Ext) (t : Table) : keysIn ['P'] (periodCards E t) = true := by
  unfold periodCards
  split
  · rfl
  · exact keysIn_keyN "PERIOD" 'P' (by decide) head_period _ fun c hc => by
      obtain ⟨i, _, rfl⟩ := List.mem_map.1 hc
      exact ⟨i, rfl⟩

theorem mem_auxCards {c : Card} {t : Table} (h : c ∈ auxCards t) : ∃ kv ∈ t.aux, c.key = kv.1 := by
  obtain ⟨kv, hkv, rfl⟩ := List.mem_map.1 h
  exact ⟨kv, hkv, rfl⟩

theorem findCard_skip (A B : List Card) (name : Str) (h : ∀ c ∈ A, c.key ≠ name) :
    findCard (A ++ B) name = findCard B name :=
  find_append_of_none _ A B fun c hc => by simpa using h c hc

theorem findCard_hit (A B : List Card) (name : Str) (c : Card) (h : findCard A name = some c) :
    findCard (A ++ B) name = some c := find_append_of_some _ A B c h

theorem findCard_single_hit (c : Card) (name : Str) (h : c.key = name) : findCard [c] name = some c := by
  simp [findCard, h]

theorem findCard_none_of (cs : List Card) (name : Str) (h : ∀ c ∈ cs, c.key ≠ name) : findCard cs name = none :=
  List.find?_eq_none.2 fun c hc hd => h c hc (of_decide_eq_true hd)

theorem findCard_keyN (b : String) (g : Nat → Card) (hg : ∀ j, (g j).key = keyN b j) {i n : Nat} (hi : i < n) :
    findCard ((List.range n).map g) (keyN b i) = some (g i) :=
  find_range_map g _ i n hi fun j _ => by
    rw [hg]
    exact ⟨fun h => keyN_inj b (of_decide_eq_true h), fun h => decide_eq_true (h ▸ rfl)⟩

theorem findCard_prim_none (E : Ext) (s : Bool) (t : Table) (name : Str)
    (haux : ∀ kv ∈ t.aux, kv.1 ≠ name) (hpre : ∀ c ∈ preCards t, c.key ≠ name)
    (hord : ∀ c ∈ ordCards s t, c.key ≠ name) (hper : ∀ c ∈ periodCards E t, c.key ≠ name) :
    findCard (hdrCards true (primHdu E s t)) name = none := by
  apply findCard_none_of
  intro c hc
  rw [hdr_prim] at hc
  simp only [List.mem_append] at hc
  rcases hc with hc | hc | hc | hc
  · exact hpre c hc
  · exact hord c hc
  · exact hper c hc
  · obtain ⟨kv, hkv, h⟩ := mem_auxCards hc
    rw [h]; exact haux kv hkv

theorem aux_ne_reserved (aux : List (Str × Str)) (haux : ∀ kv ∈ aux, reserved kv.1 = false) (name : Str)
    (hn : reserved name = true) : ∀ kv ∈ aux, kv.1 ≠ name := by
  rintro kv hkv rfl
  rw [haux kv hkv] at hn; cases hn

theorem find_order_i (E : Ext) (t : Table) (i : Nat) (hi : i < t.ndim) :
    findCard (hdrCards true (primHdu E false t)) (keyN "ORDER" i)
      = some (cardInt (keyN "ORDER" i) (t.order.getD i 0) "B-Spline Order".toList) := by
  rw [hdr_prim, findCard_skip _ _ _ (keysIn_ne (preCards_keys t) (.inr ⟨'O', head_order i, by decide⟩))]
  exact findCard_hit _ _ _ _ (findCard_keyN "ORDER" _ (fun _ => rfl) hi)

theorem find_ORDER_false (E : Ext) (t : Table) (haux : ∀ kv ∈ t.aux, reserved kv.1 = false) :
    findCard (hdrCards true (primHdu E false t)) "ORDER".toList = none :=
  findCard_prim_none E false t _ (aux_ne_reserved _ haux _ (by decide +kernel))
    (keysIn_ne (preCards_keys t) (.inr ⟨'O', rfl, by decide⟩))
    (fun c hc => by
      obtain ⟨i, _, rfl⟩ := List.mem_map.1 hc
      exact keyN_ne_base "ORDER" i)
    (keysIn_ne (periodCards_keys E t) (.inr ⟨'O', rfl, by decide⟩))

theorem find_ORDER_true (E : Ext) (t : Table) :
    findCard (hdrCards true (primHdu E true t)) "ORDER".toList
      = some (cardInt "ORDER".toList (t.order.headD 0) "B-Spline Order".toList) := by
  rw [hdr_prim, findCard_skip _ _ _ (keysIn_ne (preCards_keys t) (.inr ⟨'O', rfl, by decide⟩))]
  exact findCard_hit _ _ _ _ (findCard_single_hit _ _ rfl)

theorem find_period_some (E : Ext) (s : Bool) (t : Table) (p : List UInt64) (hp : t.periods = some p)
    (i : Nat) (hi : i < t.ndim) :
    findCard (hdrCards true (primHdu E s t)) (keyN "PERIOD" i) = some (cardDbl E (keyN "PERIOD" i) (p.getD i 0)) := by
  rw [hdr_prim, findCard_skip _ _ _ (keysIn_ne (preCards_keys t) (.inr ⟨'P', head_period i, by decide⟩)),
    findCard_skip _ _ _ (keysIn_ne (ordCards_keys s t) (.inr ⟨'P', head_period i, by decide⟩)), periodCards, hp]
  exact findCard_hit _ _ _ _ (findCard_keyN "PERIOD" _ (fun _ => rfl) hi)

theorem find_period_none (E : Ext) (s : Bool) (t : Table) (hp : t.periods = none)
    (haux : ∀ kv ∈ t.aux, reserved kv.1 = false) (i : Nat) :
    findCard (hdrCards true (primHdu E s t)) (keyN "PERIOD" i) = none :=
  findCard_prim_none E s t _ (aux_ne_reserved _ haux _ (reserved_keyN "PERIOD" (by decide) i))
    (keysIn_ne (preCards_keys t) (.inr ⟨'P', head_period i, by decide⟩))
    (keysIn_ne (ordCards_keys s t) (.inr ⟨'P', head_period i, by decide⟩))
    (fun c hc => by rw [periodCards, hp] at hc; cases hc)

/-- what the reader makes of the `PERIODn` keys -/
def rdPeriods (E : Ext) (t : Table) : List UInt64 :=
  match t.periods with
  | none => List.replicate t.ndim 0
  | some p => (List.range t.ndim).map fun i => (E.parseD (E.fmtD (p.getD i 0))).getD 0

theorem periods_read (E : Ext) (s : Bool) (t : Table) (haux : ∀ kv ∈ t.aux, reserved kv.1 = false) :
    ((List.range t.ndim).map fun i => (readKeyDbl E (hdrCards true (primHdu E s t)) (keyN "PERIOD" i)).getD 0)
      = rdPeriods E t := by
  unfold rdPeriods
  cases hp : t.periods with
  | none =>
    simp only [readKeyDbl, find_period_none E s t hp haux]
    rw [List.map_const', List.length_range]; rfl
  | some p =>
    apply List.map_congr_left
    intro i hi
    simp only [readKeyDbl, find_period_some E s t p hp i (List.mem_range.1 hi), cardDbl]

namespace Codec

/-- `PERIODn` text round trip, no assumption on `E`: every period `x` comes back as `parseD (fmtD x)`, or `0` when
    cfitsio cannot read the key back -/
theorem rdPeriods_map (E : Ext) (t : Table) (p : List UInt64) (hp : t.periods = some p) (hlen : p.length = t.ndim) :
    rdPeriods E t = p.map fun x => (E.parseD (E.fmtD x)).getD 0 := by
  unfold rdPeriods
  rw [hp]
  conv => rhs; rw [← map_getD_range p 0 t.ndim hlen, List.map_map]
  rfl

/-- the reader's result on a written file depends on `E` only through `parseD ∘ fmtD` on the periods: the
    float⇄double conversions `d2f`, `f2d` are never applied -/
theorem rdPeriods_congr (E E' : Ext) (t : Table) (h : ∀ x, E.parseD (E.fmtD x) = E'.parseD (E'.fmtD x)) :
    rdPeriods E t = rdPeriods E' t := by
  unfold rdPeriods
  cases t.periods with
  | none => rfl
  | some p => simp only [h]

end Codec

theorem rdPeriods_exact (E : Ext) (t : Table) (p : List UInt64) (hp : t.periods = some p)
    (hlen : p.length = t.ndim) (hx : ∀ x ∈ p, E.parseD (E.fmtD x) = some x) : rdPeriods E t = p := by
  rw [Codec.rdPeriods_map E t p hp hlen]
  rw [List.map_congr_left (g := id) fun x hx' => by rw [hx x hx']; rfl, List.map_id]

theorem orders_false (E : Ext) (t : Table) (hlt : ∀ o ∈ t.order, o < 2147483648) :
    readOrders (hdrCards true (primHdu E false t)) 0 t.ndim = .ok t.order := by
  rw [readOrders_loop, loopE_ok_iff _ 0]
  refine ⟨rfl, fun j hj => ?_⟩
  have hv := hlt _ (getD_mem hj 0)
  rw [Nat.zero_add, orderStep, readKeyInt_natStr _ _ _ _ _ hv (find_order_i E t j hj) (cardInt_val _ _ _ hv)]

theorem orders_true (E : Ext) (t : Table) (hlt : ∀ o ∈ t.order, o < 2147483648) :
    readKeyInt (hdrCards true (primHdu E true t)) .tint "ORDER".toList = some (t.order.headD 0) := by
  have hv : t.order.headD 0 < 2147483648 := by
    cases h : t.order with
    | nil => decide
    | cons a r => exact hlt a (by simp [h])
  exact readKeyInt_natStr _ _ _ _ _ hv (find_ORDER_true E t) (cardInt_val _ _ _ hv)

theorem readAux_append (A B : List Card) : readAux (A ++ B) = readAux A ++ readAux B := List.filterMap_append

theorem readAux_reserved (hs : List Char) (A : List Card) (h : keysIn hs A = true) : readAux A = [] :=
  List.filterMap_eq_nil_iff.2 fun c hc => if_pos (keysIn_iff.1 h c hc).1

theorem readAux_auxCards (aux : List (Str × Str))
    (h : ∀ kv ∈ aux, reserved kv.1 = false ∧ storedLen kv.2 ≤ 68) :
    readAux (aux.map fun kv => cardStr kv.1 kv.2 []) = aux.map fun kv => (kv.1, padFits kv.2) := by
  induction aux with
  | nil => rfl
  | cons kv r ih =>
    obtain ⟨h1, h2⟩ := h kv (by simp)
    rw [List.map_cons, List.map_cons, ← ih fun x hx => h x (by simp [hx]), ← stripQuotes_s2c_any _ h2]
    simp [readAux, cardStr, h1]

theorem aux_read (E : Ext) (s : Bool) (t : Table)
    (h : ∀ kv ∈ t.aux, reserved kv.1 = false ∧ storedLen kv.2 ≤ 68) :
    readAux (hdrCards true (primHdu E s t)) = t.aux.map fun kv => (kv.1, padFits kv.2) := by
  rw [hdr_prim, readAux_append, readAux_append, readAux_append, readAux_reserved _ _ (preCards_keys t),
    readAux_reserved _ _ (ordCards_keys s t), readAux_reserved _ _ (periodCards_keys E t)]
  exact readAux_auxCards t.aux h

/-- an image extension as photospline writes it: data plus an `EXTNAME` -/
def extHdu (axes : List Nat) (pix : Pix) (nm : Str) : Hdu := ⟨axes, [cardStr "EXTNAME".toList nm []], pix⟩

theorem knotHdu_eq (t : Table) (i : Nat) :
    knotHdu t i = extHdu [(t.knots.getD i []).length] (.f64 (t.knots.getD i [])) (keyN "KNOTS" i) := rfl

theorem extentsHdus_eq (t : Table) : extentsHdus t =
    (t.extents.map fun e => extHdu [2 * t.ndim] (.f64 (e.take (2 * t.ndim))) "EXTENTS".toList).toList := by
  unfold extentsHdus
  cases t.extents <;> rfl

theorem extentsHdus_some (t : Table) (e : List UInt64) (he : t.extents = some e) (hl : e.length = 2 * t.ndim) :
    extentsHdus t = [extHdu [2 * t.ndim] (.f64 e) "EXTENTS".toList] := by
  rw [extentsHdus_eq, he, Option.map_some, Option.toList_some, List.take_of_length_le (Nat.le_of_eq hl)]

/-- the name a generic reader finds for such an extension: the string value of its `EXTNAME` card -/
theorem extHdu_name (axes : List Nat) (pix : Pix) (nm : Str) :
    (findCard (extHdu axes pix nm).cards "EXTNAME".toList).bind (c2s ·.val) = c2s (s2c nm) := by
  show (findCard [cardStr "EXTNAME".toList nm []] "EXTNAME".toList).bind (c2s ·.val) = _
  rw [findCard_single_hit (cardStr "EXTNAME".toList nm []) "EXTNAME".toList rfl]
  rfl

theorem structCards_ext_heads (h : Hdu) (c : Card) (hc : c ∈ structCards false h) :
    c.key.head? ∈ [some 'X', some 'B', some 'N', some 'P', some 'G'] := by
  simp -index only [structCards, Bool.false_eq_true, if_false, List.mem_append, List.mem_cons, List.not_mem_nil,
    or_false, String.toList_ofList] at hc
  rcases hc with ((rfl | rfl | rfl) | hc) | rfl | rfl
  case inl.inr =>
    obtain ⟨i, hi⟩ := mem_axisCards hc
    rw [hi]; simp -index only [String.toList_ofList]
    exact .tail _ (.tail _ (.head _))
  all_goals dsimp only; decide

theorem findCard_ext (h : Hdu) (name : Str) (hn : name.head? = some 'E' ∨ name.head? = some 'H') :
    findCard (hdrCards false h) name = findCard h.cards name := by
  refine findCard_skip _ _ _ fun c hc e => ?_
  have hh := structCards_ext_heads h c hc
  rw [e] at hh
  rcases hn with hn | hn <;> rw [hn] at hh <;> revert hh <;> decide

theorem nameMatches_none (p : Bool) (h : Hdu) (name : Str)
    (h1 : findCard (hdrCards p h) "EXTNAME".toList = none)
    (h2 : findCard (hdrCards p h) "HDUNAME".toList = none) : nameMatches p h name = false := by
  simp only [nameMatches, h1, h2, Option.bind_none, Bool.or_false]

theorem nameMatches_ext (p : Bool) (h : Hdu) (name nm : Str) (c : Card)
    (h1 : findCard (hdrCards p h) "EXTNAME".toList = some c) (hc : c2s c.val = some nm)
    (h2 : findCard (hdrCards p h) "HDUNAME".toList = none) :
    nameMatches p h name = (upper nm == upper name) := by
  simp only [nameMatches, h1, h2, hc, Option.bind_none, Option.bind_some, Bool.or_false]

theorem nameMatches_extHdu (axes : List Nat) (pix : Pix) (nm name : Str) (hnm : c2s (s2c nm) = some nm) :
    nameMatches false (extHdu axes pix nm) name = (upper nm == upper name) := by
  have hE : findCard (hdrCards false (extHdu axes pix nm)) "EXTNAME".toList
      = some (cardStr "EXTNAME".toList nm []) :=
    (findCard_ext _ _ (.inl rfl)).trans (findCard_single_hit _ _ rfl)
  have hH : findCard (hdrCards false (extHdu axes pix nm)) "HDUNAME".toList = none :=
    (findCard_ext _ _ (.inr rfl)).trans (findCard_none_of _ _ fun c hc => by
      rw [List.mem_singleton.1 hc]; exact (by decide +kernel : "EXTNAME".toList ≠ "HDUNAME".toList))
  exact nameMatches_ext _ _ _ nm _ hE hnm hH

theorem movnamAux_eq_find (name : Str) (L : List Hdu) :
    movnamAux name false L = L.find? fun h => nameMatches false h name := by
  induction L with
  | nil => rfl
  | cons h r ih =>
    rw [movnamAux, List.find?_cons, ih]
    cases nameMatches false h name <;> rfl

theorem nameMatches_prim (E : Ext) (s : Bool) (t : Table) (name : Str)
    (haux : ∀ kv ∈ t.aux, kv.1 ≠ "EXTNAME".toList ∧ kv.1 ≠ "HDUNAME".toList) :
    nameMatches true (primHdu E s t) name = false := by
  have hnone : ∀ nm, reserved nm = false → (∀ kv ∈ t.aux, kv.1 ≠ nm) →
      findCard (hdrCards true (primHdu E s t)) nm = none := fun nm hr ha =>
    findCard_prim_none E s t nm ha (keysIn_ne (preCards_keys t) (.inl hr)) (keysIn_ne (ordCards_keys s t) (.inl hr))
      (keysIn_ne (periodCards_keys E t) (.inl hr))
  exact nameMatches_none _ _ _ (hnone _ (by decide +kernel) fun kv h => (haux kv h).1)
    (hnone _ (by decide +kernel) fun kv h => (haux kv h).2)

theorem movnam_written (E : Ext) (s : Bool) (t : Table) (name : Str)
    (haux : ∀ kv ∈ t.aux, kv.1 ≠ "EXTNAME".toList ∧ kv.1 ≠ "HDUNAME".toList) :
    movnamHdu (primHdu E s t :: restHdus t) name = (restHdus t).find? fun h => nameMatches false h name := by
  rw [movnamHdu, movnamAux, nameMatches_prim E s t name haux, ← movnamAux_eq_find]
  rfl

theorem nameMatches_knotHdu (t : Table) (j : Nat) (hj : j < 1000) (name : Str) :
    nameMatches false (knotHdu t j) name = (keyN "KNOTS" j == upper name) := by
  rw [knotHdu_eq, nameMatches_extHdu _ _ _ _ (keyN_knots_ok j hj), upper_keyN_knots]

theorem movnam_knots (E : Ext) (s : Bool) (t : Table)
    (haux : ∀ kv ∈ t.aux, kv.1 ≠ "EXTNAME".toList ∧ kv.1 ≠ "HDUNAME".toList)
    (hn : t.ndim ≤ 999) (i : Nat) (hi : i < t.ndim) :
    movnamHdu (primHdu E s t :: restHdus t) (keyN "KNOTS" i) = some (knotHdu t i) := by
  rw [movnam_written E s t _ haux]
  apply find_append_of_some
  apply find_range_map (knotHdu t) _ i _ hi
  intro j hj
  rw [nameMatches_knotHdu t j (by omega), upper_keyN_knots, beq_iff_eq]
  exact ⟨fun h => keyN_inj _ h, fun h => by rw [h]⟩

theorem movnam_extents (E : Ext) (s : Bool) (t : Table)
    (haux : ∀ kv ∈ t.aux, kv.1 ≠ "EXTNAME".toList ∧ kv.1 ≠ "HDUNAME".toList)
    (hn : t.ndim ≤ 999) :
    movnamHdu (primHdu E s t :: restHdus t) "EXTENTS".toList =
      t.extents.map fun e => extHdu [2 * t.ndim] (.f64 (e.take (2 * t.ndim))) "EXTENTS".toList := by
  have hup : upper "EXTENTS".toList = "EXTENTS".toList := by decide +kernel
  rw [movnam_written E s t _ haux, restHdus, find_append_of_none]
  · rw [extentsHdus_eq]
    cases t.extents with
    | none => rfl
    | some e =>
      rw [Option.map_some, Option.toList_some, List.find?_cons, nameMatches_extHdu _ _ _ _ extents_name_ok,
        beq_self_eq_true]
  · intro h hh
    obtain ⟨j, hj, rfl⟩ := List.mem_map.1 hh
    rw [nameMatches_knotHdu t j (by have := List.mem_range.1 hj; omega), hup, beq_eq_false_iff_ne]
    intro e
    have := head_knots j
    rw [e] at this
    cases this

theorem readPixD_f64 (E : Ext) (axes : List Nat) (cards : List Card) (k : List UInt64) (n : Nat)
    (hn : k.length = n) : readPixD E ⟨axes, cards, .f64 k⟩ n = some k := by
  subst hn
  simp only [readPixD, Pix.length, Nat.lt_irrefl, if_false, List.take_length]

theorem knots_read (E : Ext) (s : Bool) (t : Table)
    (haux : ∀ kv ∈ t.aux, kv.1 ≠ "EXTNAME".toList ∧ kv.1 ≠ "HDUNAME".toList)
    (hn : t.ndim ≤ 999) (hlen : t.knots.length = t.ndim) (hne : ∀ k ∈ t.knots, k ≠ []) :
    readKnots E (primHdu E s t :: restHdus t) 0 t.ndim = .ok t.knots := by
  rw [readKnots_loop, loopE_ok_iff _ []]
  refine ⟨hlen, fun j hj => ?_⟩
  have h0 : (t.knots.getD j []).length ≠ 0 := fun h0 =>
    hne _ (getD_mem (hlen ▸ hj) _) (List.length_eq_zero_iff.1 h0)
  rw [Nat.zero_add, knotStep, movnam_knots E s t haux hn j hj, knotHdu_eq]
  simp only [extHdu, List.headD_cons, if_neg h0, readPixD_f64 E _ _ _ _ rfl]

theorem primHdu_ndim (E : Ext) (s : Bool) (t : Table) (h : t.naxes.length = t.ndim) :
    (primHdu E s t).axes.length = t.ndim :=
  (congrArg List.length (wAxes_eq t h)).trans (List.length_reverse.trans h)

theorem primHdu_pix (E : Ext) (s : Bool) (t : Table) (hnx : t.naxes.length = t.ndim)
    (hc : t.coef.length = prod t.naxes) : (primHdu E s t).pix = .f32 t.coef := by
  show Pix.f32 (t.coef.take (prod (wAxes t))) = _
  rw [wAxes_eq t hnx, prod_reverse, List.take_of_length_le (Nat.le_of_eq hc)]

theorem coef_read (E : Ext) (s : Bool) (t : Table) (hpos : 1 ≤ t.ndim) (hnx : t.naxes.length = t.ndim)
    (hc : t.coef.length = prod t.naxes) :
    readPixF E (primHdu E s t)
      (((partialProds 1 (primHdu E s t).axes).reverse).headD 0 * ((primHdu E s t).axes.reverse).headD 0)
      = some t.coef := by
  show readPixF E ⟨wAxes t, _, .f32 (t.coef.take (prod (wAxes t)))⟩
    ((partialProds 1 (wAxes t)).reverse.headD 0 * (wAxes t).reverse.headD 0) = _
  rw [wAxes_eq t hnx, ncoeffs_of_axes _ (List.ne_nil_of_length_pos (by rw [List.length_reverse]; omega)),
    prod_reverse, ← hc, List.take_length]
  simp only [readPixF, Pix.length, Nat.lt_irrefl, if_false, List.take_length]

end PsV.Fits

namespace PsV
open PsV.Fits

/-- What `write_fits_core` needs of a table to be able to store it (weaker than full well-formedness: no
    relation between knot counts, orders and axis lengths is needed for the round trip). -/
structure Storable (t : Table) : Prop where
  ndim_pos : 1 ≤ t.ndim
  ndim_le : t.ndim ≤ 999            -- FITS: NAXIS ≤ 999
  knots_len : t.knots.length = t.ndim
  naxes_len : t.naxes.length = t.ndim
  knots_ne : ∀ k ∈ t.knots, k ≠ []
  strides_rm : t.strides = rowMajor t.naxes
  coef_len : t.coef.length = prod t.naxes
  order_lt : ∀ o ∈ t.order, o < 2147483648
  extents_len : ∀ e, t.extents = some e → e.length = 2 * t.ndim
  periods_len : ∀ p, t.periods = some p → p.length = t.ndim
  aux_ok : ∀ kv ∈ t.aux, reserved kv.1 = false ∧ kv.1 ≠ "EXTNAME".toList ∧ kv.1 ≠ "HDUNAME".toList
            ∧ storedLen kv.2 ≤ 68     -- the bound `write_key` enforces: length + number of apostrophes ≤ 68

theorem Storable.without_extents {t : Table} (h : Storable t) : Storable { t with extents := none } :=
  { h with extents_len := fun _ he => nomatch he }

end PsV

namespace PsV.Fits

/-- the table `readCore` returns for `writeGen E s t` -/
def rereadTable (E : Ext) (t : Table) : Table :=
  ⟨t.order, t.knots, t.naxes, t.strides, t.coef, some (t.extents.getD (defaultExtents t.order t.knots)),
   some (rdPeriods E t), t.aux.map fun kv => (kv.1, padFits kv.2)⟩

theorem readCore_writeGen (E : Ext) (t : Table) (s : Bool) (h : Storable t)
    (hs : s = true → ∀ x ∈ t.order, x = t.order.headD 0) :
    readCore E (writeGen E s t) = .ok (rereadTable E t) := by
  have haux1 : ∀ kv ∈ t.aux, reserved kv.1 = false := fun kv hk => (h.aux_ok kv hk).1
  have haux2 : ∀ kv ∈ t.aux, kv.1 ≠ "EXTNAME".toList ∧ kv.1 ≠ "HDUNAME".toList :=
    fun kv hk => ⟨(h.aux_ok kv hk).2.1, (h.aux_ok kv hk).2.2.1⟩
  have hax : (primHdu E s t).axes = t.naxes.reverse := wAxes_eq t h.naxes_len
  have hlen := primHdu_ndim E s t h.naxes_len
  have hord : ordersOf (hdrCards true (primHdu E s t)) t.ndim = .ok t.order := by
    unfold ordersOf
    cases s with
    | false => rw [readKeyInt_none _ _ _ (find_ORDER_false E t haux1)]; exact orders_false E t h.order_lt
    | true =>
      rw [orders_true E t h.order_lt]
      exact congrArg Except.ok (List.eq_replicate_iff.2 ⟨rfl, hs rfl⟩).symm
  have hext : extentsOf E (primHdu E s t :: restHdus t) t.ndim t.order t.knots
      = .ok (t.extents.getD (defaultExtents t.order t.knots)) := by
    unfold extentsOf
    rw [movnam_extents E s t haux2 h.ndim_le]
    cases he : t.extents with
    | none => rfl
    | some e =>
      have := h.extents_len e he
      simp only [Option.map_some, extHdu, List.headD_cons, ne_eq, not_true_eq_false, if_false]
      rw [readPixD_f64 E _ _ _ _ (by rw [List.length_take]; omega), List.take_of_length_le (by omega)]
      rfl
  rw [writeGen_eq, readCore_eq, readWith_ok_iff, hlen]
  refine ⟨h.ndim_pos, _, _, _, _, hord, coef_read E s t h.ndim_pos h.naxes_len h.coef_len,
    knots_read E s t haux2 h.ndim_le h.knots_len h.knots_ne, hext, ?_⟩
  rw [periods_read E s t haux1, aux_read E s t fun kv hk => ⟨(h.aux_ok kv hk).1, (h.aux_ok kv hk).2.2.2⟩,
    hax, strides_of_axes, List.reverse_reverse, ← h.strides_rm]
  rfl

theorem readFixed_writeGen (E : Ext) (t : Table) (s : Bool) (h : Storable t) (hw : DimsWF t)
    (hs : s = true → ∀ x ∈ t.order, x = t.order.headD 0) :
    readFixed E (writeGen E s t) = .ok (rereadTable E t) :=
  (readFixed_ok_iff E _ _).mpr ⟨readCore_writeGen E t s h hs, hw⟩

theorem order_eq_head (t : Table) (o : Nat) (ho : ∀ x ∈ t.order, x = o) : ∀ x ∈ t.order, x = t.order.headD 0 := by
  intro x hx
  cases ht : t.order with
  | nil => rw [ht] at hx; cases hx
  | cons a r => rw [ht] at hx ho; rw [ho x hx, List.headD_cons, ho a (by simp)]

/-- Why `Storable.order_lt` is needed: an order of 2^31 or more is written through `int*` as a negative number, which
    `fits_read_key(TUINT)` refuses, whatever the rest of the table; the first such dimension is where the reader gives
    up. -/
theorem order_big_not_read (E : Ext) (t : Table) (hnx : t.naxes.length = t.ndim)
    (haux : ∀ kv ∈ t.aux, reserved kv.1 = false) (i : Nat) (hi : i < t.ndim)
    (hlo : ∀ j, j < i → t.order.getD j 0 < 2147483648)
    (h1 : 2147483648 ≤ t.order.getD i 0) (h2 : t.order.getD i 0 < 4294967296) :
    readCore E (writeCore E t) = .error (.order i) := by
  have hlen := primHdu_ndim E false t hnx
  have hord : ordersOf (hdrCards true (primHdu E false t)) t.ndim = .error (.order i) := by
    rw [ordersOf, readKeyInt_none _ _ _ (find_ORDER_false E t haux), readOrders_loop]
    refine loopE_error_at _ _ i _ 0 hi (fun j hj => ⟨t.order.getD j 0, ?_⟩) ?_
    · rw [Nat.zero_add, orderStep, readKeyInt_natStr _ _ _ _ _ (hlo j hj) (find_order_i E t j (by omega))
        (cardInt_val _ _ _ (hlo j hj))]
    · rw [Nat.zero_add, orderStep, readKeyInt_tuint_neg _ _ _ _ (by omega) (find_order_i E t i hi)
        (cardInt_val_neg _ _ _ h1 h2)]
  rw [writeCore, writeGen_eq, readCore_eq, readWith, hlen, if_neg (by omega), hord]

/-- 2-dimensional, 2 × 3 coefficients, orders 2 and 3, extents and periods present, three aux keys
    (one with blanks inside, one with an empty value, one with a single apostrophe and a run of two) -/
def exTable : Table :=
  { order := [2, 3]
    knots := [[0, 1, 2, 3, 4], [10, 11, 12, 13, 14, 15, 16]]
    naxes := [2, 3]
    strides := [3, 1]
    coef := [1, 2, 3, 4, 5, 6]
    extents := some [2, 2, 13, 13]
    periods := some [0, 7]
    aux := [("AUTHOR".toList, "J. Doe".toList), ("NOTE".toList, []), ("REMARK".toList, "it's ''".toList)] }

/-- the same with equal orders and neither extents nor periods -/
def exTableLegacy : Table :=
  { exTable with order := [2, 2], extents := none, periods := none }

theorem exTable_storable : Storable exTable := by
  constructor <;> simp -index only [exTable, String.toList_ofList] <;> decide +kernel

theorem exTableLegacy_storable : Storable exTableLegacy := by
  constructor <;> simp -index only [exTableLegacy, exTable, String.toList_ofList] <;> decide +kernel

theorem exValidTable_storable : Storable exValidTable := by constructor <;> decide +kernel

end PsV.Fits

namespace PsV
open PsV.Fits

/-- The table `read_fits_core` must return for what `write_fits_core` wrote. -/
def Reread (E : Ext) (t t' : Table) : Prop :=
  t'.order = t.order ∧ t'.knots = t.knots ∧ t'.naxes = t.naxes ∧ t'.strides = t.strides ∧ t'.coef = t.coef ∧
  t'.extents = some (t.extents.getD (defaultExtents t.order t.knots)) ∧
  t'.aux = t.aux.map (fun kv => (kv.1, padFits kv.2)) ∧
  (∀ p, t.periods = some p → (∀ x ∈ p, E.parseD (E.fmtD x) = some x) → t'.periods = some p) ∧
  (t.periods = none → t'.periods = some (List.replicate t.ndim 0))

theorem Reread.coef {E : Ext} {t t' : Table} (h : Reread E t t') : t'.coef = t.coef := h.2.2.2.2.1

theorem Reread.aux {E : Ext} {t t' : Table} (h : Reread E t t') :
    t'.aux = t.aux.map fun kv => (kv.1, padFits kv.2) := h.2.2.2.2.2.2.1

theorem reread_rereadTable (E : Ext) (t : Table) (h : Storable t) : Reread E t (rereadTable E t) :=
  ⟨rfl, rfl, rfl, rfl, rfl, rfl, rfl,
    fun p hp hx => congrArg some (rdPeriods_exact E t p hp (h.periods_len p hp) hx),
    fun hp => by show some (rdPeriods E t) = _; rw [rdPeriods, hp]⟩

end PsV
