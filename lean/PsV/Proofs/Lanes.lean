import PsV.Model.Eval
import PsV.Model.DerivAbs
/-!
Law-free identities between routines: they hold for *every* `Arith` instance (IEEE double, IEEE
float storage, exact rationals), i.e. the two sides perform the same operations on the
same operands and are therefore bit-identical under any deterministic arithmetic.  Also what uses no law of
arithmetic: the lengths of the rows the basis routines return, when the margin loops stay (`marginShift_stay`),
and the re-indexing as a shift with zero fill (`rearrange_eq_shift`), on which both the exact and the rounding
analysis of `rearrange` rest.
-/
namespace PsV
variable {α : Type} [A : Arith α]

theorem vbLevels_succ (t : Int → α) (x : α) (left : Int) :
    ∀ (k j : Nat) (row : List α),
      vbLevels t x left (k+1) j row = vbStep t x left (j+k) 0 A.zero (vbLevels t x left k j row) := by
  intro k
  induction k with
  | zero => intro j row; simp [vbLevels]
  | succ k ih =>
    intro j row
    rw [vbLevels, ih (j+1)]
    have : j + 1 + k = j + (k + 1) := by omega
    rw [this]
    rfl

/-- value lane: the values produced by `bspline_nonzero` are, operation for operation, those of
`bsplvb_simple` (order ≥ 1; for order 0 see `bsplineNonzero_values_order0`). -/
theorem bsplineNonzero_values (t : Int → α) (nknots : Nat) (x : α) (left : Int) (n : Nat) (hn : n ≠ 0) :
    (bsplineNonzero t nknots x left n).1 = bsplvbSimple t nknots x left n := by
  obtain ⟨m, rfl⟩ : ∃ m, n = m + 1 := ⟨n - 1, by omega⟩
  simp only [bsplineNonzero, bsplvbSimple, bsplvb, Nat.add_one_ne_zero, if_false, Nat.add_sub_cancel]
  rw [vbLevels_succ]
  simp

theorem bsplineNonzero_derivs (t : Int → α) (nknots : Nat) (x : α) (left : Int) (n : Nat) :
    (bsplineNonzero t nknots x left n).2 = bsplineDerivNonzero t nknots x left n := by
  by_cases hn : n = 0
  · simp [bsplineNonzero, bsplineDerivNonzero, hn]
  · simp [bsplineNonzero, bsplineDerivNonzero, hn]

/-- every lane of the gradient code walks rows of plain evaluation: the derivative row in its own dimension, value rows
elsewhere (order ≥ 1: at order 0 `bspline_nonzero` skips the margin loops, see `bsplineNonzero_values_order0`) -/
theorem gradRows_eq_rows : ∀ (ds : List (Dim α)) (xs : List α) (cs : List Nat) (lane n : Nat),
    (∀ d ∈ ds, d.order ≠ 0) →
    gradRows ds xs cs lane n =
      rows ds xs cs ((List.range ds.length).map fun j => if lane = n + j + 1 then BasisMode.deriv1 else BasisMode.value)
  | [], _, _, _, _, _ => by simp [gradRows, rows]
  | _ :: _, [], _, _, _, _ => by simp [gradRows, rows]
  | _ :: _, _ :: _, [], _, _, _ => by simp [gradRows, rows]
  | d :: ds, x :: xs, c :: cs, lane, n, ho => by
    rw [gradRows, List.length_cons, List.range_succ_eq_map, List.map_cons, List.map_map, rows,
      gradRows_eq_rows ds xs cs lane (n + 1) fun e he => ho e (List.mem_cons_of_mem _ he)]
    congr 1
    · by_cases hl : lane = n + 1
      · rw [if_pos hl, if_pos (by omega), localRow, bsplineNonzero_derivs]
      · rw [if_neg hl, if_neg (by omega), localRow, bsplineNonzero_values _ _ _ _ _ (ho d List.mem_cons_self)]
    · exact congrArg _ (List.map_congr_left fun j _ => by
        rw [Function.comp, show n + 1 + j + 1 = n + (j + 1) + 1 by omega])

/-- the margin loops do not move when the comparison each of them starts with fails (each is entered only at its own
margin) -/
theorem marginShift_stay (t : Int → α) (nknots : Nat) (x : α) (left : Int) (n : Nat)
    (hd : left = n → A.lt x (t left) = false)
    (hu : left = (nknots : Int) - n - 2 → A.lt (t (left + 1)) x = false) :
    marginShift t nknots x left n = left := by
  have e1 : (if left = (n : Int) then shiftDown t x (nknots + 1) left else left) = left := by
    split
    · rename_i h; rw [shiftDown, hd h, Bool.and_false]; rfl
    · rfl
  rw [marginShift]
  simp only [e1]
  split
  · rename_i h; rw [shiftUp, hu h, Bool.and_false]; rfl
  · rfl

/-- order 0: `bspline_nonzero` writes 1 without margin handling; `bsplvb_simple` does the same when
the centre is a valid interval index and the margin loops do not move (which the lookup guarantees). -/
theorem bsplineNonzero_values_order0 (t : Int → α) (nknots : Nat) (x : α) (left : Int)
    (h0 : 0 ≤ left) (h1 : left + 2 ≤ nknots)
    (hd : left = 0 → A.lt x (t 0) = false)
    (hu : left = (nknots : Int) - 2 → A.lt (t (left + 1)) x = false) :
    (bsplineNonzero t nknots x left 0).1 = bsplvbSimple t nknots x left 0 := by
  have hm : marginShift t nknots x left 0 = left :=
    marginShift_stay t nknots x left 0 (fun h => by rw [h]; exact hd h) (fun h => hu (by rw [h]; simp))
  simp only [bsplineNonzero, if_true, bsplvbSimple, hm, bsplvb, rearrange]
  have e1 : ¬ (left < 0) := by omega
  have e2 : ¬ ((nknots:Int) < left + 2) := by omega
  simp [e1, e2, vbLevels]

theorem vbStep_len (t : Int → α) (x : α) (left : Int) (j : Nat) :
    ∀ (bs : List α) (i : Nat) (saved : α), (vbStep t x left j i saved bs).length = bs.length + 1
  | [], _, _ => rfl
  | _ :: bs, i, _ => congrArg (· + 1) (vbStep_len t x left j bs (i + 1) _)

theorem vbLevels_len (t : Int → α) (x : α) (left : Int) :
    ∀ (count j : Nat) (row : List α), (vbLevels t x left count j row).length = row.length + count
  | 0, _, _ => rfl
  | c + 1, j, row => by rw [vbLevels, vbLevels_len t x left c, vbStep_len, Nat.add_right_comm]; rfl

theorem bsplvb_len (t : Int → α) (x : α) (left : Int) (jhigh : Nat) :
    (bsplvb t x left jhigh).length = 1 + (jhigh - 1) := by
  rw [bsplvb, vbLevels_len]; rfl

theorem rearrange_length (nknots : Nat) (l : Int) (n : Nat) (row : List α) (hr : row.length = n + 1) :
    (rearrange (A := A) nknots l n row).length = n + 1 := by
  unfold rearrange
  simp only
  split
  · rw [List.length_append, List.length_drop, List.length_replicate, hr, Nat.min_comm, Nat.sub_add_min_cancel]
  · split
    · rw [List.length_append, List.length_take, List.length_replicate, hr, Nat.min_eq_left (Nat.sub_le _ _),
        Nat.add_comm, Nat.min_comm, Nat.sub_add_min_cancel]
    · exact hr

theorem derivMid_length (t : Int → α) (left : Int) (n : Nat) :
    ∀ (vs : List α) (i : Nat) (temp : α), (derivMid t left n i temp vs).length = vs.length + 1 := by
  intro vs
  induction vs with
  | nil => intros; simp [derivMid]
  | cons v vs ih => intros; simp [derivMid, ih]

theorem derivCombine_length (t : Int → α) (left : Int) (n : Nat) (vals : List α) (h : vals.length ≥ 1) :
    (derivCombine t left n vals).length = vals.length + 1 := by
  cases vals with
  | nil => simp at h
  | cons v vs => simp [derivCombine, derivMid_length]

theorem bsplineNonzero_length (t : Int → α) (nknots : Nat) (x : α) (c n : Nat) :
    (bsplineNonzero t nknots x c n).1.length = n + 1 ∧ (bsplineNonzero t nknots x c n).2.length = n + 1 := by
  rw [bsplineNonzero]
  split
  · rename_i hn; rw [hn]; exact ⟨rfl, rfl⟩
  · have len : (bsplvb t x (marginShift t nknots x c n) n).length = n := by rw [bsplvb_len]; omega
    exact ⟨rearrange_length _ _ _ _ (by rw [vbStep_len, len]),
      rearrange_length _ _ _ _ (by rw [derivCombine_length _ _ _ _ (by omega), len])⟩

theorem localRow_len (d : Dim α) (x : α) (c : Nat) (m : BasisMode) :
    (localRow d x c m).length = d.order + 1 := by
  cases m with
  | value => exact rearrange_length _ _ _ _ (by rw [bsplvb_len, Nat.add_sub_cancel, Nat.add_comm])
  | deriv1 =>
    rw [localRow, bsplineDerivNonzero]
    split
    · rename_i hn; rw [hn]; rfl
    · exact rearrange_length _ _ _ _ (by rw [derivCombine_length _ _ _ _ (by rw [bsplvb_len]; omega), bsplvb_len]; omega)
  | derivK k => rw [localRow, List.length_map, List.length_range]

omit A in
/-- a row of `n+1` slots moved down by `s`, zeros behind it -/
theorem getElem?_moveDown (row : List α) (z : α) (n s j : Nat) (hr : row.length = n + 1) (hj : j ≤ n) :
    (row.drop s ++ List.replicate (min s (n + 1)) z)[j]? = some (if j + s ≤ n then row.getD (j + s) z else z) := by
  rw [List.getElem?_append, List.length_drop, hr]
  split
  · rw [List.getElem?_drop, if_pos (by omega), List.getD_eq_getElem?_getD, Nat.add_comm s j,
      List.getElem?_eq_getElem (by omega)]; rfl
  · rw [List.getElem?_replicate, if_pos (by omega), if_neg (by omega)]

omit A in
/-- a row of `n+1` slots moved up by `s ≤ n+1`, zeros in front of it -/
theorem getElem?_moveUp (row : List α) (z : α) (n s j : Nat) (hr : row.length = n + 1) (hs : s ≤ n + 1) (hj : j ≤ n) :
    (List.replicate (min s (n + 1)) z ++ row.take (n + 1 - s))[j]? = some (if s ≤ j then row.getD (j - s) z else z) := by
  rw [Nat.min_eq_left hs, List.getElem?_append, List.length_replicate]
  split
  · rw [List.getElem?_replicate, if_pos (by assumption), if_neg (by omega)]
  · rw [List.getElem?_take, if_pos (by omega), if_pos (by omega), List.getD_eq_getElem?_getD,
      List.getElem?_eq_getElem (by omega)]; rfl

/-- How the interval `l` the margin loops end on sits to the centre `c`, as far as indices go: both are valid, and the
loops moved only at a margin (`down`: moved down ⇒ the centre is the first fully supported interval; `up`: moved up ⇒ it
is the last).  All that the re-indexing depends on. -/
structure ShiftIdx (nknots n c : Nat) (l : Int) : Prop where
  nonneg : 0 ≤ l
  le : l ≤ (nknots:Int) - 2
  lo : n ≤ c
  hi : c + n + 2 ≤ nknots
  down : l < c → (c:Int) = n
  up : (c:Int) < l → (c:Int) + n + 2 = nknots

/-- the loops did not move -/
theorem ShiftIdx.stay {nknots n c : Nat} (hlo : n ≤ c) (hhi : c + n + 2 ≤ nknots) : ShiftIdx nknots n c c :=
  ⟨by omega, by omega, hlo, hhi, fun h => absurd h (Int.lt_irrefl _), fun h => absurd h (Int.lt_irrefl _)⟩

/-- **`rearrange` is a shift with zero fill**, whatever the arithmetic: slot `j` of the re-indexed row is slot
`j + (c - l)` of the row, and zero where that falls outside the row. -/
theorem rearrange_eq_shift (nknots : Nat) (l : Int) (n c : Nat) (row : List α) (hr : row.length = n + 1)
    (hs : ShiftIdx nknots n c l) :
    rearrange nknots l n row = (List.range (n + 1)).map fun j : Nat =>
      if 0 ≤ (j:Int) + c - l ∧ (j:Int) + c - l ≤ n then row.getD ((j:Int) + c - l).toNat A.zero else A.zero := by
  obtain ⟨hl0, hl1, hlo, hhi, hdown, hup⟩ := hs
  apply List.ext_getElem?
  intro j
  rcases Nat.lt_or_ge n j with hj | hj
  · rw [List.getElem?_eq_none (by rw [rearrange_length nknots l n row hr]; exact hj),
      List.getElem?_eq_none (by rw [List.length_map, List.length_range]; exact hj)]
  rw [List.getElem?_map, List.getElem?_range (Nat.lt_succ_of_le hj), Option.map_some]
  simp only [rearrange]
  by_cases h1 : (n : Int) - l > 0
  · -- lower margin: `c = n`, the row moves down by `s = n - l = c - l`
    obtain ⟨s, hs⟩ := Int.eq_ofNat_of_zero_le (Int.le_of_lt h1)
    have e : (j:Int) + c - l = ((j + s : Nat) : Int) := by have := hdown (by omega); omega
    rw [if_pos h1, hs, Int.toNat_natCast, getElem?_moveDown row _ n s j hr hj, e, Int.toNat_natCast]
    simp only [Int.natCast_nonneg, true_and, Int.ofNat_le]
  rw [if_neg h1]
  by_cases h2 : l + (n : Int) + 2 - nknots > 0
  · -- upper margin: `c = nknots - n - 2`, the row moves up by `s = l - c`
    obtain ⟨s, hs⟩ := Int.eq_ofNat_of_zero_le (Int.le_of_lt h2)
    have hc : l - c = s := by have := hup (by omega); omega
    rw [if_pos h2, hs, Int.toNat_natCast, getElem?_moveUp row _ n s j hr (by omega) hj]
    by_cases hsj : s ≤ j
    · rw [if_pos hsj, show (j:Int) + c - l = ((j - s : Nat) : Int) by omega, Int.toNat_natCast, if_pos (by omega)]
    · rw [if_neg hsj, if_neg (by omega)]
  · -- fully supported: `l = c`
    have e : (j:Int) + c - l = (j : Int) := by have := hdown; have := hup; omega
    rw [if_neg h2, e, if_pos ⟨Int.natCast_nonneg j, Int.ofNat_le.2 hj⟩, Int.toNat_natCast, List.getD_eq_getElem?_getD,
      List.getElem?_eq_getElem (hr ▸ Nat.lt_succ_of_le hj)]; rfl

theorem rearrange_interior (nknots : Nat) (left : Int) (n : Nat) (row : List α)
    (h1 : (n : Int) ≤ left) (h2 : left + n + 2 ≤ nknots) : rearrange nknots left n row = row := by
  unfold rearrange
  simp only
  rw [if_neg (by omega), if_neg (by omega)]

theorem maskModes_zero (n : Nat) : maskModes n 0 = List.replicate n .value := by
  simp only [maskModes, Nat.zero_testBit, Bool.false_eq_true, if_false]
  induction n with
  | zero => rfl
  | succ n ih => rw [List.range_succ, List.map_append, ih, List.replicate_succ']; rfl

theorem maskModes_length (n mask : Nat) : (maskModes n mask).length = n := by simp [maskModes]

theorem maskModes_mem (n mask : Nat) : ∀ m ∈ maskModes n mask, m = BasisMode.value ∨ m = BasisMode.deriv1 := by
  intro m hm
  simp only [maskModes, List.mem_map] at hm
  obtain ⟨j, _, rfl⟩ := hm
  split
  · exact Or.inr rfl
  · exact Or.inl rfl

theorem derivModes_mem (ks : List Nat) (h : ∀ k ∈ ks, k ≤ 1) :
    ∀ m ∈ derivModes ks, m = BasisMode.value ∨ m = BasisMode.deriv1 := by
  intro m hm
  simp only [derivModes, List.mem_map] at hm
  obtain ⟨k, hk, rfl⟩ := hm
  have := h k hk
  by_cases h0 : k = 0
  · simp [h0]
  · have h1 : k = 1 := by omega
    simp [h1]

theorem rowsAbs_value : ∀ (ds : List (Dim α)) (xs : List α) (cs : List Nat) (ms : List BasisMode),
    (∀ m ∈ ms, m = BasisMode.value) → rowsAbs ds xs cs ms = rows ds xs cs ms := by
  intro ds
  induction ds with
  | nil => intro xs cs ms _; simp [rows, rowsAbs]
  | cons d ds ih =>
    intro xs cs ms h
    match xs, cs, ms, h with
    | [], _, _, _ => simp [rows, rowsAbs]
    | _ :: _, [], _, _ => simp [rows, rowsAbs]
    | _ :: _, _ :: _, [], _ => simp [rows, rowsAbs]
    | x :: xs, c :: cs, m :: ms, h =>
      have hm : m = BasisMode.value := h m (by simp)
      subst hm
      simp only [rows, rowsAbs, localRowAbs]
      rw [ih xs cs ms (fun m' hm' => h m' (by simp [hm']))]

theorem ndsplineevalAbs_zero (T : Table α) (xs : List α) (cs : List Nat) :
    ndsplineevalAbs T xs cs 0 = ndsplineeval T xs cs 0 := by
  unfold ndsplineevalAbs ndsplineeval evalModesAbs evalModes
  rw [rowsAbs_value]
  intro m hm
  simp only [maskModes, Nat.zero_testBit, Bool.false_eq_true, if_false, List.mem_map] at hm
  obtain ⟨_, _, rfl⟩ := hm
  rfl

end PsV
