/-!
# List and array facts the proof modules share (core Lean only)

Most models read their arrays with `List.getD` (a C read with the model's default outside the array), build them with
`List.range`/`map`/`replicate`/`set`, and cut byte strings into chunks of one length.  Core Lean has `getElem?` lemmas for
all of this and next to nothing for `getD`; the facts below are the `getD` forms, stated once.  Nothing here imports
Mathlib, so the core-only proof modules can use it.
-/
namespace PsV
variable {α β : Type _} {l : List α} {i j n : Nat} {a d : α}

/-! ## `getD` -/

theorem getD_of_lt (h : i < l.length) : l.getD i d = l[i] := by
  rw [List.getD_eq_getElem?_getD, List.getElem?_eq_getElem h, Option.getD_some]

theorem getD_of_le (h : l.length ≤ i) : l.getD i d = d := by
  rw [List.getD_eq_getElem?_getD, List.getElem?_eq_none h, Option.getD_none]

theorem lt_length_of_getD {x : α} (h : l.getD i d = x) (hx : x ≠ d) : i < l.length :=
  Nat.lt_of_not_le fun hle => hx (h.symm.trans (getD_of_le hle))

theorem getElem?_eq_some_getD (h : i < l.length) (d : α) : l[i]? = some (l.getD i d) := by
  rw [getD_of_lt h, List.getElem?_eq_getElem h]

theorem getD_mem (h : i < l.length) (d : α) : l.getD i d ∈ l :=
  getD_of_lt h ▸ List.getElem_mem h

theorem getD_of_forall {P : α → Prop} (h : ∀ a ∈ l, P a) (hd : P d) (i : Nat) : P (l.getD i d) :=
  if hi : i < l.length then h _ (getD_mem hi d) else getD_of_le (Nat.le_of_not_lt hi) ▸ hd

theorem getD_map (f : α → β) : (l.map f).getD i (f d) = f (l.getD i d) := by
  simp only [List.getD_eq_getElem?_getD, List.getElem?_map]
  cases l[i]? <;> rfl

theorem getD_map_of_lt (f : α → β) (h : i < l.length) (d : α) (d' : β) : (l.map f).getD i d' = f (l.getD i d) := by
  rw [getD_of_lt (by rwa [List.length_map]), List.getElem_map, getD_of_lt h]

theorem getD_map_range_of_lt (f : Nat → α) (h : i < n) (d : α) : ((List.range n).map f).getD i d = f i := by
  rw [getD_of_lt (by rwa [List.length_map, List.length_range]), List.getElem_map, List.getElem_range]

theorem getD_replicate (h : i < n) (x d : α) : (List.replicate n x).getD i d = x := by
  rw [getD_of_lt (by rwa [List.length_replicate]), List.getElem_replicate]

theorem getD_set : (l.set i a).getD j d = if i = j ∧ i < l.length then a else l.getD j d := by
  simp only [List.getD_eq_getElem?_getD, List.getElem?_set]
  by_cases hij : i = j
  · subst hij
    by_cases hi : i < l.length
    · simp [hi]
    · simp [hi]
  · simp [hij]

theorem getD_set_ne (h : i ≠ j) : (l.set i a).getD j d = l.getD j d := by
  rw [getD_set, if_neg fun h' => h h'.1]

theorem getD_set_self (h : i < l.length) : (l.set i a).getD i d = a := by
  rw [getD_set, if_pos ⟨rfl, h⟩]

/-- writing the default needs no range condition: outside the list a read gives the default too -/
theorem getD_set_default : (l.set i d).getD j d = if i = j then d else l.getD j d := by
  rw [getD_set]
  by_cases hij : i = j
  · subst hij
    by_cases hi : i < l.length
    · rw [if_pos ⟨rfl, hi⟩, if_pos rfl]
    · rw [if_neg (fun h => hi h.2), if_pos rfl, getD_of_le (Nat.le_of_not_lt hi)]
  · rw [if_neg (fun h => hij h.1), if_neg hij]

theorem getD_set_default_self : (l.set i d).getD i d = d := by
  rw [getD_set_default, if_pos rfl]

theorem getD_set_default_of (h : l.getD j d = d) : (l.set i d).getD j d = d := by
  rw [getD_set_default, h, ite_self]

theorem set_getD_self (h : l.getD i d = a) : l.set i a = l := by
  by_cases hi : i < l.length
  · rw [← h, getD_of_lt hi, List.set_getElem_self]
  · exact List.set_eq_of_length_le (Nat.le_of_not_lt hi)

theorem list_ext_getD {l₁ l₂ : List α} (hl : l₁.length = l₂.length)
    (h : ∀ p, p < l₁.length → l₁.getD p d = l₂.getD p d) : l₁ = l₂ := by
  apply List.ext_getElem hl
  intro p h1 h2
  rw [← getD_of_lt h1 (d := d), ← getD_of_lt h2 (d := d)]
  exact h p h1

theorem set_eq_iff (e idx : List α) (k : Nat) :
    e.set k (idx.getD k d) = idx ↔ e = idx.set k (e.getD k d) := by
  constructor
  · intro h
    have : idx.set k (e.getD k d) = (e.set k (idx.getD k d)).set k (e.getD k d) := by rw [h]
    rw [this, List.set_set, set_getD_self rfl]
  · intro h
    have : e.set k (idx.getD k d) = (idx.set k (e.getD k d)).set k (idx.getD k d) := by rw [← h]
    rw [this, List.set_set, set_getD_self rfl]

theorem getD_append_length (l₁ l₂ : List α) (r : α) : (l₁ ++ r :: l₂).getD l₁.length d = r := by
  rw [List.getD_eq_getElem?_getD, List.getElem?_append_right (Nat.le_refl _), Nat.sub_self]
  rfl

theorem set_append_length (l₁ l₂ : List α) (r v : α) : (l₁ ++ r :: l₂).set l₁.length v = l₁ ++ v :: l₂ := by
  induction l₁ with
  | nil => rfl
  | cons a l₁ ih => rw [List.cons_append, List.length_cons, List.set_cons_succ, ih, List.cons_append]

theorem map_getD_range (l : List α) (d : α) (n : Nat) (h : l.length = n) : (List.range n).map (fun i => l.getD i d) = l := by
  subst h
  refine List.ext_getElem (by simp) fun i h1 h2 => ?_
  rw [List.getElem_map, List.getElem_range, getD_of_lt h2]

theorem map_getD_range_rev (l : List α) (d : α) (n : Nat) (h : l.length = n) :
    (List.range n).map (fun i => l.getD (n - i - 1) d) = l.reverse := by
  subst h
  apply List.ext_getElem
  · simp
  · intro i h1 h2
    have h3 : i < l.length := by simpa using h2
    rw [List.getElem_map, List.getElem_range, List.getElem_reverse, getD_of_lt (by omega)]
    congr 1; omega

theorem map_eq_self_iff (g : α → α) : ∀ l : List α, l.map g = l ↔ ∀ x ∈ l, g x = x
  | [] => by simp
  | a :: r => by simp [map_eq_self_iff g r]

theorem map_range_const {f : Nat → α} {c : α} (h : ∀ i, i < n → f i = c) : (List.range n).map f = List.replicate n c :=
  List.eq_replicate_iff.mpr ⟨by simp, fun b hb => by
    obtain ⟨i, hi, rfl⟩ := List.mem_map.mp hb
    exact h i (List.mem_range.mp hi)⟩

theorem getD_zip {A B : Type _} (da : A) (db : B) (xs : List A) (ms : List B) (h : xs.length = ms.length) (j : Nat) :
    (xs.zip ms).getD j (da, db) = (xs.getD j da, ms.getD j db) := by
  simp only [List.getD_eq_getElem?_getD, List.zip, List.getElem?_zipWith]
  by_cases hj : j < xs.length
  · rw [List.getElem?_eq_getElem hj, List.getElem?_eq_getElem (h ▸ hj)]; rfl
  · rw [List.getElem?_eq_none (Nat.le_of_not_lt hj), List.getElem?_eq_none (h ▸ Nat.le_of_not_lt hj)]; rfl

/-! ## `find?` on a table indexed by `range`, and across `++` -/

theorem find?_map_range (p : α → Bool) (f : Nat → α) (rest : List α) (hi : i < n) (hp : p (f i) = true)
    (hlt : ∀ j, j < i → p (f j) = false) : ((List.range n).map f ++ rest).find? p = some (f i) := by
  induction n generalizing f i with
  | zero => exact absurd hi (Nat.not_lt_zero i)
  | succ n ih =>
    rw [List.range_succ_eq_map, List.map_cons, List.map_map, List.cons_append, List.find?_cons]
    cases i with
    | zero => rw [hp]
    | succ i =>
      rw [hlt 0 (Nat.succ_pos i)]
      exact ih (f ∘ Nat.succ) (Nat.lt_of_succ_lt_succ hi) hp fun j hj => hlt (j + 1) (Nat.succ_lt_succ hj)

theorem find_range_map (f : Nat → α) (p : α → Bool) (i n : Nat) (hi : i < n)
    (h : ∀ j, j < n → (p (f j) = true ↔ j = i)) : ((List.range n).map f).find? p = some (f i) :=
  List.append_nil (List.map f _) ▸ find?_map_range p f [] hi ((h i hi).2 rfl) fun j hj =>
    Bool.eq_false_iff.2 fun hp => Nat.ne_of_lt hj ((h j (Nat.lt_trans hj hi)).1 hp)

theorem find_append_of_none (p : α → Bool) (A B : List α) (h : ∀ a ∈ A, p a = false) :
    (A ++ B).find? p = B.find? p := by
  rw [List.find?_append, List.find?_eq_none.2 fun a ha => by simp [h a ha]]; rfl

theorem find_append_of_some (p : α → Bool) (A B : List α) (b : α) (h : A.find? p = some b) :
    (A ++ B).find? p = some b := by
  rw [List.find?_append, h]; rfl

/-! ## lists of chunks of one length (80-character cards, 2880-byte blocks, k-byte words) -/

theorem length_flatten_uniform {k : Nat} {L : List (List α)} (h : ∀ s ∈ L, s.length = k) :
    L.flatten.length = k * L.length := by
  induction L with
  | nil => rfl
  | cons s L ih =>
    rw [List.flatten_cons, List.length_append, h s List.mem_cons_self, ih fun t ht => h t (List.mem_cons_of_mem _ ht),
      List.length_cons, Nat.mul_succ, Nat.add_comm]

theorem take_drop_flatten_uniform {k : Nat} {L : List (List α)} (h : ∀ s ∈ L, s.length = k) (tail : List α)
    (hj : j < L.length) : ((L.flatten ++ tail).drop (k * j)).take k = L[j] := by
  induction L generalizing j with
  | nil => exact absurd hj (Nat.not_lt_zero j)
  | cons s L ih =>
    have hs := h s List.mem_cons_self
    rw [List.flatten_cons, List.append_assoc]
    cases j with
    | zero => rw [Nat.mul_zero, List.drop_zero, List.take_append_of_le_length (Nat.le_of_eq hs.symm),
        List.take_of_length_le (Nat.le_of_eq hs)]; rfl
    | succ j =>
      rw [Nat.mul_succ, Nat.add_comm, ← hs, ← List.drop_drop, List.drop_left, hs]
      exact ih (fun t ht => h t (List.mem_cons_of_mem _ ht)) (Nat.lt_of_succ_lt_succ hj)

theorem take_drop_flatMap_uniform {k : Nat} (f : α → List β) (hf : ∀ a, (f a).length = k) (l : List α) (tail : List β)
    (hj : j < l.length) : ((l.flatMap f ++ tail).drop (k * j)).take k = f l[j] := by
  have := take_drop_flatten_uniform (L := l.map f) (k := k) (j := j)
    (fun s hs => by obtain ⟨a, _, rfl⟩ := List.mem_map.mp hs; exact hf a) tail (by rwa [List.length_map])
  rwa [← List.flatMap_def, List.getElem_map] at this

/-! ## `count` and `sum` -/

/-- a counter that goes with `count b`: what a write adds against what the cell held -/
theorem count_set_getD [DecidableEq α] {b : α} (h : i < l.length) :
    (l.set i a).count b + (if l.getD i d = b then 1 else 0) = l.count b + (if a = b then 1 else 0) := by
  rw [List.count_set h, getD_of_lt h]
  simp only [beq_iff_eq]
  generalize (if a = b then 1 else 0) = k
  by_cases e : l[i] = b
  · have hc : 0 < l.count b := List.count_pos_iff.mpr (e ▸ List.getElem_mem h)
    rw [if_pos e, Nat.add_right_comm, Nat.sub_add_cancel hc]
  · rw [if_neg e]; rfl

theorem count_eq_zero_of_getD [BEq α] [LawfulBEq α] {b : α} (hb : b ≠ d) (h : ∀ j, l.getD j d = d) : l.count b = 0 := by
  rw [List.count_eq_zero]
  intro hm
  obtain ⟨i, hi, he⟩ := List.mem_iff_getElem.mp hm
  exact hb (by rw [← he, ← getD_of_lt (d := d) hi, h i])

theorem le_sum_of_mem (l : List Nat) (x : Nat) (h : x ∈ l) : x ≤ l.sum := by
  induction l with
  | nil => cases h
  | cons y l ih =>
    cases h with
    | head => exact Nat.le_add_right _ _
    | tail _ h => exact Nat.le_trans (ih h) (Nat.le_add_left _ _)

theorem sum_map_le (l : List α) (g : α → Nat) (c : Nat) (h : ∀ a ∈ l, g a ≤ c) : (l.map g).sum ≤ c * l.length := by
  induction l with
  | nil => exact Nat.le_refl _
  | cons a l ih =>
    exact Nat.le_trans (Nat.add_le_add (h a (List.mem_cons_self ..)) (ih fun b hb => h b (List.mem_cons_of_mem _ hb)))
      (Nat.le_of_eq (Nat.add_comm _ _))

/-- all chunks: cutting the concatenation into pieces of length `k` gives the list back -/
theorem map_take_drop_flatten_uniform {k : Nat} {L : List (List α)} (h : ∀ s ∈ L, s.length = k) (tail : List α) :
    (List.range L.length).map (fun i => ((L.flatten ++ tail).drop (k * i)).take k) = L :=
  List.ext_getElem (by rw [List.length_map, List.length_range]) fun i _ h2 => by
    rw [List.getElem_map, List.getElem_range]; exact take_drop_flatten_uniform h tail h2

/-! ## appended lists -/

theorem lt_of_getElem?_append {pre post : List α} {a b : α} (ha : a ∉ pre) (hb : b ∉ post) {i j : Nat}
    (hi : (pre ++ post)[i]? = some a) (hj : (pre ++ post)[j]? = some b) : j < i := by
  by_cases hjl : j < pre.length
  · by_cases hil : i < pre.length
    · rw [List.getElem?_append_left hil] at hi
      exact absurd (List.mem_of_getElem? hi) ha
    · omega
  · rw [List.getElem?_append_right (by omega)] at hj
    exact absurd (List.mem_of_getElem? hj) hb

theorem append_replicate_inj {fill : α} : ∀ {a b : List α} {k m : Nat}, fill ∉ a → fill ∉ b →
    a ++ List.replicate k fill = b ++ List.replicate m fill → a = b
  | [], [], _, _, _, _, _ => rfl
  | [], d :: b, k, _, _, hb, h => by
    cases k with
    | zero => exact absurd h (by simp)
    | succ k =>
      rw [List.replicate_succ, List.nil_append, List.cons_append, List.cons.injEq] at h
      exact absurd (h.1 ▸ List.mem_cons_self) hb
  | d :: a, [], _, m, ha, _, h => by
    cases m with
    | zero => exact absurd h (by simp)
    | succ m =>
      rw [List.replicate_succ, List.nil_append, List.cons_append, List.cons.injEq] at h
      exact absurd (h.1 ▸ List.mem_cons_self) ha
  | d :: a, e :: b, _, _, ha, hb, h => by
    rw [List.cons_append, List.cons_append, List.cons.injEq] at h
    rw [h.1, append_replicate_inj (fun x => ha (List.mem_cons_of_mem _ x)) (fun x => hb (List.mem_cons_of_mem _ x)) h.2]

/-! ## arrays read with `getD` -/

theorem Array.getD_toArray (l : List α) (i : Nat) (d : α) : l.toArray.getD i d = l.getD i d := by
  rw [Array.getD_eq_getD_getElem?, List.getElem?_toArray, List.getD_eq_getElem?_getD]

theorem Array.getD_map_of_lt (f : α → β) (xs : Array α) (h : i < xs.size) (d : α) (d' : β) :
    (xs.map f).getD i d' = f (xs.getD i d) := by
  simp [Array.getD_eq_getD_getElem?, h]

theorem Array.getD_mapIdx_of_lt (f : Nat → α → β) (xs : Array α) (h : i < xs.size) (d : α) (d' : β) :
    (xs.mapIdx f).getD i d' = f i (xs.getD i d) := by
  simp [Array.getD_eq_getD_getElem?, h]

theorem Array.getD_mapIdx_of_le (f : Nat → α → β) (xs : Array α) (h : xs.size ≤ i) (d' : β) :
    (xs.mapIdx f).getD i d' = d' := by
  rw [Array.getD_eq_getD_getElem?, Array.getElem?_mapIdx, Array.getElem?_eq_none h]
  rfl

theorem Array.getD_ofFn (f : Fin n → α) (h : i < n) (d : α) : (Array.ofFn f).getD i d = f ⟨i, h⟩ := by
  rw [Array.getD_eq_getD_getElem?, Array.getElem?_ofFn, dif_pos h, Option.getD_some]

theorem Array.getD_zipWith_of_lt {γ : Type _} (f : α → β → γ) (xs : Array α) (ys : Array β) (hx : i < xs.size)
    (hy : i < ys.size) (d : α) (d' : β) (d'' : γ) :
    (Array.zipWith f xs ys).getD i d'' = f (xs.getD i d) (ys.getD i d') := by
  have h : i < (Array.zipWith f xs ys).size := by rw [Array.size_zipWith]; exact Nat.lt_min.mpr ⟨hx, hy⟩
  rw [Array.getD_eq_getD_getElem?, Array.getD_eq_getD_getElem?, Array.getD_eq_getD_getElem?,
    Array.getElem?_eq_getElem h, Array.getElem?_eq_getElem hx, Array.getElem?_eq_getElem hy, Array.getElem_zipWith]
  rfl

theorem map_zipIdx_const {β γ : Type} (F : β × Nat → γ) (G : β → γ) : ∀ (l : List β) (k : Nat),
    (∀ b i, k ≤ i → i < k + l.length → F (b, i) = G b) → (l.zipIdx k).map F = l.map G
  | [], _, _ => rfl
  | b :: l, k, h => by
    rw [List.zipIdx_cons, List.map_cons, List.map_cons, h b k (Nat.le_refl _) (by simp),
      map_zipIdx_const F G l (k+1) (fun b i h1 h2 => h b i (by omega) (by simp only [List.length_cons]; omega))]

end PsV
