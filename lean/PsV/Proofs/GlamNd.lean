import PsV.Proofs.ModeProd
import PsV.Proofs.GlamNdFlat
import PsV.Proofs.GlamNdPen
/-!
# C09, any number of dimensions: the system assembled by the model of glam.c is the normal-equation system

The convolution loop of `glamfit_complex` is two loops of mode products (`modeLoop_get` of `ModeProd`), with the boxed
bases on `F` and the bases on `R`.  With the reshape of `GlamNdFlat` they yield `BᵀWB` and `BᵀWz` of the Kronecker design
matrix `B[r, i] = Π_d B_d(i_d, x_{r,d})` (`glam_data_nd`), and with the penalty matrix of `GlamNdPen` the assembled system is
`(specM, specR)` (`glam_eq_kron_nd`).  The examples at the end show that the hypotheses can be met.
-/
set_option linter.unusedSectionVars false
namespace PsV

section
variable {α : Type} [Field α] [LinearOrder α] [IsStrictOrderedRing α] [A : Arith α] [L : LawfulArith α]

theorem glamConvolve_eq (bs : List (Mat α)) (i : Nat) (F R : NdSparse α) :
    glamConvolve bs i F R
      = match modeLoop (bs.map fun b => box b b) i F, modeLoop bs i R with
        | some F', some R' => some (F', R')
        | _, _ => none := by
  induction bs generalizing i F R with
  | nil => rfl
  | cons b bs ih =>
    simp only [glamConvolve, List.map_cons, modeLoop]
    cases hF : sliceMultiply F (box b b) i with
    | none => simp
    | some F' =>
      cases hR : sliceMultiply R b i with
      | none =>
        simp only
        cases modeLoop (bs.map fun b => box b b) (i+1) F' <;> rfl
      | some R' => simp only [ih]

theorem glamConvolve_get (bs : List (Mat α)) (ranges : List Nat) (esF esR : List (List Nat × α))
    (hrow : List.Forall₂ (fun (b : Mat α) r => b.nrow = r) bs ranges)
    (hF : ∀ e ∈ esF, IdxIn e.1 ranges) (hR : ∀ e ∈ esR, IdxIn e.1 ranges) :
    ∃ F R, glamConvolve bs 0 ⟨ranges, esF⟩ ⟨ranges, esR⟩ = some (F, R) ∧
      F.ranges = bs.map (fun b => b.ncol * b.ncol) ∧ F.WF ∧
      R.ranges = bs.map (fun b => b.ncol) ∧ R.WF ∧
      (∀ idx, IdxIn idx F.ranges →
        F.get idx = (esF.map fun e => matProd (bs.map fun b => box b b) e.1 idx * e.2).sum) ∧
      (∀ idx, IdxIn idx R.ranges →
        R.get idx = (esR.map fun e => matProd bs e.1 idx * e.2).sum) := by
  have hrowF : List.Forall₂ (fun (b : Mat α) r => b.nrow = r) (bs.map fun b => box b b) ranges := by
    rw [List.forall₂_map_left_iff]
    exact hrow
  obtain ⟨F, f1, f2, f3, f4, _⟩ := modeLoop_get (bs.map fun b => box b b) ranges esF hrowF hF
  obtain ⟨R, r1, r2, r3, r4, _⟩ := modeLoop_get bs ranges esR hrow hR
  refine ⟨F, R, ?_, ?_, f3, r2, r3, f4, r4⟩
  · rw [glamConvolve_eq, f1, r1]
  · rw [f2, List.map_map]
    rfl

/-- the list of basis matrices built by `glamfit_complex` -/
def glamBases (dims : List (Dim α)) (coords : List (List α)) (dataRanges : List Nat) : List (Mat α) :=
  (dims.zip (coords.zip dataRanges)).map fun (d, xs, n) => bsplineBasis d.knots d.nknots d.order (xs.take n)

theorem glamBases_cons (d : Dim α) (ds : List (Dim α)) (c : List α) (cs : List (List α)) (n : Nat) (ns : List Nat) :
    glamBases (d :: ds) (c :: cs) (n :: ns)
      = bsplineBasis d.knots d.nknots d.order (c.take n) :: glamBases ds cs ns := rfl

theorem glamBases_shape (dims : List (Dim α)) (coords : List (List α)) (hlen : coords.length = dims.length)
    (hax : ∀ d ∈ dims, d.naxes = d.nknots - d.order - 1) :
    List.Forall₂ (fun (b : Mat α) r => b.nrow = r) (glamBases dims coords (coords.map List.length))
        (coords.map List.length) ∧
      (glamBases dims coords (coords.map List.length)).map (fun b => b.ncol) = dims.map (·.naxes) := by
  induction dims generalizing coords with
  | nil =>
    rw [List.length_eq_zero_iff.mp hlen]
    exact ⟨List.Forall₂.nil, rfl⟩
  | cons d ds ih =>
    cases coords with
    | nil => simp at hlen
    | cons c cs =>
      obtain ⟨h1, h2⟩ := ih cs (by simpa using hlen) (fun d' hd' => hax d' (List.mem_cons_of_mem _ hd'))
      rw [List.map_cons, glamBases_cons, List.map_cons, List.map_cons, h2, hax d List.mem_cons_self]
      exact ⟨List.Forall₂.cons (List.length_take_of_le (le_refl _)) h1, rfl⟩

theorem matProd_bases (dims : List (Dim α)) (coords : List (List α)) (g : List Nat) (xs : List α) (i : Nat)
    (hlen : coords.length = dims.length) (hg : gridPoint coords g = some xs) :
    matProd (glamBases dims coords (coords.map List.length)) g (comps dims i) = basisProd dims xs i := by
  revert dims
  refine gridPoint_induct ?_ ?_ coords g xs hg
  · intro dims hlen
    rw [List.length_eq_zero_iff.mp hlen.symm]
    simp [glamBases, matProd, comps, basisProd, L.one_eq]
  · intro c cs g0 gs x xs' hc hr ih dims hlen
    cases dims with
    | nil => simp at hlen
    | cons d ds =>
      rw [List.map_cons, glamBases_cons, show comps (d :: ds) i = (i / d.stride) % d.naxes :: comps ds i from rfl, matProd,
        basisProd, ih ds (by simpa using hlen), basis_val, List.take_length, hc, L.mul_eq]

/-- **Data side of the GLAM identity, any number of dimensions.**  With C-ordered strides, `naxes = nknots − order − 1`,
one coordinate vector per dimension and every datum on the grid, the convolution loop of `glamfit_complex` succeeds and
the flattened `R` and the reshaped, flattened `F` hold `(BᵀWz)_i` and `(BᵀWB)_{ij}` of the Kronecker design matrix. -/
theorem glam_data_nd (dims : List (Dim α)) (coords : List (List α)) (dw : List ((List Nat × α) × α))
    (hs : StridesRowMajor dims) (hax : ∀ d ∈ dims, d.naxes = d.nknots - d.order - 1)
    (hlen : coords.length = dims.length)
    (hd : ∀ ew ∈ dw, IdxIn ew.1.1 (coords.map List.length)) :
    ∃ F R, glamConvolve (glamBases dims coords (coords.map List.length)) 0
        ⟨coords.map List.length, dw.map fun (e, w) => (e.1, w)⟩
        ⟨coords.map List.length, dw.map fun (e, w) => (e.1, A.mul w e.2)⟩ = some (F, R) ∧
      (∀ i < natProd (dims.map (·.naxes)),
        (flattenNd R (natProd (dims.map (·.naxes))) 1).get i 0
          = (dw.map fun ew => ew.2 * ew.1.2 * rowB dims coords ⟨ew.1.1, ew.1.2, ew.2⟩ i).sum) ∧
      (∀ i < natProd (dims.map (·.naxes)), ∀ j < natProd (dims.map (·.naxes)),
        (flattenNd ⟨evensFirst ((dims.map (·.naxes)).flatMap fun n => [n, n]),
            F.entries.map fun e => (evensFirst (doubleDims (dims.map (·.naxes)) e.1), e.2)⟩
            (natProd (dims.map (·.naxes))) (natProd (dims.map (·.naxes)))).get i j
          = (dw.map fun ew => ew.2 * rowB dims coords ⟨ew.1.1, ew.1.2, ew.2⟩ i
                                   * rowB dims coords ⟨ew.1.1, ew.1.2, ew.2⟩ j).sum) := by
  obtain ⟨hnrow, hncol⟩ := glamBases_shape dims coords hlen hax
  obtain ⟨F, R, hconv, hFr, hFwf, hRr, hRwf, hFget, hRget⟩ :=
    glamConvolve_get (glamBases dims coords (coords.map List.length)) (coords.map List.length)
      (dw.map fun (e, w) => (e.1, w)) (dw.map fun (e, w) => (e.1, A.mul w e.2))
      hnrow
      (by intro e he; rw [List.mem_map] at he; obtain ⟨ew, hew, rfl⟩ := he; exact hd ew hew)
      (by intro e he; rw [List.mem_map] at he; obtain ⟨ew, hew, rfl⟩ := he; exact hd ew hew)
  have hRr' : R.ranges = dims.map (·.naxes) := by rw [hRr, hncol]
  have hFr' : F.ranges = (dims.map (·.naxes)).map fun n => n * n := by
    rw [hFr, ← hncol, List.map_map]; rfl
  have hrow : ∀ ew ∈ dw, ∀ i, matProd (glamBases dims coords (coords.map List.length)) ew.1.1 (comps dims i)
      = rowB dims coords ⟨ew.1.1, ew.1.2, ew.2⟩ i := by
    intro ew hew i
    obtain ⟨xs, hxs⟩ := gridPoint_of_idxIn coords ew.1.1 (hd ew hew)
    rw [matProd_bases dims coords ew.1.1 xs i hlen hxs]
    unfold rowB
    simp only [hxs]
  refine ⟨F, R, hconv, ?_, ?_⟩
  · intro i hi
    obtain ⟨hci, hri⟩ := comps_spec dims hs i hi
    have h1 := flattenNd_R_get R (dims.map (·.naxes)) hRr' hRwf (comps dims i) hci
    rw [hri] at h1
    rw [h1, hRget (comps dims i) (by rw [hRr']; exact hci), List.map_map]
    congr 1
    apply List.map_congr_left
    intro ew hew
    simp only [Function.comp, L.mul_eq]
    rw [hrow ew hew i]
    ring
  · intro i hi j hj
    obtain ⟨hci, hri⟩ := comps_spec dims hs i hi
    obtain ⟨hcj, hrj⟩ := comps_spec dims hs j hj
    have h1 := flattenNd_F_get_nd F (dims.map (·.naxes)) hFr' hFwf (comps dims i) (comps dims j) hci hcj
    rw [hri, hrj] at h1
    have hp := idxIn_pairIdx (dims.map (·.naxes)) (comps dims i) (comps dims j) hci hcj
    rw [h1, hFget _ (by rw [hFr']; exact hp), List.map_map]
    congr 1
    apply List.map_congr_left
    intro ew hew
    simp only [Function.comp]
    have hb := matProd_box (glamBases dims coords (coords.map List.length)) ew.1.1 (comps dims i) (comps dims j)
      (by rw [hci.1, ← hncol, List.length_map]) (by rw [hncol]; exact hcj)
    rw [hncol] at hb
    rw [hb, hrow ew hew i, hrow ew hew j]
    ring

theorem sum_rows_of_zip (dw : List ((List Nat × α) × α)) (f : FitRow α → α) :
    ((dw.map fun (e, w) => (⟨e.1, e.2, w⟩ : FitRow α)).toArray.toList.map f).sum
      = (dw.map fun ew => f ⟨ew.1.1, ew.1.2, ew.2⟩).sum := by
  rw [List.toList_toArray, List.map_map]
  rfl

/-- **The GLAM identity in any number of dimensions.**  `smoothing` / `porders` are the raw arguments (one entry, or one
per dimension: `pick`), the problem `P` carries them expanded per dimension — exactly as `psvdriver C09` builds both sides. -/
theorem glam_eq_kron_nd (dims : List (Dim α)) (coords : List (List α)) (data : List (List Nat × α))
    (weights : List α) (smoothing : List α) (porders : List Nat)
    (hs : StridesRowMajor dims) (hax : ∀ d ∈ dims, d.naxes = d.nknots - d.order - 1)
    (hlen : coords.length = dims.length)
    (hdata : ∀ e ∈ data, IdxIn e.1 (coords.map List.length)) :
    let P : FitProblem α :=
      ⟨dims, coords, ((data.zip weights).map fun (e, w) => ⟨e.1, e.2, w⟩).toArray,
       (List.range dims.length).map (fun k => pick smoothing k 0),
       (List.range dims.length).map (fun k => pick porders k 0)⟩
    ∃ S, glamSystem dims coords (coords.map List.length) data weights smoothing porders = some S ∧
      (∀ i < P.ncoef, ∀ j < P.ncoef, S.fitmat.get i j = (specM P).get i j) ∧
      (∀ i < P.ncoef, S.rhs.getD i 0 = (specR P).getD i 0) := by
  intro P
  have hd : ∀ ew ∈ data.zip weights, IdxIn ew.1.1 (coords.map List.length) :=
    fun ew hew => hdata ew.1 (List.of_mem_zip hew).1
  obtain ⟨F, R, hconv, hRget, hFget⟩ := glam_data_nd dims coords (data.zip weights) hs hax hlen hd
  have hncoef : P.ncoef = natProd (dims.map (·.naxes)) := rfl
  have hconv' : glamConvolve
      ((dims.zip (coords.zip (coords.map List.length))).map fun (d, xs, n) =>
        bsplineBasis d.knots d.nknots d.order (xs.take n)) 0
      ⟨coords.map List.length, (data.zip weights).map fun (e, w) => (e.1, w)⟩
      ⟨coords.map List.length, (data.zip weights).map fun (e, w) => (e.1, A.mul w e.2)⟩ = some (F, R) := hconv
  simp only [glamSystem, hconv']
  refine ⟨_, rfl, ?_, ?_⟩
  · intro i hi j hj
    rw [hncoef] at hi hj
    have hMf := Mf_list P i j hi hj
    simp only [Mf] at hMf
    rw [hMf, hncoef]
    rw [tab2_get_ofFn _ hi hj, L.add_eq, hFget i hi j hj, penaltyMat_get_nd dims smoothing porders hs i j hi hj]
    exact congrArg (· + _) (sum_rows_of_zip (data.zip weights)
      fun row => row.w * rowB dims coords row i * rowB dims coords row j).symm
  · intro i hi
    rw [hncoef] at hi
    have hrf := rf_list P i hi
    simp only [rf] at hrf
    rw [hrf]
    rw [Array.getD_ofFn _ hi]
    rw [hRget i hi]
    exact (sum_rows_of_zip (data.zip weights) fun row => row.w * row.z * rowB dims coords row i).symm

/-- The case `dims = [d]`.  `weights.length = data.length` is not needed: both sides pair data and weights by `zip`; no
condition on `p`, `λ`: for `λ = 0` the penalty term is skipped by the code and is `0·KᵀK` in the specification. -/
theorem glam_eq_kron_1d (d : Dim α) (xs : List α) (data : List (List Nat × α)) (weights : List α) (lam : α)
    (p : Nat) (hax : d.naxes = d.nknots - d.order - 1) (hs : d.stride = 1)
    (hdata : ∀ e ∈ data, ∃ g < xs.length, e.1 = [g]) :
    let P : FitProblem α :=
      ⟨[d], [xs], ((data.zip weights).map fun (e, w) => ⟨e.1, e.2, w⟩).toArray, [lam], [p]⟩
    ∃ S, glamSystem [d] [xs] [xs.length] data weights [lam] [p] = some S ∧
      (∀ i < d.naxes, ∀ j < d.naxes, S.fitmat.get i j = (specM P).get i j) ∧
      (∀ i < d.naxes, S.rhs.getD i 0 = (specR P).getD i 0) := by
  have h := glam_eq_kron_nd [d] [xs] data weights [lam] [p] hs
    (fun d' hd' => by rw [List.mem_singleton.mp hd']; exact hax) rfl
    (fun e he => by
      obtain ⟨g, hg, heg⟩ := hdata e he
      rw [heg]
      exact (idxIn_cons _ _ _ _).mpr ⟨hg, (idxIn_nil_right _).mpr rfl⟩)
  have hN : natProd [d.naxes] = d.naxes := Nat.mul_one _
  exact hN ▸ h

end

/-- Non-vacuity: the example problem `exP` of `PsV/Proofs/FitQuad.lean` (order 1, 4 knots, 2 coefficients, stride 1;
three data on the grid `[1, 3/2, 2]`, one of weight 0) satisfies the hypotheses, so the model assembles
`M = [[2,−1],[−1,2]]`, `r = (1,1)`. -/
example :
    ∃ S, glamSystem [exDim] [[1, 3/2, 2]] [3] [([0], 1), ([2], 1), ([1], 5)] [1, 1, 0] [1] [1] = some S ∧
      S.fitmat.get 0 0 = 2 ∧ S.fitmat.get 0 1 = -1 ∧ S.fitmat.get 1 0 = -1 ∧ S.fitmat.get 1 1 = 2 ∧
      S.rhs.getD 0 0 = 1 ∧ S.rhs.getD 1 0 = 1 := by
  obtain ⟨S, h1, h2, h3⟩ := glam_eq_kron_1d exDim [1, 3/2, 2] [([0], 1), ([2], 1), ([1], 5)] [1, 1, 0] 1 1
    rfl rfl (by decide)
  have e2 : exDim.naxes = 2 := rfl
  rw [e2] at h2 h3
  refine ⟨S, h1, ?_, ?_, ?_, ?_, ?_, ?_⟩
  · rw [h2 0 (by omega) 0 (by omega)]; exact exP_M00
  · rw [h2 0 (by omega) 1 (by omega)]; exact exP_M01
  · rw [h2 1 (by omega) 0 (by omega)]; exact exP_M10
  · rw [h2 1 (by omega) 1 (by omega)]; exact exP_M11
  · rw [h3 0 (by omega)]; exact exP_r0
  · rw [h3 1 (by omega)]; exact exP_r1

/-- a two-dimensional example: orders 1 × 1, four knots each, 2 × 2 coefficients with strides (2, 1) -/
def exDims2 : List (Dim Rat) := [⟨1, 4, 2, 2, fun i => (i : Rat)⟩, ⟨1, 4, 2, 1, fun i => (i : Rat)⟩]

theorem exDims2_naxes : ∀ d ∈ exDims2, d.naxes = d.nknots - d.order - 1 := by decide

theorem exData2_idxIn : ∀ e ∈ ([([0, 0], (1:Rat)), ([2, 1], 1), ([1, 0], 5), ([1, 1], 2)] : List (List Nat × Rat)),
    IdxIn e.1 (([[1, 3/2, 2], [1, 2]] : List (List Rat)).map List.length) := by
  intro e he
  simp only [List.mem_cons, List.not_mem_nil, or_false] at he
  rcases he with rfl | rfl | rfl | rfl <;> exact ⟨rfl, by decide⟩

end PsV
