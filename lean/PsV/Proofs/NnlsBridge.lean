import PsV.Model.Nnls
import PsV.Proofs.NnlsElim
import PsV.Proofs.ListBasics
/-!
# The executable `gaussJordan` (arrays of arrays) computes `fgj` (entry functions)

The invariant that makes the two runs comparable is `Rel k M F`: the array has `k` rows of length `k + 1` (`Shape`; no
step changes a length, so every `getD` of the array code stays inside) and its entries in the box `[0,k) × [0,k]` are
those of `F`.  One step keeps it (`gjStep_rel`: same pivot test, `elim` on the entries), hence the runs fail together or
succeed with the same pivots and related results (`gj_bridge`).
-/
namespace PsV.Nnls

/-- entry `(r, j)` of an array of rows, `0` outside -/
def ent (M : Array (Array ℚ)) : FM := fun r j => (M.getD r #[]).getD j 0

/-- `k` rows of length `k+1` -/
def Shape (k : ℕ) (M : Array (Array ℚ)) : Prop := M.size = k ∧ ∀ r, r < k → (M.getD r #[]).size = k + 1

/-- the array `M` has the right shape and its entries in the box are those of `F` -/
def Rel (k : ℕ) (M : Array (Array ℚ)) (F : FM) : Prop := Shape k M ∧ ∀ r j, r < k → j ≤ k → ent M r j = F r j

/-- the body of the `foldlM` in `gaussJordan` -/
def gjStep (st : Array (Array ℚ) × List ℚ) (c : ℕ) : Option (Array (Array ℚ) × List ℚ) :=
  let rowc := st.1.getD c #[]
  let p := rowc.getD c 0
  if p = 0 then none else
  let rowc' := rowc.map (· / p)
  some (st.1.mapIdx (fun r row =>
      if r = c then rowc' else
        let f := row.getD c 0
        if f = 0 then row else Array.zipWith (fun a b => a - f * b) row rowc'), st.2 ++ [p])

theorem gaussJordan_eq (k : ℕ) (M : Array (Array ℚ)) :
    gaussJordan k M = (List.range k).foldlM gjStep (M, []) := rfl

theorem gjStep_rel {k c : ℕ} {M : Array (Array ℚ)} {F : FM} (acc : List ℚ) (h : Rel k M F) (hc : c < k) :
    (F c c = 0 → gjStep (M, acc) c = none) ∧
    (F c c ≠ 0 → ∃ M', gjStep (M, acc) c = some (M', acc ++ [F c c]) ∧ Rel k M' (elim F c)) := by
  obtain ⟨⟨hsz, hrow⟩, hent⟩ := h
  have hp : (M.getD c #[]).getD c 0 = F c c := hent c c hc (Nat.le_of_lt hc)
  refine ⟨fun h0 => by unfold gjStep; simp only [hp, h0, if_true], fun h0 => ?_⟩
  unfold gjStep
  simp only [hp, if_neg h0]
  refine ⟨_, rfl, ?_⟩
  have hrc_sz : (Array.map (fun x => x / F c c) (M.getD c #[])).size = k + 1 := by
    rw [Array.size_map]; exact hrow c hc
  have hcj : ∀ j, j ≤ k → (Array.map (fun x => x / F c c) (M.getD c #[])).getD j 0 = F c j / F c c := fun j hj => by
    rw [Array.getD_map_of_lt _ _ (by rw [hrow c hc]; omega) 0 0]
    exact congrArg (· / F c c) (hent c j hc hj)
  suffices hnew : ∀ r, r < k → ∀ row, row = (Array.mapIdx _ M).getD r #[] →
      row.size = k + 1 ∧ ∀ j, j ≤ k → row.getD j 0 = elim F c r j from
    ⟨⟨by rw [Array.size_mapIdx]; exact hsz, fun r hr => (hnew r hr _ rfl).1⟩,
      fun r j hr hj => (hnew r hr _ rfl).2 j hj⟩
  intro r hr row hrow'
  rw [Array.getD_mapIdx_of_lt _ M (hsz ▸ hr) #[] #[]] at hrow'
  have hrc' : (M.getD r #[]).getD c 0 = F r c := hent r c hr (Nat.le_of_lt hc)
  by_cases h1 : r = c
  · rw [if_pos h1] at hrow'
    subst hrow'
    exact ⟨hrc_sz, fun j hj => by rw [h1, elim_pivot]; exact hcj j hj⟩
  · rw [if_neg h1] at hrow'
    by_cases h2 : (M.getD r #[]).getD c 0 = 0
    · -- a row with a zero in the pivot column is left alone: `F r j − 0 · _`
      rw [if_pos h2] at hrow'
      subst hrow'
      exact ⟨hrow r hr, fun j hj => by rw [elim_off h1, ← hrc', h2, zero_mul, sub_zero]; exact hent r j hr hj⟩
    · rw [if_neg h2] at hrow'
      subst hrow'
      refine ⟨by rw [Array.size_zipWith, hrc_sz, hrow r hr]; exact Nat.min_self _, fun j hj => ?_⟩
      rw [Array.getD_zipWith_of_lt _ _ _ (by rw [hrow r hr]; omega) (by rw [hrc_sz]; omega) 0 0 0, hcj j hj, elim_off h1, hrc']
      exact congrArg (· - F r c * (F c j / F c c)) (hent r j hr hj)

theorem gj_bridge {k : ℕ} : ∀ (cs : List ℕ) (M : Array (Array ℚ)) (F : FM) (acc : List ℚ), Rel k M F →
    (∀ c ∈ cs, c < k) →
    (cs.foldlM gjStep (M, acc) = none ∧ fgj cs F = none) ∨
    (∃ R R' ps, cs.foldlM gjStep (M, acc) = some (R, acc ++ ps) ∧ fgj cs F = some (R', ps) ∧ Rel k R R') := by
  intro cs
  induction cs with
  | nil =>
    intro M F acc h _
    right
    exact ⟨M, F, [], by simp, rfl, h⟩
  | cons c cs ih =>
    intro M F acc h hcs
    have hc := hcs c List.mem_cons_self
    obtain ⟨hz, hnz⟩ := gjStep_rel acc h hc
    by_cases h0 : F c c = 0
    · left
      refine ⟨?_, ?_⟩
      · rw [List.foldlM_cons, hz h0]; rfl
      · rw [fgj, if_pos h0]
    · obtain ⟨M', hs, hrel⟩ := hnz h0
      rcases ih M' (elim F c) (acc ++ [F c c]) hrel (fun d hd => hcs d (List.mem_cons_of_mem _ hd)) with
        ⟨h1, h2⟩ | ⟨R, R', ps, h1, h2, h3⟩
      · left
        refine ⟨?_, ?_⟩
        · rw [List.foldlM_cons, hs]; exact h1
        · rw [fgj, if_neg h0, h2]
      · right
        refine ⟨R, R', F c c :: ps, ?_, ?_, h3⟩
        · rw [List.foldlM_cons, hs]
          rw [List.append_assoc] at h1
          exact h1
        · rw [fgj, if_neg h0, h2]

end PsV.Nnls
