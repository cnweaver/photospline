import PsV.Spec.BSpline
import PsV.Proofs.Field
import Mathlib.Algebra.BigOperators.Ring.Finset
/-!
# The nested specification sum `specSum` as iterated finite sums

One row of `specSum` is a `Finset` sum (`specSumRow_sum`, `specSumRow_map_range'`); the sum is linear in the running
product and commutes with a shift of the coefficient array.  None of this needs row-major strides; `SpecFlat` adds them,
`EvalSpec` restricts the rows to windows.
-/
namespace PsV
open Finset
variable {α : Type} [Field α] [LinearOrder α]
attribute [local instance] Arith.ofField

theorem specSumRow_sum (inner : α → Int → α) (s : Nat) (p : α) (fs : List α) (pos : Int) :
    specSumRow inner s p fs pos = ∑ i ∈ range fs.length, inner (p * fs.getD i 0) (pos + (i : Int) * s) := by
  induction fs generalizing pos with
  | nil => rfl
  | cons f fs ih =>
    show inner (p * f) pos + specSumRow inner s p fs (pos + s) = _
    rw [ih, List.length_cons, sum_range_succ', add_comm]
    congr 1
    · refine sum_congr rfl fun i _ => ?_
      rw [List.getD_cons_succ, Nat.cast_succ, add_one_mul, add_assoc pos, add_comm (s : Int)]
    · rw [List.getD_cons_zero, Nat.cast_zero, zero_mul, add_zero]

theorem specSumRow_map_range' (inner : α → Int → α) (s : Nat) (p : α) (f : Nat → α) (a m : Nat) (pos : Int) :
    specSumRow inner s p ((List.range' a m).map f) pos =
      ∑ k ∈ range m, inner (p * f (a + k)) (pos + (k : Int) * s) := by
  rw [specSumRow_sum, List.length_map, List.length_range']
  refine sum_congr rfl fun k hk => ?_
  rw [List.getD_eq_getElem?_getD, List.getElem?_map, List.getElem?_range' (mem_range.1 hk), Nat.one_mul]
  rfl

theorem specSum_cons_sum (coef : Int → α) (s : Nat) (fs : List α) (rest : List (Nat × List α)) (p : α) (pos : Int) :
    specSum coef ((s, fs) :: rest) p pos
      = ∑ i ∈ range fs.length, specSum coef rest (p * fs.getD i 0) (pos + (i : Int) * s) :=
  specSumRow_sum (specSum coef rest) s p fs pos

theorem specSum_linear (coef : Int → α) (rows : List (Nat × List α)) (p : α) (pos : Int) :
    specSum coef rows p pos = p * specSum coef rows 1 pos := by
  induction rows generalizing p pos with
  | nil => show p * coef pos = p * (1 * coef pos); rw [one_mul]
  | cons r rest ih =>
    obtain ⟨s, fs⟩ := r
    rw [specSum_cons_sum, specSum_cons_sum, mul_sum]
    exact sum_congr rfl fun i _ => by rw [ih (p * _), ih (1 * _), one_mul, mul_assoc]

theorem specSum_shift_coef (coef : Int → α) (δ : Int) (rows : List (Nat × List α)) (p : α) (pos : Int) :
    specSum coef rows p (pos + δ) = specSum (fun q => coef (q + δ)) rows p pos := by
  induction rows generalizing p pos with
  | nil => rfl
  | cons r rest ih =>
    obtain ⟨s, fs⟩ := r
    rw [specSum_cons_sum, specSum_cons_sum]
    exact sum_congr rfl fun i _ => by rw [add_right_comm, ih]

end PsV
