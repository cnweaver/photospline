import Mathlib.Data.Matrix.Mul
import Mathlib.LinearAlgebra.Matrix.Symmetric
import Mathlib.Algebra.Order.BigOperators.Group.Finset
import Mathlib.Algebra.Order.Field.Basic
import Mathlib.Tactic.Ring
/-!
# The quadratic function `z ↦ ½ zᵀAz − bᵀz` over an ordered field (C09, C10, C11)

Everything the development knows about minimising it is the expansion `qf_expand` around a point: at a stationary point
the linear term is gone (`qf_stationary`: stationary ⇒ minimiser for positive semidefinite `A`, the only one for positive
definite `A`), along a coordinate direction it is a parabola (`SPD.stationary_of_min`), and under the sign constraint
`z ≥ 0` the linear term is controlled by the KKT conditions (`TolKKT.gap`).  Under a change of variables `c = L t` it is the
function of `LᵀAL`, `Lᵀb` (`qf_tcoords`, `spd_tcoords`).  Matrices are Mathlib's; `NormalEq` (entry
functions on `Nat`) and `Nnls` (the model's `Mat`) carry their statements over by `toM`/`toMat`.
-/
namespace PsV
open Matrix

section Quad
variable {n : ℕ} {α : Type} [Field α] [LinearOrder α] [IsStrictOrderedRing α]

/-- the objective `½ zᵀAz − bᵀz` -/
def qf (A : Matrix (Fin n) (Fin n) α) (b z : Fin n → α) : α := (1/2) * (z ⬝ᵥ A *ᵥ z) - b ⬝ᵥ z

/-- its gradient `Az − b` -/
def gradM (A : Matrix (Fin n) (Fin n) α) (b z : Fin n → α) : Fin n → α := A *ᵥ z - b

/-- symmetric positive definite, stated directly (Mathlib's `Matrix.PosDef` needs a star-ordered ring) -/
def SPD (A : Matrix (Fin n) (Fin n) α) : Prop := A.IsSymm ∧ ∀ v : Fin n → α, v ≠ 0 → 0 < v ⬝ᵥ A *ᵥ v

def SPSD (A : Matrix (Fin n) (Fin n) α) : Prop := A.IsSymm ∧ ∀ v : Fin n → α, 0 ≤ v ⬝ᵥ A *ᵥ v

omit [IsStrictOrderedRing α] in
theorem SPD.spsd {A : Matrix (Fin n) (Fin n) α} (h : SPD A) : SPSD A := by
  refine ⟨h.1, fun v => ?_⟩
  by_cases hv : v = 0
  · subst hv; simp
  · exact le_of_lt (h.2 v hv)

/-- exact KKT conditions of `min qf, z ≥ 0` -/
def KKT (A : Matrix (Fin n) (Fin n) α) (b x : Fin n → α) : Prop :=
  (∀ i, 0 ≤ x i) ∧ (∀ i, 0 ≤ gradM A b x i) ∧ (∀ i, 0 < x i → gradM A b x i = 0)

/-- KKT up to a per-component tolerance -/
def TolKKT (A : Matrix (Fin n) (Fin n) α) (b x tol : Fin n → α) : Prop :=
  (∀ i, 0 ≤ x i) ∧ (∀ i, -(tol i) ≤ gradM A b x i) ∧ (∀ i, 0 < x i → gradM A b x i ≤ tol i)

theorem qf_expand {A : Matrix (Fin n) (Fin n) α} (hA : A.IsSymm) (b x d : Fin n → α) :
    qf A b (x + d) = qf A b x + d ⬝ᵥ gradM A b x + (1/2) * (d ⬝ᵥ A *ᵥ d) := by
  unfold qf gradM
  have hsw : x ⬝ᵥ A *ᵥ d = d ⬝ᵥ A *ᵥ x := by
    rw [Matrix.dotProduct_mulVec, ← Matrix.mulVec_transpose, hA.eq, dotProduct_comm]
  rw [Matrix.mulVec_add, add_dotProduct, dotProduct_add, dotProduct_add, dotProduct_add, dotProduct_sub, hsw,
    dotProduct_comm b d]
  ring

theorem qf_diff {A : Matrix (Fin n) (Fin n) α} (hA : A.IsSymm) (b x z : Fin n → α) :
    qf A b z - qf A b x = (z - x) ⬝ᵥ gradM A b x + (1/2) * ((z - x) ⬝ᵥ A *ᵥ (z - x)) := by
  have h := qf_expand hA b x (z - x)
  rw [add_sub_cancel] at h
  rw [h, add_assoc, add_sub_cancel_left]

omit [LinearOrder α] [IsStrictOrderedRing α] in
theorem gradM_sub (A : Matrix (Fin n) (Fin n) α) (b u v : Fin n → α) : gradM A b u - gradM A b v = A *ᵥ (u - v) := by
  unfold gradM
  rw [Matrix.mulVec_sub, sub_sub_sub_cancel_right]

omit [LinearOrder α] [IsStrictOrderedRing α] in
theorem dotProduct_eq_zero_of_compl {w g : Fin n → α} (h : ∀ i, w i = 0 ∨ g i = 0) : w ⬝ᵥ g = 0 :=
  Finset.sum_eq_zero fun i _ => (h i).elim (fun e => by rw [e, zero_mul]) fun e => by rw [e, mul_zero]

theorem qf_stationary {A : Matrix (Fin n) (Fin n) α} (hA : A.IsSymm) {b c : Fin n → α} (hc : A *ᵥ c = b)
    (z : Fin n → α) : qf A b z = qf A b c + (1/2) * ((z - c) ⬝ᵥ A *ᵥ (z - c)) := by
  have h := qf_diff hA b c z
  rw [gradM, hc, sub_self, dotProduct_zero, zero_add] at h
  exact eq_add_of_sub_eq' h

theorem SPSD.min_of_stationary {A : Matrix (Fin n) (Fin n) α} (hA : SPSD A) {b c : Fin n → α} (hc : A *ᵥ c = b)
    (z : Fin n → α) : qf A b c ≤ qf A b z :=
  qf_stationary hA.1 hc z ▸ le_add_of_nonneg_right (mul_nonneg one_half_pos.le (hA.2 _))

theorem SPD.unique_min {A : Matrix (Fin n) (Fin n) α} (hA : SPD A) {b c z : Fin n → α} (hc : A *ᵥ c = b)
    (hz : qf A b z ≤ qf A b c) : z = c := by
  by_contra hne
  rw [qf_stationary hA.1 hc z] at hz
  exact (lt_add_of_pos_right _ (mul_pos one_half_pos (hA.2 _ (sub_ne_zero.mpr hne)))).not_ge hz

omit [IsStrictOrderedRing α] in
theorem mulVec_eq_zero_of_pos {A : Matrix (Fin n) (Fin n) α} (hA : ∀ v : Fin n → α, v ≠ 0 → 0 < v ⬝ᵥ A *ᵥ v)
    {v : Fin n → α} (h : A *ᵥ v = 0) : v = 0 := by
  by_contra hv
  exact (hA v hv).ne' (by rw [h, dotProduct_zero])

/-- at `t = −g/Q` the parabola is `−g²/(2Q)` -/
theorem parabola_nonneg {g Q : α} (hQ : 0 < Q) (h : ∀ t : α, 0 ≤ t * g + t ^ 2 * Q / 2) : g = 0 := by
  have hs := div_mul_cancel₀ g hQ.ne'
  have h := h (-(g / Q))
  generalize g / Q = s at hs h
  subst hs
  have h2 : s ^ 2 * Q ≤ 0 := by
    rw [show -s * (s * Q) + (-s) ^ 2 * Q / 2 = -(s ^ 2 * Q / 2) by ring, neg_nonneg] at h
    exact (div_le_iff₀ two_pos).1 h |>.trans_eq (zero_mul _)
  rw [pow_eq_zero_iff two_ne_zero |>.1 ((mul_eq_zero.1 (le_antisymm h2
    (mul_nonneg (sq_nonneg s) hQ.le))).resolve_right hQ.ne'), zero_mul]

/-- along the unit vector `e_i` the objective is the parabola `t ↦ t·g_i + t²·A_ii/2` above its value at `c` -/
theorem SPD.stationary_of_min {A : Matrix (Fin n) (Fin n) α} (hA : SPD A) {b c : Fin n → α}
    (hmin : ∀ z, qf A b c ≤ qf A b z) : A *ᵥ c = b := by
  funext i
  refine sub_eq_zero.1 (parabola_nonneg (hA.2 (Pi.single i 1) fun h => ?_) fun t => ?_ : gradM A b c i = 0)
  · exact one_ne_zero (α := α) ((Pi.single_eq_same i 1).symm.trans (congrFun h i))
  · have h1 := hmin (c + t • Pi.single i 1)
    rw [qf_expand hA.1, smul_dotProduct, single_dotProduct, one_mul, mulVec_smul, dotProduct_smul, smul_dotProduct,
      add_assoc, le_add_iff_nonneg_right, smul_eq_mul, smul_eq_mul, smul_eq_mul] at h1
    exact h1.trans_eq (by ring)

omit [IsStrictOrderedRing α] in
/-- the inactive constraint -/
theorem KKT.of_stationary {A : Matrix (Fin n) (Fin n) α} {b x : Fin n → α} (hsol : A *ᵥ x = b) (hx : ∀ i, 0 ≤ x i) :
    KKT A b x := by
  have hg : gradM A b x = 0 := sub_eq_zero.mpr hsol
  exact ⟨hx, fun i => (congrFun hg i).ge, fun i _ => congrFun hg i⟩

omit [IsStrictOrderedRing α] in
theorem KKT.tolKKT {A : Matrix (Fin n) (Fin n) α} {b x : Fin n → α} (h : KKT A b x) : TolKKT A b x 0 :=
  ⟨h.1, fun i => by rw [Pi.zero_apply, neg_zero]; exact h.2.1 i, fun i hi => (h.2.2 i hi).le⟩

/-- The three statements of C11 about KKT points (`kkt_tol_gap`, `kkt_unique_min`, `kkt_tol_dist`) are this
inequality, once with the quadratic term dropped, once at tolerance 0, once used in both directions.  By `qf_diff` it says `-(z - x)ᵀ g ≤ Σ tol_i (x_i + z_i)` for the gradient
`g` at `x`, which holds term by term. -/
theorem TolKKT.gap {A : Matrix (Fin n) (Fin n) α} {b x tol z : Fin n → α} (hA : A.IsSymm) (hx : TolKKT A b x tol)
    (hz : ∀ i, 0 ≤ z i) :
    qf A b x - qf A b z + (1/2) * ((z - x) ⬝ᵥ A *ᵥ (z - x)) ≤ ∑ i, tol i * (x i + z i) := by
  obtain ⟨hx0, hlo, hhi⟩ := hx
  rw [← neg_sub (qf A b z), qf_diff hA, neg_add, neg_add_cancel_right, neg_le, ← Finset.sum_neg_distrib]
  refine Finset.sum_le_sum fun i _ => ?_
  have h1 := mul_le_mul_of_nonneg_left (hlo i) (hz i)
  have h2 : x i * gradM A b x i ≤ x i * tol i := by
    rcases (hx0 i).eq_or_lt with h | h
    · rw [← h, zero_mul, zero_mul]
    · exact mul_le_mul_of_nonneg_left (hhi i h) h.le
  calc -(tol i * (x i + z i)) = z i * -(tol i) - x i * tol i := by ring
    _ ≤ z i * gradM A b x i - x i * gradM A b x i := sub_le_sub h1 h2
    _ = (z - x) i * gradM A b x i := (sub_mul _ _ _).symm

theorem KKT.gap {A : Matrix (Fin n) (Fin n) α} {b x z : Fin n → α} (hA : A.IsSymm) (hx : KKT A b x)
    (hz : ∀ i, 0 ≤ z i) : qf A b x - qf A b z + (1/2) * ((z - x) ⬝ᵥ A *ᵥ (z - x)) ≤ 0 := by
  have := hx.tolKKT.gap hA hz
  simpa only [Pi.zero_apply, zero_mul, Finset.sum_const_zero] using this

theorem KKT.unique_min {A : Matrix (Fin n) (Fin n) α} {b x z : Fin n → α} (hA : SPD A) (hx : KKT A b x)
    (hz : ∀ i, 0 ≤ z i) : qf A b x ≤ qf A b z ∧ (qf A b z = qf A b x → z = x) := by
  have h := hx.gap hA.1 hz
  refine ⟨sub_nonpos.mp ((le_add_of_nonneg_right (mul_nonneg one_half_pos.le (hA.spsd.2 _))).trans h), fun heq => ?_⟩
  rw [heq, sub_self, zero_add] at h
  by_contra hne
  exact (mul_pos one_half_pos (hA.2 _ (sub_ne_zero.mpr hne))).not_ge h

theorem KKT.unique {A : Matrix (Fin n) (Fin n) α} {b x y : Fin n → α} (hA : SPD A) (hx : KKT A b x) (hy : KKT A b y) :
    x = y :=
  (hy.unique_min hA hx.1).2 (le_antisymm (hx.unique_min hA hy.1).1 (hy.unique_min hA hx.1).1)

end Quad

theorem quad_tcoords {N : ℕ} {α : Type} [CommRing α] (A L : Matrix (Fin N) (Fin N) α) (v : Fin N → α) :
    v ⬝ᵥ (Lᵀ * A * L) *ᵥ v = (L *ᵥ v) ⬝ᵥ A *ᵥ (L *ᵥ v) := by
  rw [← Matrix.mulVec_mulVec, ← Matrix.mulVec_mulVec, Matrix.dotProduct_mulVec, Matrix.vecMul_transpose]

section Tcoords
variable {N : ℕ} {α : Type} [Field α] [LinearOrder α] [IsStrictOrderedRing α]

theorem qf_tcoords (A L : Matrix (Fin N) (Fin N) α) (b t : Fin N → α) :
    qf (Lᵀ * A * L) (Lᵀ *ᵥ b) t = qf A b (L *ᵥ t) := by
  unfold qf
  rw [quad_tcoords, Matrix.mulVec_transpose, ← Matrix.dotProduct_mulVec]

theorem spd_tcoords (A L : Matrix (Fin N) (Fin N) α) (hA : SPD A) (hL : ∀ v, L *ᵥ v = 0 → v = 0) :
    SPD (Lᵀ * A * L) := by
  refine ⟨?_, fun v hv => ?_⟩
  · unfold Matrix.IsSymm
    rw [Matrix.transpose_mul, Matrix.transpose_mul, Matrix.transpose_transpose, hA.1.eq, Matrix.mul_assoc]
  · rw [quad_tcoords]
    exact hA.2 _ (fun h => hv (hL v h))

theorem normal_eq_global_min (A : Matrix (Fin N) (Fin N) α) (b c : Fin N → α) (hA : SPD A) (hsol : A *ᵥ c = b)
    (z : Fin N → α) : qf A b c ≤ qf A b z :=
  hA.spsd.min_of_stationary hsol z

end Tcoords

end PsV
