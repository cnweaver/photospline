import PsV.Proofs.RelErr
import PsV.Proofs.BSpline
import Mathlib.Data.List.Forall2
/-!
# Rounded arithmetic, and the forward error of the value rows

The same model definitions (`vbStep`, `bsplvb`, `bsplvbSimple`, `walk`, `ndsplineeval`) are run at two
instances of the arithmetic bundle on one ordered field `F`:

* `Arith.ofField F` — exact;
* `Arith.rounded fl st` — every `+ − × ÷` is followed by the working-precision rounding `fl`, every store
  into a `Float`-typed variable by the storage rounding `st` (for `Float = double` both are rounding to
  double; for `Float = float`, `fl` rounds to double and `st` to float), comparisons exact.

Roundings are any functions with `RelErr ε 1 a (fl a)` — the standard model without underflow/overflow.
This file: the rows of `bsplvb` / `bsplvb_simple`.  The recurrence is analysed once, on an arbitrary window of genuine
positions; the row on any interval the margin loops can settle on follows, and the interior and every point the lookup
accepts (margins, knots) are its two uses.  The block walk is in `RoundingAcc`.
-/
namespace PsV
variable {F : Type} [Field F] [LinearOrder F] [IsStrictOrderedRing F]

@[reducible] def Arith.rounded (fl st : F → F) : Arith F where
  add a b := fl (a + b)
  sub a b := fl (a - b)
  mul a b := fl (a * b)
  div a b := fl (a / b)
  neg a := -a
  lt a b := decide (a < b)
  le a b := decide (a ≤ b)
  zero := 0
  one := 1
  ofNat n := fl (n : F)
  rnd := st

section
variable (fl st : F → F)
@[simp] theorem rd_add (a b : F) : @Arith.add F (Arith.rounded fl st) a b = fl (a + b) := rfl
@[simp] theorem rd_sub (a b : F) : @Arith.sub F (Arith.rounded fl st) a b = fl (a - b) := rfl
@[simp] theorem rd_mul (a b : F) : @Arith.mul F (Arith.rounded fl st) a b = fl (a * b) := rfl
@[simp] theorem rd_div (a b : F) : @Arith.div F (Arith.rounded fl st) a b = fl (a / b) := rfl
@[simp] theorem rd_rnd (a : F) : @Arith.rnd F (Arith.rounded fl st) a = st a := rfl
@[simp] theorem rd_zero : @Arith.zero F (Arith.rounded fl st) = 0 := rfl
@[simp] theorem rd_one : @Arith.one F (Arith.rounded fl st) = 1 := rfl
@[simp] theorem rd_lt (a b : F) : @Arith.lt F (Arith.rounded fl st) a b = decide (a < b) := rfl
@[simp] theorem rd_le (a b : F) : @Arith.le F (Arith.rounded fl st) a b = decide (a ≤ b) := rfl
@[simp] theorem rd_smul (a b : F) : @Arith.smul F (Arith.rounded fl st) a b = st (fl (a * b)) := rfl
@[simp] theorem rd_sadd (a b : F) : @Arith.sadd F (Arith.rounded fl st) a b = st (fl (a + b)) := rfl
@[simp] theorem rd_ofNat (n : Nat) : @Arith.ofNat F (Arith.rounded fl st) n = fl (n : F) := rfl
@[simp] theorem rd_neg (a : F) : @Arith.neg F (Arith.rounded fl st) a = -a := rfl
end

/-- the point lies in the knot interval `[knots[c], knots[c+1]]`, which is not empty (`nonempty`: asked for, used by no
proof), `c` is a fully supported centre, and the knots the recurrences touch are non-decreasing -/
structure Interior (d : Dim F) (x : F) (c : Nat) : Prop where
  lo : d.order ≤ c
  hi : c + d.order + 2 ≤ d.nknots
  left : d.knots c ≤ x
  right : x ≤ d.knots ((c : Int) + 1)
  nonempty : d.knots c < d.knots ((c : Int) + 1)
  mono : ∀ a b : Int, (c : Int) - d.order ≤ a → a ≤ b → b ≤ (c : Int) + d.order + 1 → d.knots a ≤ d.knots b

def AllInterior : List (Dim F) → List F → List Nat → Prop
  | [], [], [] => True
  | d :: ds, x :: xs, c :: cs => Interior d x c ∧ AllInterior ds xs cs
  | _, _, _ => False

variable {ε : F} {fl st : F → F}

/-- the two products `d·term`, `term = b/(δr+δl)`, of one step of the inner loop of `bsplvb` (`d` is `δr` or
`δl`): subtraction 1, sum 2, quotient `k+3`, product `k+5` roundings; nothing is subtracted after the knot
differences, so the relative error survives -/
theorem vbTerm_relerr (hε : 0 ≤ ε) (hfl : ∀ a, RelErr ε 1 a (fl a)) {k : Nat} {b bR x tl tr : F}
    (hb : RelErr ε k b bR) (hb0 : 0 ≤ b) (hr : x ≤ tr) (hl : tl ≤ x) :
    (RelErr ε (k + 5) ((x - tl) * (b / (tr - x + (x - tl)))) (fl (fl (x - tl) * fl (bR / fl (fl (tr - x) + fl (x - tl))))) ∧
      0 ≤ (x - tl) * (b / (tr - x + (x - tl)))) ∧
    (RelErr ε (k + 5) ((tr - x) * (b / (tr - x + (x - tl)))) (fl (fl (tr - x) * fl (bR / fl (fl (tr - x) + fl (x - tl))))) ∧
      0 ≤ (tr - x) * (b / (tr - x + (x - tl)))) := by
  have hr0 := sub_nonneg.2 hr
  have hl0 := sub_nonneg.2 hl
  have hsum := RelErr.round hε hfl (RelErr.add_nonneg hε (hfl (tr - x)) (hfl (x - tl)) hr0 hl0)
  have hterm := RelErr.round hε hfl (RelErr.div hε hb hsum)
  have hterm0 := div_nonneg hb0 (add_nonneg hr0 hl0)
  exact ⟨⟨(RelErr.round hε hfl (RelErr.mul hε (hfl _) hterm)).mono hε (by omega), mul_nonneg hl0 hterm0⟩,
    (RelErr.round hε hfl (RelErr.mul hε (hfl _) hterm)).mono hε (by omega), mul_nonneg hr0 hterm0⟩

/-! In the margins the recurrence also computes entries that belong to *absent* basis functions (they read the
padding around the knot array and are thrown away by the re-indexing step).  Those entries carry no error
bound — in IEEE they may even be NaN — but the entries that are kept never depend on them.  So positions are
tracked: at level `j` of `bsplvb` on the interval `l`, position `p` holds `B_{l-j+p, j}`, a genuine basis
function iff `j - l ≤ p ≤ nknots - 2 - l`; inside the fully supported range every position is genuine. -/

/-- the entries at absolute positions `lo ≤ off+p ≤ hi` are related by `k` roundings and non-negative -/
def RelOn (ε : F) (k : Nat) (off : Nat) (lo hi : Int) (bsE bsR : List F) : Prop :=
  bsE.length = bsR.length ∧
    ∀ (p : Nat) (a b : F), bsE[p]? = some a → bsR[p]? = some b → lo ≤ ((off + p : Nat) : Int) →
      ((off + p : Nat) : Int) ≤ hi → RelErr ε k a b ∧ 0 ≤ a

theorem RelOn.nil (k off : Nat) (lo hi : Int) : RelOn ε k off lo hi [] [] := ⟨rfl, by simp⟩

theorem relOn_cons {k off : Nat} {lo hi : Int} {a b : F} {as bs : List F} :
    RelOn ε k off lo hi (a :: as) (b :: bs) ↔
      ((lo ≤ (off : Int) → (off : Int) ≤ hi → RelErr ε k a b ∧ 0 ≤ a) ∧ RelOn ε k (off + 1) lo hi as bs) := by
  constructor
  · intro ⟨hl, h⟩
    exact ⟨fun h1 h2 => h 0 a b rfl rfl h1 h2, Nat.succ.inj hl,
      fun p a' b' ha hb h1 h2 => h (p + 1) a' b' ha hb (by omega) (by omega)⟩
  · intro ⟨h0, hl, h⟩
    refine ⟨congrArg Nat.succ hl, fun p a' b' ha hb h1 h2 => ?_⟩
    cases p with
    | zero =>
      cases ha; cases hb
      exact h0 h1 h2
    | succ p => exact h p a' b' ha hb (by omega) (by omega)
theorem RelOn.mono (hε : 0 ≤ ε) {k k' off : Nat} {lo hi lo' hi' : Int} {as bs : List F}
    (h : RelOn ε k off lo hi as bs) (hk : k ≤ k') (hlo : lo ≤ lo') (hhi : hi' ≤ hi) : RelOn ε k' off lo' hi' as bs :=
  ⟨h.1, fun p a b ha hb h1 h2 => by
    obtain ⟨r, n⟩ := h.2 p a b ha hb (by omega) (by omega)
    exact ⟨r.mono hε hk, n⟩⟩

/-- a row known up to `k` roundings whose exact entries are non-negative: `RelOn` with every position genuine -/
structure RelRow (ε : F) (k : Nat) (es rs : List F) : Prop where
  rel : List.Forall₂ (RelErr ε k) es rs
  nonneg : ∀ b ∈ es, 0 ≤ b

theorem RelOn.relRow {k : Nat} {lo hi : Int} {as bs : List F} (h : RelOn ε k 0 lo hi as bs)
    (hall : ∀ p : Nat, p < as.length → lo ≤ (p : Int) ∧ (p : Int) ≤ hi) : RelRow ε k as bs := by
  constructor
  · rw [List.forall₂_iff_get]
    refine ⟨h.1, fun i h1 h2 => ?_⟩
    obtain ⟨c1, c2⟩ := hall i h1
    exact (h.2 i _ _ (List.getElem?_eq_getElem h1) (List.getElem?_eq_getElem h2) (by simpa using c1) (by simpa using c2)).1
  · intro a ha
    obtain ⟨i, hi', rfl⟩ := List.getElem_of_mem ha
    obtain ⟨c1, c2⟩ := hall i hi'
    have hi2 : i < bs.length := by rw [← h.1]; exact hi'
    exact (h.2 i _ _ (List.getElem?_eq_getElem hi') (List.getElem?_eq_getElem hi2) (by simpa using c1) (by simpa using c2)).2

/-- one level of `bsplvb` adds at most 7 roundings to every entry: the new positions `L ≤ p ≤ U` are genuine
when the old positions `L-1 ≤ p ≤ U` are -/
theorem vbStep_relOn (hε : 0 ≤ ε) (hfl : ∀ a, RelErr ε 1 a (fl a)) (hst : ∀ a, RelErr ε 1 a (st a))
    (t : Int → F) (x : F) (left : Int) (j : Nat) (k : Nat) (L U : Int) :
    ∀ (bsE bsR : List F) (i : Nat) (sE sR : F),
      RelOn ε k i (L - 1) U bsE bsR →
      (L ≤ (i : Int) → (i : Int) ≤ U + 1 → RelErr ε (k + 5) sE sR ∧ 0 ≤ sE) →
      (∀ m : Nat, i ≤ m → m < i + bsE.length → L - 1 ≤ (m : Int) → (m : Int) ≤ U →
        x ≤ t (left + m + 1) ∧ t (left - ((j - m : Nat) : Int)) ≤ x) →
      RelOn ε (k + 7) i L U (@vbStep F (Arith.ofField F) t x left j i sE bsE)
        (@vbStep F (Arith.rounded fl st) t x left j i sR bsR) := by
  intro bsE
  induction bsE with
  | nil =>
    intro bsR i sE sR hb hs _
    have : bsR = [] := by have := hb.1; simpa [eq_comm] using this
    subst this
    simp only [vbStep, of_rnd, rd_rnd]
    rw [relOn_cons]
    refine ⟨fun h1 h2 => ?_, RelOn.nil _ _ _ _⟩
    obtain ⟨r, n⟩ := hs h1 (by omega)
    exact ⟨(RelErr.round hε hst r).mono hε (by omega), n⟩
  | cons b bs ih =>
    intro bsR i sE sR hb hs hk
    cases bsR with
    | nil => have := hb.1; simp at this
    | cons bR bsR' =>
      rw [relOn_cons] at hb
      obtain ⟨hb0, hbs⟩ := hb
      simp only [vbStep, of_rnd, rd_rnd, of_add, of_sub, of_mul, of_div, rd_add, rd_sub, rd_mul, rd_div]
      rw [relOn_cons]
      -- the two products, whenever old position `i` is genuine
      have old := fun (h1 : L - 1 ≤ (i : Int)) (h2 : (i : Int) ≤ U) =>
        vbTerm_relerr hε hfl (hb0 h1 h2).1 (hb0 h1 h2).2 (hk i (le_refl _) (by simp) h1 h2).1
          (hk i (le_refl _) (by simp) h1 h2).2
      refine ⟨fun h1 h2 => ?_, ?_⟩
      · obtain ⟨hsr, hs0⟩ := hs h1 (by omega)
        obtain ⟨hdrt, hdrt0⟩ := (old (by omega) h2).2
        exact ⟨(RelErr.round hε hst (RelErr.round hε hfl (RelErr.add_nonneg hε hsr hdrt hs0 hdrt0))).mono hε (by omega),
          add_nonneg hs0 hdrt0⟩
      · exact ih bsR' (i + 1) _ _ hbs (fun h1 h2 => (old (by omega) (by omega)).1)
          (fun m h1 h2 h3 h4 => hk m (by omega) (by simp only [List.length_cons]; omega) h3 h4)

/-- the levels `j … j+count-1` of `bsplvb` on a row of level `j`, on the interval `l`, when the knots
`l+1 … l+1+min(n-1,hi)` lie to the right of `x` and the knots `l-min(n-1,a) … l` to its left: positions
`j - a ≤ p ≤ hi` are genuine at level `j` (margins: `a = l`, `hi = nknots - 2 - l`) -/
theorem vbLevels_relOn (hε : 0 ≤ ε) (hfl : ∀ a, RelErr ε 1 a (fl a)) (hst : ∀ a, RelErr ε 1 a (st a))
    (t : Int → F) (x : F) (l a hi : Int) (n : Nat)
    (hup : ∀ m : Nat, m < n → (m : Int) ≤ hi → x ≤ t (l + m + 1))
    (hdn : ∀ q : Nat, q < n → (q : Int) ≤ a → t (l - q) ≤ x) :
    ∀ (count j : Nat) (rowE rowR : List F) (k : Nat), j + count ≤ n → rowE.length = j + 1 →
      RelOn ε k 0 ((j : Int) - a) hi rowE rowR →
      RelOn ε (k + 7 * count) 0 (((j + count : Nat) : Int) - a) hi
        (@vbLevels F (Arith.ofField F) t x l count j rowE) (@vbLevels F (Arith.rounded fl st) t x l count j rowR) := by
  intro count
  induction count with
  | zero => intro j rowE rowR k _ _ h; simpa [vbLevels] using h
  | succ c ih =>
    intro j rowE rowR k hj hlen h
    simp only [vbLevels, of_zero, rd_zero]
    have hstep := vbStep_relOn hε hfl hst t x l j k ((j : Int) + 1 - a) hi rowE rowR 0 0 0
      (h.mono hε (le_refl _) (by omega) (le_refl _))
      (fun _ _ => ⟨RelErr.of_zero hε _, le_refl _⟩)
      (fun m _ hm h1 h2 => by
        rw [hlen] at hm
        exact ⟨hup m (by omega) h2, hdn (j - m) (by omega) (by omega)⟩)
    exact (ih (j + 1) _ _ (k + 7) (by omega) (by rw [@vbStep_len F (Arith.ofField F), hlen])
      (hstep.mono hε (le_refl _) (by omega) (le_refl _))).mono hε (by omega) (by omega) (le_refl _)

theorem bsplvb_relerr (hε : 0 ≤ ε) (hfl : ∀ a, RelErr ε 1 a (fl a)) (hst : ∀ a, RelErr ε 1 a (st a))
    (t : Int → F) (x : F) (left : Int) (jhigh : Nat)
    (hup : ∀ m : Nat, m + 1 < jhigh → x ≤ t (left + m + 1)) (hdn : ∀ m : Nat, m + 1 < jhigh → t (left - (m : Int)) ≤ x) :
    RelRow ε (1 + 7 * (jhigh - 1)) (@bsplvb F (Arith.ofField F) t x left jhigh)
      (@bsplvb F (Arith.rounded fl st) t x left jhigh) := by
  unfold bsplvb
  simp only [of_rnd, of_one, rd_rnd, rd_one]
  -- `a = hi = jhigh`: the window holds every position of every level
  have r1 := vbLevels_relOn hε hfl hst t x left jhigh jhigh (jhigh - 1)
    (fun m h _ => hup m (by omega)) (fun m h _ => hdn m (by omega)) (jhigh - 1) 0 [1] [st 1] 1 (by omega) rfl
    (relOn_cons.2 ⟨fun _ _ => ⟨hst 1, zero_le_one⟩, RelOn.nil _ _ _ _⟩)
  exact r1.relRow (fun p hp => by rw [@vbLevels_len F (Arith.ofField F), List.length_singleton] at hp; omega)

/-- comparisons are exact, so the rounded run settles on the same interval -/
theorem shiftDown_inst (t : Int → F) (x : F) : ∀ (fuel : Nat) (left : Int),
    @shiftDown F (Arith.rounded fl st) t x fuel left = @shiftDown F (Arith.ofField F) t x fuel left := by
  intro fuel
  induction fuel with
  | zero => intro left; rfl
  | succ f ih => intro left; simp only [shiftDown, rd_lt, of_lt, ih]

theorem shiftUp_inst (t : Int → F) (nknots : Nat) (x : F) : ∀ (fuel : Nat) (left : Int),
    @shiftUp F (Arith.rounded fl st) t nknots x fuel left = @shiftUp F (Arith.ofField F) t nknots x fuel left := by
  intro fuel
  induction fuel with
  | zero => intro left; rfl
  | succ f ih => intro left; simp only [shiftUp, rd_lt, of_lt, ih]

theorem marginShift_inst (t : Int → F) (nknots : Nat) (x : F) (left : Int) (n : Nat) :
    @marginShift F (Arith.rounded fl st) t nknots x left n = @marginShift F (Arith.ofField F) t nknots x left n := by
  unfold marginShift
  simp only [shiftDown_inst, shiftUp_inst]

/-- the re-indexing keeps exactly the genuine entries: slot `j` is slot `j + (c - l)` of the row (`rearrange_eq_shift`),
a genuine position, or a zero on both sides -/
theorem rearrange_relerr (hε : 0 ≤ ε) (nknots : Nat) (l : Int) (n c K : Nat) (rowE rowR : List F)
    (hlen : rowE.length = n + 1) (h : RelOn ε K 0 ((n : Int) - l) ((nknots : Int) - 2 - l) rowE rowR)
    (hs : ShiftIdx nknots n c l) :
    RelRow ε K (@rearrange F (Arith.ofField F) nknots l n rowE) (@rearrange F (Arith.rounded fl st) nknots l n rowR) := by
  rw [@rearrange_eq_shift F (Arith.ofField F) nknots l n c rowE hlen hs,
    @rearrange_eq_shift F (Arith.rounded fl st) nknots l n c rowR (h.1 ▸ hlen) hs]
  obtain ⟨hl0, hl1, hlo, hhi, hdown, hup⟩ := hs
  have key : ∀ j : Nat, j < n + 1 →
      RelErr ε K
        (if 0 ≤ (j:Int) + c - l ∧ (j:Int) + c - l ≤ n then rowE.getD ((j:Int) + c - l).toNat 0 else 0)
        (if 0 ≤ (j:Int) + c - l ∧ (j:Int) + c - l ≤ n then rowR.getD ((j:Int) + c - l).toNat 0 else 0) ∧
      0 ≤ (if 0 ≤ (j:Int) + c - l ∧ (j:Int) + c - l ≤ n then rowE.getD ((j:Int) + c - l).toNat 0 else 0) := by
    intro j _
    split
    · rename_i hq
      obtain ⟨q, hq'⟩ := Int.eq_ofNat_of_zero_le hq.1
      rw [hq', Int.toNat_natCast, List.getD_eq_getElem?_getD, List.getD_eq_getElem?_getD,
        List.getElem?_eq_getElem (by omega), List.getElem?_eq_getElem (by rw [← h.1]; omega)]
      exact h.2 q _ _ (List.getElem?_eq_getElem (by omega)) (List.getElem?_eq_getElem (by rw [← h.1]; omega))
        (by omega) (by omega)
    · exact ⟨RelErr.of_zero hε K, le_refl _⟩
  refine ⟨?_, fun a ha => ?_⟩
  · rw [List.forall₂_iff_get]
    refine ⟨by rw [List.length_map, List.length_map], fun j h1 _ => ?_⟩
    rw [List.length_map, List.length_range] at h1
    simp only [List.get_eq_getElem, List.getElem_map, List.getElem_range]
    exact (key j h1).1
  · obtain ⟨j, hj, rfl⟩ := List.mem_map.1 ha
    exact (key j (List.mem_range.1 hj)).2

/-- **The value row on an interval `l` the margin loops can settle on**: `l` brackets `x`, the knots the recurrence reads
inside the knot array are non-decreasing, and `l` sits to the centre `c` as `ShiftIdx` says (the index part of
`ShiftOK`).  The recurrence is `vbLevels_relOn` with `a = l`, `hi = nknots - 2 - l`. -/
theorem valueRow_relerr (hε : 0 ≤ ε) (hfl : ∀ a, RelErr ε 1 a (fl a)) (hst : ∀ a, RelErr ε 1 a (st a))
    (t : Int → F) (nknots : Nat) (x : F) (l : Int) (n c : Nat) (hs : ShiftIdx nknots n c l)
    (hx1 : t l ≤ x) (hx2 : x ≤ t (l + 1))
    (hmono : ∀ i j : Int, 0 ≤ i → l - n ≤ i → i ≤ j → j ≤ l + n + 1 → j < nknots → t i ≤ t j) :
    RelRow ε (1 + 7 * n) (@rearrange F (Arith.ofField F) nknots l n (@bsplvb F (Arith.ofField F) t x l (n + 1)))
      (@rearrange F (Arith.rounded fl st) nknots l n (@bsplvb F (Arith.rounded fl st) t x l (n + 1))) := by
  unfold bsplvb
  simp only [of_rnd, of_one, rd_rnd, rd_one, Nat.add_sub_cancel]
  have hl0 := hs.nonneg; have hl1 := hs.le
  have r1 := vbLevels_relOn hε hfl hst t x l l ((nknots : Int) - 2 - l) n
    (fun m _ hm => le_trans hx2 (hmono _ _ (by omega) (by omega) (by omega) (by omega) (by omega)))
    (fun q _ hq => le_trans (hmono _ _ (by omega) (by omega) (by omega) (by omega) (by omega)) hx1)
    n 0 [1] [st 1] 1 (by omega) rfl (relOn_cons.2 ⟨fun _ _ => ⟨hst 1, zero_le_one⟩, RelOn.nil _ _ _ _⟩)
  exact rearrange_relerr hε nknots l n c _ _ _ (by rw [@vbLevels_len F (Arith.ofField F)]; exact Nat.add_comm 1 n)
    (r1.mono hε (le_refl _) (by omega) (le_refl _)) hs

theorem bsplvbSimple_relerr (hε : 0 ≤ ε) (hfl : ∀ a, RelErr ε 1 a (fl a)) (hst : ∀ a, RelErr ε 1 a (st a))
    (d : Dim F) (x : F) (c : Nat) (h : Interior d x c) :
    RelRow ε (1 + 7 * d.order) (@bsplvbSimple F (Arith.ofField F) d.knots d.nknots x c d.order)
      (@bsplvbSimple F (Arith.rounded fl st) d.knots d.nknots x c d.order) := by
  unfold bsplvbSimple
  simp only
  rw [marginShift_inst, marginShift_stay (A := Arith.ofField F) d.knots d.nknots x c d.order
      (fun _ => decide_eq_false (not_lt.2 h.left)) (fun _ => decide_eq_false (not_lt.2 h.right))]
  exact valueRow_relerr hε hfl hst d.knots d.nknots x c d.order c (.stay h.lo h.hi) h.left h.right
    (fun i j _ h1 h2 h3 _ => h.mono i j h1 h2 h3)

theorem bsplvbSimple_relerr_all (hε : 0 ≤ ε) (hfl : ∀ a, RelErr ε 1 a (fl a)) (hst : ∀ a, RelErr ε 1 a (st a))
    (t : Int → F) (nknots : Nat) (x : F) (c : Nat) (n : Nat) (hc : CenterOK t nknots n x c)
    (hnd : t ((nknots:Int) - n - 2) < t ((nknots:Int) - n - 1) ∨ x ≠ t ((nknots:Int) - n - 1)) :
    RelRow ε (1 + 7 * n) (@bsplvbSimple F (Arith.ofField F) t nknots x c n)
      (@bsplvbSimple F (Arith.rounded fl st) t nknots x c n) := by
  have hs := marginShift_spec t nknots n x c hc hnd
  unfold bsplvbSimple
  simp only
  rw [marginShift_inst]
  generalize @marginShift F (Arith.ofField F) t nknots x c n = l at hs ⊢
  have hx : t l ≤ x ∧ x ≤ t (l + 1) := by
    rcases hs.bracket with ⟨_, b1, b2⟩ | ⟨_, b1, b2⟩
    · exact ⟨b1, le_of_lt b2⟩
    · exact ⟨le_of_lt b1, b2⟩
  exact valueRow_relerr hε hfl hst t nknots x l n c hs.toShiftIdx hx.1 hx.2
    (fun i j h0 _ h2 _ h4 => hc.mono i j h0 h2 h4)

end PsV
