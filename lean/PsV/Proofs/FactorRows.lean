import PsV.Model.WalkBlocks
import PsV.Proofs.NnlsSolve
/-!
# Rows added to the full-size factor by `modify_factor_p` (part (b) of `PsV/Model/WalkBlocks.lean`)

The factor is described by the matrix it represents (`repMat A S`: `A` on the passive set, identity elsewhere), up to
`AgreeOn` on `[0,n)²`.  `rowAdd` returns exactly when row and column `k` are those of the identity
(`rowAdd_of_identity`, `rowAdd_of_coupled`); with the column taken from `A` restricted to the set that already holds `k`
it turns a representation of `A` on `S` into one on `S ∪ {k}` (`rowAdd_repMat`), and the exact solve reads only the
entries on the passive set (`solveOn_of_repMat`).
-/
namespace PsV.Nnls

/-- agreement of two matrices on `[0,n) × [0,n)` -/
def AgreeOn (n : Nat) (R R' : Mat) : Prop := ∀ i j, i < n → j < n → R i j = R' i j

/-- `cholmod_rowadd` within its precondition: row and column `k` of `R` are those of the identity -/
theorem rowAdd_of_identity {n k : Nat} {R : Mat} (col : Vec) (hkk : R k k = 1)
    (hrow : ∀ j, j < n → j ≠ k → R k j = 0 ∧ R j k = 0) :
    rowAdd n k col R = some fun i j => if i = k then col j else if j = k then col i else R i j := by
  refine if_pos (Bool.and_eq_true_iff.mpr ⟨beq_iff_eq.mpr hkk, List.all_eq_true.mpr fun j hj => ?_⟩)
  by_cases hjk : j = k
  · rw [beq_iff_eq.mpr hjk]; rfl
  · obtain ⟨h1, h2⟩ := hrow j (List.mem_range.mp hj) hjk
    rw [beq_iff_eq.mpr h1, beq_iff_eq.mpr h2, Bool.and_self, Bool.or_true]

/-- … and outside it: an off-diagonal entry of column `k` is set -/
theorem rowAdd_of_coupled {n k j : Nat} {R : Mat} (col : Vec) (hj : j < n) (hjk : j ≠ k) (h : R j k ≠ 0) :
    rowAdd n k col R = none := by
  refine if_neg fun hc => ?_
  have := List.all_eq_true.mp (Bool.and_eq_true_iff.mp hc).2 j (List.mem_range.mpr hj)
  rw [beq_false_of_ne hjk, Bool.false_or, beq_false_of_ne h, Bool.and_false] at this
  cases this

theorem rowAdd_row {n k : Nat} {col : Vec} {R R' : Mat} (h : rowAdd n k col R = some R') (j : Nat) : R' k j = col j := by
  unfold rowAdd at h
  split at h
  · rw [← Option.some.inj h]
    exact if_pos rfl
  · cases h

/-- one `cholmod_rowadd` with the column taken from `A` restricted to the passive set that already contains `k` -/
theorem rowAdd_repMat (n : Nat) (A : Mat) (S : Nat → Bool) (k : Nat) (R : Mat) (hkS : S k = false)
    (hsym : ∀ i j, i < n → j < n → A i j = A j i) (hR : AgreeOn n R (repMat A S)) (hk : k < n) :
    ∃ R', rowAdd n k (getColumn A (fun i => S i || i == k) k) R = some R' ∧
      AgreeOn n R' (repMat A (fun i => S i || i == k)) := by
  have hid : ∀ i j, i ≠ j → (i = k ∨ j = k) → repMat A S i j = 0 := fun i j hij h => by
    have : (S i && S j) = false := by rcases h with rfl | rfl <;> simp [hkS]
    simp [repMat, this, hij]
  refine ⟨_, rowAdd_of_identity _ ?_ fun j hj hjk => ?_, fun i j hi hj => ?_⟩
  · rw [hR k k hk hk]; simp [repMat, hkS]
  · rw [hR k j hk hj, hR j k hj hk]
    exact ⟨hid k j (Ne.symm hjk) (Or.inl rfl), hid j k hjk (Or.inr rfl)⟩
  · show (if i = k then _ else if j = k then _ else R i j) = _
    by_cases hik : i = k
    · subst hik
      by_cases hSj : (S j || j == i) = true
      · simp [repMat, getColumn, hSj, hsym j i hj hi]
      · have hne : ¬ i = j := fun h => hSj (by subst h; simp)
        simp [repMat, getColumn, hSj, hne]
    · by_cases hjk : j = k
      · subst hjk
        by_cases hSi : (S i || i == j) = true <;> simp [repMat, getColumn, hSi, hik]
      · rw [if_neg hik, if_neg hjk, hR i j hi hj]
        simp [repMat, hik, hjk]

theorem repMat_congr (A : Mat) (S S' : Nat → Bool) (h : ∀ i, S i = S' i) : repMat A S = repMat A S' :=
  congrArg (repMat A) (funext h)

/-- the `H2` loop as written: every `rowAdd` meets its precondition because the column of row `k` is taken from `A`
restricted to the set that already holds `k` and the rows added before it -/
theorem addRows_repMat (n : ℕ) (A : Mat) (S : ℕ → Bool) (H2 : List ℕ) (R : Mat)
    (hsym : ∀ i j, i < n → j < n → A i j = A j i) (hlt : ∀ k ∈ H2, k < n) (hnd : H2.Nodup)
    (hdisj : ∀ k ∈ H2, S k = false) (hR : AgreeOn n R (repMat A S)) :
    ∃ R', addRows n A S H2 R = some R' ∧ AgreeOn n R' (repMat A (fun i => S i || H2.contains i)) := by
  induction H2 generalizing S R with
  | nil =>
    refine ⟨R, rfl, ?_⟩
    rwa [repMat_congr A _ S fun i => by simp]
  | cons k ks ih =>
    obtain ⟨R1, h1, hA1⟩ := rowAdd_repMat n A S k R (hdisj k List.mem_cons_self) hsym hR (hlt k List.mem_cons_self)
    have hnd' := List.nodup_cons.mp hnd
    obtain ⟨R2, h2, hA2⟩ := ih (fun i => S i || i == k) R1 (fun q hq => hlt q (List.mem_cons_of_mem _ hq)) hnd'.2
      (fun q hq => by
        have hqk : ¬ q = k := fun h => hnd'.1 (h ▸ hq)
        simp [hdisj q (List.mem_cons_of_mem _ hq), hqk]) hA1
    refine ⟨R2, by simp only [addRows, h1]; exact h2, ?_⟩
    rwa [repMat_congr A (fun i => S i || (k :: ks).contains i) (fun i => (S i || i == k) || ks.contains i)
      fun i => by rw [List.contains_cons, Bool.or_assoc]]

theorem solveOn_congr (n : Nat) (A A' : Mat) (b : Vec) (S : List Nat) (h : ∀ r ∈ S, ∀ c ∈ S, A r c = A' r c) :
    solveOn n A b S = solveOn n A' b S := by
  rw [solveOn_eq, solveOn_eq, sysMat_congr b h]

theorem solveOn_of_repMat (n : Nat) (A R : Mat) (b : Vec) (S : Nat → Bool) (hR : AgreeOn n R (repMat A S)) (P : List Nat)
    (hP : ∀ i ∈ P, i < n ∧ S i = true) : solveOn n R b P = solveOn n A b P :=
  solveOn_congr n R A b P fun r hr c hc => by
    rw [hR r c (hP r hr).1 (hP c hc).1, repMat, (hP r hr).2, (hP c hc).2]
    rfl

end PsV.Nnls
