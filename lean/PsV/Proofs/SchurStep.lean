import PsV.Proofs.NormalEq
import Mathlib.Algebra.BigOperators.Intervals
import Mathlib.Algebra.Order.BigOperators.Ring.Finset
import Mathlib.Algebra.Order.Field.Basic
import Mathlib.Tactic.FieldSimp
import Mathlib.Tactic.Ring
/-!
# One step of elimination without row exchanges, on entry functions: the `LDLᵀ` step

A matrix is its entry function `Nat → Nat → α`; only the window `[k, n) × [k, n)` matters.  `schur M k` is what one
elimination step with pivot `(k, k)` leaves below and to the right of the pivot.  For a window that is symmetric,
`vᵀMv = p (v_k + s/p)² + vᵀSv` (`quadFrom_complete_square`), so the window is positive definite exactly when the pivot
is positive and the Schur complement is positive definite (`posDefFrom_step_iff`; its two directions are
`posDefFrom_of_schur` and `posDefFrom_pivot_pos` with `posDefFrom_schur`).  Both eliminations of the development are
read through this step: `elimLoop` of the fit specification (`ElimPosDef`, C09) and `gaussJordan` of the NNLS reference
solver (`NnlsElim`, C11).  The window `[0, n)` is the matrix of `NormalEq` (`posDefFrom_zero_iff`).
-/
set_option linter.unusedSectionVars false
namespace PsV
open Finset

section Algebra
variable {α : Type} [Field α]

/-- one step of elimination on the entry function: `M_ij − M_ik / M_kk · M_kj` -/
def schur (M : Nat → Nat → α) (k i j : Nat) : α := M i j - M i k / M k k * M k j

/-- the quadratic form of `M` on the index window `[k, n)` -/
def quadFrom (k n : Nat) (M : Nat → Nat → α) (v : Nat → α) : α :=
  ∑ i ∈ Ico k n, ∑ j ∈ Ico k n, v i * M i j * v j

theorem quadFrom_congr {k n : Nat} {M M' : Nat → Nat → α} {v v' : Nat → α}
    (hM : ∀ i, k ≤ i → i < n → ∀ j, k ≤ j → j < n → M i j = M' i j) (hv : ∀ i, k ≤ i → i < n → v i = v' i) :
    quadFrom k n M v = quadFrom k n M' v' := by
  unfold quadFrom
  refine sum_congr rfl (fun i hi => sum_congr rfl (fun j hj => ?_))
  rw [mem_Ico] at hi hj
  rw [hM i hi.1 hi.2 j hj.1 hj.2, hv i hi.1 hi.2, hv j hj.1 hj.2]

theorem quadFrom_split {k n : Nat} (hk : k < n) (M : Nat → Nat → α) (v : Nat → α) :
    quadFrom k n M v
      = M k k * v k ^ 2 + v k * (∑ j ∈ Ico (k+1) n, M k j * v j)
        + (∑ i ∈ Ico (k+1) n, v i * M i k) * v k + quadFrom (k+1) n M v := by
  unfold quadFrom
  rw [sum_eq_sum_Ico_succ_bot hk, sum_eq_sum_Ico_succ_bot hk]
  have h1 : ∀ i ∈ Ico (k+1) n, ∑ j ∈ Ico k n, v i * M i j * v j
      = v i * M i k * v k + ∑ j ∈ Ico (k+1) n, v i * M i j * v j :=
    fun i _ => sum_eq_sum_Ico_succ_bot hk _
  rw [sum_congr rfl h1, sum_add_distrib, mul_sum, sum_mul]
  have h2 : ∀ j ∈ Ico (k+1) n, v k * M k j * v j = v k * (M k j * v j) := fun j _ => by ring
  rw [sum_congr rfl h2]
  ring

theorem quadFrom_schur (k n : Nat) (M : Nat → Nat → α) (v : Nat → α) :
    quadFrom (k+1) n (schur M k) v
      = quadFrom (k+1) n M v
        - (∑ i ∈ Ico (k+1) n, v i * M i k) * (∑ j ∈ Ico (k+1) n, M k j * v j) * (M k k)⁻¹ := by
  unfold quadFrom schur
  rw [sum_mul_sum, sum_mul, ← sum_sub_distrib]
  refine sum_congr rfl (fun i _ => ?_)
  rw [sum_mul, ← sum_sub_distrib]
  exact sum_congr rfl (fun j _ => by ring)

theorem quadFrom_complete_square {k n : Nat} (hk : k < n) (M : Nat → Nat → α) (v : Nat → α)
    (hS : ∀ i, k < i → i < n → M i k = M k i) (hd : M k k ≠ 0) :
    quadFrom k n M v
      = M k k * (v k + (∑ j ∈ Ico (k+1) n, M k j * v j) / M k k) ^ 2
        + quadFrom (k+1) n (schur M k) v := by
  have hu : ∑ i ∈ Ico (k+1) n, v i * M i k = ∑ j ∈ Ico (k+1) n, M k j * v j := by
    refine sum_congr rfl (fun i hi => ?_)
    rw [mem_Ico] at hi
    rw [hS i (by omega) hi.2, mul_comm]
  rw [quadFrom_split hk, quadFrom_schur, hu]
  field_simp
  ring

end Algebra

section Order
variable {α : Type} [Field α] [LinearOrder α] [IsStrictOrderedRing α]

/-- positive definiteness of the window `[k, n)` of `M` -/
def PosDefFrom (k n : Nat) (M : Nat → Nat → α) : Prop :=
  ∀ v : Nat → α, (∃ i, k ≤ i ∧ i < n ∧ v i ≠ 0) → 0 < quadFrom k n M v

theorem posDefFrom_self (n : Nat) (M : Nat → Nat → α) : PosDefFrom n n M := by
  rintro v ⟨i, h1, h2, _⟩
  omega

theorem posDefFrom_of_le {k n : Nat} (h : n ≤ k) (M : Nat → Nat → α) : PosDefFrom k n M := by
  rintro v ⟨i, h1, h2, _⟩
  omega

theorem posDefFrom_congr {k n : Nat} {M M' : Nat → Nat → α}
    (h : ∀ i, k ≤ i → i < n → ∀ j, k ≤ j → j < n → M i j = M' i j) (hP : PosDefFrom k n M) :
    PosDefFrom k n M' := by
  intro v hv
  rw [← quadFrom_congr h fun _ _ _ => rfl]
  exact hP v hv

theorem posDefFrom_of_schur {k n : Nat} (M : Nat → Nat → α)
    (hS : ∀ i, k < i → i < n → M i k = M k i) (hd : 0 < M k k)
    (hP : PosDefFrom (k+1) n (schur M k)) : PosDefFrom k n M := by
  rintro v ⟨i, hki, hin, hvi⟩
  rw [quadFrom_complete_square (by omega) M v hS hd.ne']
  by_cases hex : ∃ i, k + 1 ≤ i ∧ i < n ∧ v i ≠ 0
  · exact add_pos_of_nonneg_of_pos (mul_nonneg hd.le (sq_nonneg _)) (hP v hex)
  · -- `v` vanishes beyond `k`: only the square of `v k` is left
    have hz : ∀ j, k + 1 ≤ j → j < n → v j = 0 :=
      fun j h1 h2 => not_not.1 (fun hne => hex ⟨j, h1, h2, hne⟩)
    obtain rfl : i = k := not_not.1 (fun hne => hvi (hz i (by omega) hin))
    have hu : ∑ j ∈ Ico (i+1) n, M i j * v j = 0 :=
      sum_eq_zero (fun j hj => by rw [hz j (mem_Ico.1 hj).1 (mem_Ico.1 hj).2, mul_zero])
    have hq : quadFrom (i+1) n (schur M i) v = 0 :=
      sum_eq_zero (fun a _ => sum_eq_zero (fun b hb => by
        rw [hz b (mem_Ico.1 hb).1 (mem_Ico.1 hb).2, mul_zero]))
    rw [hu, hq, zero_div, add_zero, add_zero]
    exact mul_pos hd (sq_pos_iff.2 hvi)

omit [IsStrictOrderedRing α] in
theorem posDefFrom_pivot_pos {k n : Nat} {M : Nat → Nat → α} (hk : k < n) (h : PosDefFrom k n M) : 0 < M k k := by
  have := h (fun i => if i = k then 1 else 0) ⟨k, le_refl _, hk, by simp⟩
  have e : quadFrom k n M (fun i => if i = k then 1 else 0) = M k k := by
    unfold quadFrom
    have hm : k ∈ Ico k n := mem_Ico.mpr ⟨le_refl _, hk⟩
    simp [Finset.sum_ite_eq', hm, ite_mul, mul_ite]
  rwa [e] at this

omit [IsStrictOrderedRing α] in
theorem posDefFrom_schur {k n : Nat} {M : Nat → Nat → α} (hk : k < n)
    (hS : ∀ i, k < i → i < n → M i k = M k i) (h : PosDefFrom k n M) : PosDefFrom (k+1) n (schur M k) := by
  rintro y ⟨i, hi, hin, hne⟩
  -- complete `y` at `k` so that the square of the `LDLᵀ` step vanishes
  have hupd : ∀ a j, k + 1 ≤ j → Function.update y k a j = y j :=
    fun a j hj => Function.update_of_ne (Nat.ne_of_gt hj) _ _
  have hs : ∀ a, ∑ j ∈ Ico (k+1) n, M k j * Function.update y k a j = ∑ j ∈ Ico (k+1) n, M k j * y j :=
    fun a => sum_congr rfl fun j hj => by rw [hupd a j (mem_Ico.mp hj).1]
  have hq := h (Function.update y k (-((∑ j ∈ Ico (k+1) n, M k j * y j) / M k k)))
    ⟨i, Nat.le_of_lt hi, hin, by rw [hupd _ i hi]; exact hne⟩
  rw [quadFrom_complete_square hk M _ hS (posDefFrom_pivot_pos hk h).ne', Function.update_self, hs, neg_add_cancel,
    quadFrom_congr (fun _ _ _ _ _ _ => rfl) fun j hj _ => hupd _ j hj] at hq
  simpa using hq

omit [IsStrictOrderedRing α] in
theorem posDefFrom_succ {k n : Nat} {M : Nat → Nat → α} (hk : k < n) (h : PosDefFrom k n M) : PosDefFrom (k+1) n M := by
  rintro y ⟨i, hi, hin, hne⟩
  have hupd : ∀ j, k + 1 ≤ j → Function.update y k 0 j = y j := fun j hj => Function.update_of_ne (Nat.ne_of_gt hj) _ _
  have hq := h (Function.update y k 0) ⟨i, Nat.le_of_lt hi, hin, by rw [hupd i hi]; exact hne⟩
  rw [quadFrom_split hk, Function.update_self, quadFrom_congr (fun _ _ _ _ _ _ => rfl) fun j hj _ => hupd j hj] at hq
  simpa using hq

theorem posDefFrom_step_iff {k n : Nat} {M : Nat → Nat → α} (hk : k < n) (hS : ∀ i, k < i → i < n → M i k = M k i) :
    PosDefFrom k n M ↔ 0 < M k k ∧ PosDefFrom (k+1) n (schur M k) :=
  ⟨fun h => ⟨posDefFrom_pivot_pos hk h, posDefFrom_schur hk hS h⟩, fun h => posDefFrom_of_schur M hS h.1 h.2⟩

theorem schur_symm {k n : Nat} (M : Nat → Nat → α)
    (hS : ∀ i, k ≤ i → i < n → ∀ j, k ≤ j → j < n → M i j = M j i)
    (i j : Nat) (hi : k ≤ i) (hin : i < n) (hj : k ≤ j) (hjn : j < n) :
    schur M k i j = schur M k j i := by
  have hk : k < n := by omega
  unfold schur
  rw [hS i hi hin j hj hjn, hS i hi hin k (le_refl _) hk, hS k (le_refl _) hk j hj hjn]
  ring

end Order

theorem quadFrom_zero_eq_quad {α : Type} [Field α] (n : Nat) (M : Nat → Nat → α) (v : Nat → α) :
    quadFrom 0 n M v = NormalEq.quad n M v := by
  unfold quadFrom NormalEq.quad NormalEq.mulVec
  rw [← range_eq_Ico]
  refine sum_congr rfl (fun i _ => ?_)
  rw [mul_sum]
  exact sum_congr rfl (fun j _ => by ring)

theorem posDefFrom_zero_iff {α : Type} [Field α] [LinearOrder α] (n : Nat) (M : Nat → Nat → α) :
    PosDefFrom 0 n M ↔ NormalEq.PosDef n M := by
  constructor
  · rintro h v ⟨i, hi, hvi⟩
    rw [← quadFrom_zero_eq_quad]
    exact h v ⟨i, Nat.zero_le _, hi, hvi⟩
  · rintro h v ⟨i, _, hi, hvi⟩
    rw [quadFrom_zero_eq_quad]
    exact h v ⟨i, hi, hvi⟩

end PsV
