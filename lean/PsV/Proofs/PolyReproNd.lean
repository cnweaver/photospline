import PsV.Proofs.GridTable
import PsV.Proofs.Marsden1d
import PsV.Proofs.TensorCoef
/-!
# C09: polynomial data of degree below the penalty order are reproduced for every smoothing strength

`Reproduces ds ps c V`: on the fully supported range `c` is the coefficient vector of the function `V`, and the derivative
coefficients that the penalty squares vanish on `c`; then data that are values of `V` make `c` a solution of the normal
equations whatever the smoothing strengths are (`Reproduces.normal_eq`).  Such pairs are closed under sums and contain
the tensor products of one-dimensional pairs (`TensorCoef`).  Any degree: per dimension a polynomial `Σ_j a_j x^j`
given by its coefficient list has the B-spline coefficient vector `k ↦ Σ_j a_j · e_j(t_{k+1..k+order})/C(order, j)`
(Marsden's identity, `Marsden1d`), and its derivative coefficients vanish from the order `deg + 1` on; products over the
dimensions and sums of products cover every polynomial whose degree in `x_d` is below the penalty order `p_d`
(`reproduces_polyCoefG`, under the monomial-wise condition `MonoOK`).  Constants and products of affine factors
`Π_d (a_d + b_d x_d)` (coefficients `Π_d (a_d + b_d ξ_{d,i_d})`, `ξ` the Greville abscissae) are the cases `[1]` and
`[a_d, b_d]`.
-/
namespace PsV
open Finset NormalEq

section
variable {α : Type} [Field α] [LinearOrder α] [IsStrictOrderedRing α] [A : Arith α] [L : LawfulArith α]

/-- every coordinate in the fully supported range `[knots[order], knots[naxes])` of its dimension -/
def InSupport : List (Dim α) → List α → Prop
  | d :: ds, x :: xs => (d.knots d.order ≤ x ∧ x < d.knots d.naxes) ∧ InSupport ds xs
  | _, _ => True

/-- the grid point of data row `r` -/
def rowPoint (P : FitProblem α) (r : Nat) : Option (List α) :=
  match P.rows[r]? with
  | none => none
  | some row => gridPoint P.coords row.idx

omit [Field α] [LinearOrder α] [IsStrictOrderedRing α] L in
theorem designEntry_of_point (P : FitProblem α) (r i : Nat) (xs : List α) (h : rowPoint P r = some xs) :
    designEntry P r i = basisProd P.dims xs i := by
  unfold rowPoint at h
  unfold designEntry
  cases hr : P.rows[r]? with
  | none => simp [hr] at h
  | some row =>
    simp only [hr] at h ⊢
    simp only [h]

omit [Field α] [LinearOrder α] [IsStrictOrderedRing α] A L in
theorem rowPoint_length (P : FitProblem α) (r : Nat) (xs : List α) (h : rowPoint P r = some xs) :
    xs.length = P.coords.length := by
  unfold rowPoint at h
  cases hr : P.rows[r]? with
  | none => simp [hr] at h
  | some row =>
    simp only [hr] at h
    exact gridPoint_length _ _ _ h

/-- on the fully supported range `c` is the coefficient vector of the function `V`, and the derivative coefficients that the
penalty of orders `ps` squares all vanish on `c`: data that are values of `V` are reproduced by `c` whatever the smoothing
strengths are (`Reproduces.normal_eq`).  Such pairs `(c, V)` form a linear space (`Reproduces.list_sum`) that contains the
tensor products of one-dimensional pairs (`Reproduces.compProd`). -/
structure Reproduces (ds : List (Dim α)) (ps : List Nat) (c : Nat → α) (V : List α → α) : Prop where
  value : ∀ xs, xs.length = ds.length → InSupport ds xs →
    ∑ i ∈ range (natProd (ds.map (·.naxes))), basisProd ds xs i * c i = V xs
  -- `N` enters `DerivVanishes` only through `N / (n·s)`, the number of outer blocks of a dimension
  deriv : ∀ N, DerivVanishes ds ps N c

theorem Reproduces.compProd {ds : List (Dim α)} {ps : List Nat} {hs : List (Nat → α)} {V : List α → α}
    (hst : StridesRowMajor ds)
    (hval : ∀ xs, xs.length = ds.length → InSupport ds xs → dimSums ds (basisMulFns ds xs hs) = V xs)
    (hder : DimDerivVanish ds hs ps) : Reproduces ds ps (compProd ds hs) V :=
  ⟨fun xs hx hsup => (sum_basisProd_compProd ds xs hs hst hx).trans (hval xs hx hsup),
    fun N => derivVanishes_compProd ds hs ps N hst hder⟩

theorem Reproduces.list_sum {β : Type} {ds : List (Dim α)} {ps : List Nat} (c : β → Nat → α) (V : β → List α → α) :
    ∀ l : List β, (∀ b ∈ l, Reproduces ds ps (c b) (V b)) →
      Reproduces ds ps (fun i => (l.map fun b => c b i).sum) (fun xs => (l.map fun b => V b xs).sum)
  | [], _ => ⟨fun xs _ _ => sum_eq_zero (fun i _ => mul_zero _), fun N => derivVanishes_zero ds ps N⟩
  | b :: l, h => by
    have hb := h b List.mem_cons_self
    have hl := Reproduces.list_sum c V l (fun b' hb' => h b' (List.mem_cons_of_mem _ hb'))
    refine ⟨fun xs hx hsup => ?_, fun N => derivVanishes_add ds ps N _ _ (hb.deriv N) (hl.deriv N)⟩
    simp only [List.map_cons, List.sum_cons, mul_add, sum_add_distrib]
    rw [hb.value xs hx hsup, hl.value xs hx hsup]

theorem Reproduces.normal_eq {P : FitProblem α} {c : Nat → α} {V : List α → α} (h : Reproduces P.dims P.porder c V)
    (hc : P.coords.length = P.dims.length)
    (hz : ∀ r < P.rows.size, rowW P r ≠ 0 →
      ∃ xs, rowPoint P r = some xs ∧ InSupport P.dims xs ∧ rowZ P r = V xs) :
    ∀ i < P.ncoef, mulVec P.ncoef (Mf P) c i = rf P i := by
  refine normal_eq_of_generated P c (fun r hr hw => ?_) (penaltyVanishes_of_deriv _ _ _ _ _ (h.deriv _))
  obtain ⟨xs, hpt, hsup, hzr⟩ := hz r hr hw
  rw [hzr, ← h.value xs ((rowPoint_length P r xs hpt).trans hc) hsup]
  exact sum_congr rfl (fun i _ => by rw [designEntry_of_point P r i xs hpt])

/-- the knots `0 … naxes+order` of every dimension are sorted (repeated knots allowed) -/
def KnotsSorted (ds : List (Dim α)) : Prop :=
  ∀ d ∈ ds, ∀ i j : Int, 0 ≤ i → i ≤ j → j ≤ (d.naxes : Int) + d.order → d.knots i ≤ d.knots j

/-! ### any degree (the names of this part end in `G`: `polyCoefG`, `polyValG`, `PolyDegOKG`, `PolyDataG`) -/

/-- `Σ_j a_j x^j` -/
def poly1 (as : List α) (x : α) : α := ∑ j ∈ range as.length, as.getD j 0 * x ^ j

/-- B-spline coefficient vector of `Σ_j a_j x^j` on the knots `t`, order `order` -/
def poly1Coef (t : Int → α) (order : Nat) (as : List α) (k : Nat) : α :=
  ∑ j ∈ range as.length, dualCoef t order j k * as.getD j 0

def polyFnsG : List (Dim α) → List (List α) → List (Nat → α)
  | d :: ds, as :: ass => poly1Coef d.knots d.order as :: polyFnsG ds ass
  | _, _ => []

/-- coefficient vector of `Π_d (Σ_j a_{d,j} x_d^j)` -/
def polyCoefG (ds : List (Dim α)) (ass : List (List α)) (i : Nat) : α := compProd ds (polyFnsG ds ass) i

/-- `Π_d (Σ_j a_{d,j} x_d^j)` -/
def polyValG : List (List α) → List α → α
  | as :: ass, x :: xs => poly1 as x * polyValG ass xs
  | [], [] => 1
  | _, _ => 0

/-- per dimension: degree below the penalty order and at most the spline order; the knot spans the derivative
recurrence divides by are non-degenerate -/
def PolyDegOKG : List (Dim α) → List (List α) → List Nat → Prop
  | d :: ds, as :: ass, p :: ps =>
    (as.length ≤ p ∧ as.length ≤ d.order + 1 ∧
      ∀ m q : Nat, q < p → q < d.order → m + q + 1 < d.naxes →
        d.knots ((m : Int) + q + 1) ≠ d.knots ((m : Int) + d.order + 1))
      ∧ PolyDegOKG ds ass ps
  | _, _, _ => True

/-- what the two halves of the reproduction argument need of a coefficient list, monomial by monomial: `a_j = 0`, or the
degree `j` is below the penalty order and at most the spline order and the `j` knot spans that the derivative recurrence
divides by on the way down from `x^j` to a constant are non-degenerate.  `PolyDegOKG` asks this of every `j` below the
length of the list (and the spans for every `q < p`); `PolyDegOK` asks exactly this of the list `[a, b]`. -/
def MonoOK (t : Int → α) (order n p : Nat) (as : List α) : Prop :=
  ∀ j < as.length, as.getD j 0 = 0 ∨ (j < p ∧ j ≤ order ∧ SpansNonzero t order j 0 (n - 1))

def PolyDegSharp : List (Dim α) → List (List α) → List Nat → Prop
  | d :: ds, as :: ass, p :: ps => MonoOK d.knots d.order d.naxes p as ∧ PolyDegSharp ds ass ps
  | _, _, _ => True

omit [LinearOrder α] [IsStrictOrderedRing α] A L in
theorem polyDegSharp_of_G : ∀ (ds : List (Dim α)) (ass : List (List α)) (ps : List Nat),
    PolyDegOKG ds ass ps → PolyDegSharp ds ass ps
  | [], _, _, _ | _ :: _, [], _, _ | _ :: _, _ :: _, [], _ => trivial
  | _ :: ds, _ :: ass, _ :: ps, ⟨⟨h1, h2, h3⟩, h4⟩ =>
    ⟨fun j hj => Or.inr ⟨by omega, by omega, fun m q _ hq hm => h3 m q (by omega) (by omega) (by omega)⟩,
      polyDegSharp_of_G ds ass ps h4⟩

theorem poly1Coef_sum (t : Int → α) (x : α) (order n p : Nat) (as : List α) (hok : MonoOK t order n p as)
    (hmono : ∀ i j : Int, 0 ≤ i → i ≤ j → j ≤ (n : Int) + order → t i ≤ t j)
    (h1 : t (order : Int) ≤ x) (h2 : x < t (n : Int)) :
    ∑ k ∈ range n, Bind (indR t x) t x order (k : Int) * poly1Coef t order as k = poly1 as x := by
  unfold poly1Coef poly1
  simp only [mul_sum]
  rw [sum_comm]
  refine sum_congr rfl (fun j hj => ?_)
  rcases hok j (mem_range.1 hj) with h0 | ⟨_, hj', _⟩
  · rw [h0, zero_mul]
    exact sum_eq_zero (fun k _ => by rw [mul_zero, mul_zero])
  · rw [← Bind_sum_monomial t x order n j hj' hmono h1 h2, mul_sum]
    exact sum_congr rfl (fun k _ => by ring)

theorem poly1Coef_deriv (t : Int → α) (order p n : Nat) (as : List α) (hok : MonoOK t order n p as)
    (k : Nat) (hkn : k < n - p) : derivCoef t order p (poly1Coef t order as) k = 0 := by
  have e : poly1Coef t order as = fun k => ∑ j ∈ range as.length, as.getD j 0 * dualCoef t order j k :=
    funext fun k => sum_congr rfl fun j _ => mul_comm _ _
  rw [e, derivCoef_sum]
  refine sum_eq_zero (fun j hj => ?_)
  rcases hok j (mem_range.1 hj) with h0 | ⟨hjp, hj', hk⟩
  · rw [h0, zero_mul]
  · rw [derivCoef_monomial' t order p j k hjp hj' (hk.mono (Nat.le_refl j) (Nat.zero_le k) (by omega)), mul_zero]

theorem dimDerivVanish_polyG : ∀ (ds : List (Dim α)) (ass : List (List α)) (ps : List Nat),
    PolyDegSharp ds ass ps → DimDerivVanish ds (polyFnsG ds ass) ps
  | [], _, _, _ | _ :: _, [], _, _ | _ :: _, _ :: _, [], _ => trivial
  | d :: ds, as :: ass, p :: ps, ⟨h1, h2⟩ =>
    ⟨fun k hk => poly1Coef_deriv d.knots d.order p d.naxes as h1 k hk, dimDerivVanish_polyG ds ass ps h2⟩

theorem dimSums_mulFns_polyG : ∀ (ds : List (Dim α)) (xs : List α) (ass : List (List α)) (ps : List Nat),
    xs.length = ds.length → ass.length = ds.length → ps.length = ds.length → KnotsSorted ds → InSupport ds xs →
    PolyDegSharp ds ass ps → dimSums ds (basisMulFns ds xs (polyFnsG ds ass)) = polyValG ass xs
  | [], [], [], _, _, _, _, _, _, _ => rfl
  | d :: ds, x :: xs, as :: ass, p :: ps, hx, hq, hp, hsorted, ⟨⟨s1, s2⟩, hsup⟩, ⟨h1, h2⟩ => by
    rw [polyFnsG, basisMulFns, dimSums, polyValG,
      dimSums_mulFns_polyG ds xs ass ps (Nat.succ.inj hx) (Nat.succ.inj hq) (Nat.succ.inj hp)
        (fun d' hd' => hsorted d' (List.mem_cons_of_mem _ hd')) hsup h2,
      poly1Coef_sum d.knots x d.order d.naxes p as h1 (hsorted d List.mem_cons_self) s1 s2]

/-- **the reproduction theorem**: a product of one polynomial per dimension, each monomial of it `MonoOK` -/
theorem reproduces_polyCoefG (ds : List (Dim α)) (ass : List (List α)) (ps : List Nat)
    (hst : StridesRowMajor ds) (hq : ass.length = ds.length) (hp : ps.length = ds.length) (hsorted : KnotsSorted ds)
    (hdeg : PolyDegSharp ds ass ps) : Reproduces ds ps (polyCoefG ds ass) (polyValG ass) :=
  Reproduces.compProd hst (fun xs hx hsup => dimSums_mulFns_polyG ds xs ass ps hx hq hp hsorted hsup hdeg)
    (dimDerivVanish_polyG ds ass ps hdeg)

def polyValGSum (terms : List (List (List α))) (xs : List α) : α := (terms.map fun ass => polyValG ass xs).sum

def polyCoefGSum (ds : List (Dim α)) (terms : List (List (List α))) (i : Nat) : α :=
  (terms.map fun ass => polyCoefG ds ass i).sum

/-- the data of non-zero weight lie in the fully supported range and are values of the polynomial -/
def PolyDataG (P : FitProblem α) (terms : List (List (List α))) : Prop :=
  ∀ r < P.rows.size, rowW P r ≠ 0 →
    ∃ xs, rowPoint P r = some xs ∧ InSupport P.dims xs ∧ rowZ P r = polyValGSum terms xs

theorem reproduces_polyCoefGSum (ds : List (Dim α)) (terms : List (List (List α))) (ps : List Nat)
    (hst : StridesRowMajor ds) (hp : ps.length = ds.length) (hsorted : KnotsSorted ds)
    (hterms : ∀ ass ∈ terms, ass.length = ds.length ∧ PolyDegSharp ds ass ps) :
    Reproduces ds ps (polyCoefGSum ds terms) (polyValGSum terms) :=
  Reproduces.list_sum (polyCoefG ds) polyValG terms
    (fun ass h => reproduces_polyCoefG ds ass ps hst (hterms ass h).1 hp hsorted (hterms ass h).2)

theorem poly1Coef_one (t : Int → α) (order k : Nat) : poly1Coef t order [1] k = 1 := by
  rw [poly1Coef, List.length_singleton, sum_range_one, dualCoef_zero, one_mul]
  rfl

theorem polyCoefG_ones (i : Nat) : ∀ ds : List (Dim α), polyCoefG ds (ds.map fun _ => [1]) i = 1
  | [] => rfl
  | d :: ds => by
    have ih : compProd ds (polyFnsG ds (ds.map fun _ => [1])) i = 1 := polyCoefG_ones i ds
    rw [polyCoefG, List.map_cons, polyFnsG, compProd, poly1Coef_one, ih, one_mul]

omit [LinearOrder α] [IsStrictOrderedRing α] A L in
theorem polyValG_ones : ∀ (ds : List (Dim α)) (xs : List α), xs.length = ds.length →
    polyValG (ds.map fun _ => [(1 : α)]) xs = 1
  | [], [], _ => rfl
  | d :: ds, x :: xs, h => by
    rw [List.map_cons, polyValG, polyValG_ones ds xs (Nat.succ.inj h), poly1, List.length_singleton, sum_range_one,
      pow_zero, mul_one, mul_one]
    rfl

omit [LinearOrder α] [IsStrictOrderedRing α] A L in
theorem polyDegSharp_ones : ∀ (ds : List (Dim α)) (ps : List Nat), (∀ p ∈ ps, 1 ≤ p) →
    PolyDegSharp ds (ds.map fun _ => [1]) ps
  | [], _, _ | _ :: _, [], _ => trivial
  | d :: ds, p :: ps, h => by
    refine ⟨fun j hj => ?_, polyDegSharp_ones ds ps (fun x hx => h x (List.mem_cons_of_mem _ hx))⟩
    obtain rfl : j = 0 := by simpa using hj
    exact Or.inr ⟨h p List.mem_cons_self, Nat.zero_le _, fun _ q _ hq => absurd hq (Nat.not_lt_zero q)⟩

theorem derivVanishes_const (a : α) (N : Nat) : ∀ (ds : List (Dim α)) (ps : List Nat), (∀ p ∈ ps, 1 ≤ p) →
    DerivVanishes ds ps N (fun _ => a)
  | [], _, _ | _ :: _, [], _ => trivial
  | d :: ds, p :: ps, h =>
    ⟨fun _ _ k _ _ _ => derivCoef_const d.knots d.order p (h p List.mem_cons_self) a k,
      derivVanishes_const a N ds ps (fun x hx => h x (List.mem_cons_of_mem _ hx))⟩

/-- degree 0: the constant coefficient vector (partition of unity in every dimension; `derivCoef_const`) -/
theorem reproduces_const (ds : List (Dim α)) (ps : List Nat) (a : α) (hst : StridesRowMajor ds)
    (hp : ps.length = ds.length) (hsorted : KnotsSorted ds) (hp1 : ∀ p ∈ ps, 1 ≤ p) :
    Reproduces ds ps (fun _ => a) (fun _ => a) := by
  refine ⟨fun xs hx hsup => ?_, fun N => derivVanishes_const a N ds ps hp1⟩
  have h := (reproduces_polyCoefG ds (ds.map fun _ => [1]) ps hst (List.length_map _) hp hsorted
    (polyDegSharp_ones ds ps hp1)).value xs hx hsup
  simp only [polyCoefG_ones, mul_one] at h
  rw [← sum_mul, h, polyValG_ones ds xs hx, one_mul]

/-! ### degree ≤ 1: an affine factor `(a, b)` is the polynomial `[a, b]` -/

/-- per dimension the coefficient factor `k ↦ a_d + b_d ξ_{d,k}` of the affine factor `q_d = (a_d, b_d)` -/
def affFns : List (Dim α) → List (α × α) → List (Nat → α)
  | d :: ds, q :: qs => (fun k => q.1 + q.2 * greville d.knots d.order k) :: affFns ds qs
  | _, _ => []

/-- coefficient vector of `Π_d (a_d + b_d x_d)`: `c_i = Π_d (a_d + b_d ξ_{d,i_d})` -/
def polyCoef (ds : List (Dim α)) (qs : List (α × α)) (i : Nat) : α := compProd ds (affFns ds qs) i

/-- `Π_d (a_d + b_d x_d)` -/
def polyVal : List (α × α) → List α → α
  | q :: qs, x :: xs => (q.1 + q.2 * x) * polyVal qs xs
  | [], [] => 1
  | _, _ => 0

/-- per dimension: the degree of the factor is below the penalty order — constant factor and `p_d ≥ 1`, or
`p_d ≥ 2` (then the order must be at least 1 and interior knots have multiplicity at most `order`) -/
def PolyDegOK : List (Dim α) → List (α × α) → List Nat → Prop
  | d :: ds, q :: qs, p :: ps =>
    ((q.2 = 0 ∧ 1 ≤ p) ∨ (2 ≤ p ∧ 1 ≤ d.order ∧
        ∀ m : Nat, m + 1 < d.naxes → d.knots ((m : Int) + 1) ≠ d.knots ((m : Int) + d.order + 1)))
      ∧ PolyDegOK ds qs ps
  | _, _, _ => True

/-- the affine factors as coefficient lists `[a_d, b_d]` -/
def pairLists (qs : List (α × α)) : List (List α) := qs.map fun q => [q.1, q.2]

theorem affFns_eq : ∀ (ds : List (Dim α)) (qs : List (α × α)), affFns ds qs = polyFnsG ds (pairLists qs)
  | [], _ | _ :: _, [] => rfl
  | d :: ds, q :: qs => by
    have e : (fun k => q.1 + q.2 * greville d.knots d.order k) = poly1Coef d.knots d.order [q.1, q.2] :=
      funext fun k => by
        rw [poly1Coef, List.length_cons, List.length_singleton, sum_range_succ, sum_range_one, dualCoef_zero,
          dualCoef_one, one_mul, mul_comm]
        rfl
    rw [affFns, e, affFns_eq ds qs]
    rfl

omit [LinearOrder α] [IsStrictOrderedRing α] A L in
theorem polyVal_eq : ∀ (qs : List (α × α)) (xs : List α), polyVal qs xs = polyValG (pairLists qs) xs
  | [], [] | [], _ :: _ | _ :: _, [] => rfl
  | q :: qs, x :: xs => by
    have e : q.1 + q.2 * x = poly1 [q.1, q.2] x := by
      rw [poly1, List.length_cons, List.length_singleton, sum_range_succ, sum_range_one, pow_zero, mul_one, pow_one]
      rfl
    rw [polyVal, e, polyVal_eq qs xs]
    rfl

omit [LinearOrder α] [IsStrictOrderedRing α] A L in
theorem polyDegSharp_of_aff : ∀ (ds : List (Dim α)) (qs : List (α × α)) (ps : List Nat),
    PolyDegOK ds qs ps → PolyDegSharp ds (pairLists qs) ps
  | [], _, _, _ | _ :: _, [], _, _ | _ :: _, _ :: _, [], _ => trivial
  | d :: ds, q :: qs, p :: ps, ⟨h1, h2⟩ => by
    refine ⟨fun j hj => ?_, polyDegSharp_of_aff ds qs ps h2⟩
    have hp : 1 ≤ p := h1.elim (fun h => h.2) (fun h => by omega)
    obtain rfl | rfl : j = 0 ∨ j = 1 := by simp at hj; omega
    · exact Or.inr ⟨hp, Nat.zero_le _, fun _ q _ hq => absurd hq (Nat.not_lt_zero q)⟩
    · rcases h1 with ⟨hb, _⟩ | ⟨hp2, ho, hkn⟩
      · exact Or.inl hb
      · refine Or.inr ⟨hp2, ho, fun m q _ hq hm => ?_⟩
        obtain rfl : q = 0 := by omega
        simpa using hkn m (by omega)

theorem reproduces_polyCoef (ds : List (Dim α)) (qs : List (α × α)) (ps : List Nat)
    (hst : StridesRowMajor ds) (hq : qs.length = ds.length) (hp : ps.length = ds.length) (hsorted : KnotsSorted ds)
    (hdeg : PolyDegOK ds qs ps) : Reproduces ds ps (polyCoef ds qs) (polyVal qs) := by
  have h := reproduces_polyCoefG ds (pairLists qs) ps hst ((List.length_map _).trans hq) hp hsorted
    (polyDegSharp_of_aff ds qs ps hdeg)
  rwa [show polyCoefG ds (pairLists qs) = polyCoef ds qs from funext fun i => by rw [polyCoefG, polyCoef, affFns_eq],
    show polyValG (pairLists qs) = polyVal qs from funext fun xs => (polyVal_eq qs xs).symm] at h

/-- the data of non-zero weight lie in the fully supported range and are values of `Π_d (a_d + b_d x_d)` -/
def PolyData (P : FitProblem α) (qs : List (α × α)) : Prop :=
  ∀ r < P.rows.size, rowW P r ≠ 0 →
    ∃ xs, rowPoint P r = some xs ∧ InSupport P.dims xs ∧ rowZ P r = polyVal qs xs

/-- `Σ_terms Π_d (a_d + b_d x_d)` -/
def polyValSum (terms : List (List (α × α))) (xs : List α) : α := (terms.map fun qs => polyVal qs xs).sum

/-- the coefficient vector of a sum of products -/
def polyCoefSum (ds : List (Dim α)) (terms : List (List (α × α))) (i : Nat) : α :=
  (terms.map fun qs => polyCoef ds qs i).sum

def PolyDataSum (P : FitProblem α) (terms : List (List (α × α))) : Prop :=
  ∀ r < P.rows.size, rowW P r ≠ 0 →
    ∃ xs, rowPoint P r = some xs ∧ InSupport P.dims xs ∧ rowZ P r = polyValSum terms xs


theorem reproduces_polyCoefSum (ds : List (Dim α)) (terms : List (List (α × α))) (ps : List Nat)
    (hst : StridesRowMajor ds) (hp : ps.length = ds.length) (hsorted : KnotsSorted ds)
    (hterms : ∀ qs ∈ terms, qs.length = ds.length ∧ PolyDegOK ds qs ps) :
    Reproduces ds ps (polyCoefSum ds terms) (polyValSum terms) :=
  Reproduces.list_sum (polyCoef ds) polyVal terms
    (fun qs h => reproduces_polyCoef ds qs ps hst (hterms qs h).1 hp hsorted (hterms qs h).2)

end

/-! ## a concrete two-dimensional problem over `Rat`

Orders 2 × 1 on the knots `0,1,…,5` and `0,1,2,3`: 3 × 2 coefficients, strides (2, 1).  Fully supported range
`[2,3) × [1,2)`.  Data: the polynomial `(1 + 2x)(3 − y)` (degree 1 in each variable) at four points of that range, one datum
of weight 0 off the polynomial.  Penalty order 2 in both dimensions, `λ = (3, 1/2)`. -/
section Example

def polyDims : List (Dim Rat) := [⟨2, 6, 3, 2, fun i => (i : Rat)⟩, ⟨1, 4, 2, 1, fun i => (i : Rat)⟩]
def polyQs : List (Rat × Rat) := [(1, 2), (3, -1)]
def polyP : FitProblem Rat :=
  { dims := polyDims, coords := [[2, 5/2, 11/4], [1, 3/2]],
    rows := #[⟨[0, 0], 10, 1⟩, ⟨[1, 1], 9, 2⟩, ⟨[2, 0], 13, 1⟩, ⟨[2, 1], 39/4, 3⟩, ⟨[1, 0], 100, 0⟩],
    smooth := [3, 1/2], porder := [2, 2] }

theorem polyP_strides : StridesRowMajor polyP.dims := ⟨rfl, rfl⟩

theorem polyP_sorted : KnotsSorted polyP.dims := by
  intro d hd i j _ hij _
  simp only [polyP, polyDims, List.mem_cons, List.not_mem_nil, or_false] at hd
  rcases hd with rfl | rfl <;> (show ((i : Int) : Rat) ≤ (j : Int); exact_mod_cast hij)

theorem polyP_degOK : PolyDegOK polyP.dims polyQs polyP.porder :=
  ⟨Or.inr ⟨le_refl _, by decide,
      fun m _ => Int.cast_injective.ne (show (m : Int) + 1 ≠ (m : Int) + (2 : Nat) + 1 by omega)⟩,
    Or.inr ⟨le_refl _, by decide,
      fun m _ => Int.cast_injective.ne (show (m : Int) + 1 ≠ (m : Int) + (1 : Nat) + 1 by omega)⟩, trivial⟩

theorem polyP_data : PolyData polyP polyQs := by
  intro r hr hw
  have hsup : ∀ x y : Rat, 2 ≤ x → x < 3 → 1 ≤ y → y < 2 → InSupport polyP.dims [x, y] :=
    fun x y h1 h2 h3 h4 => ⟨⟨h1, h2⟩, ⟨h3, h4⟩, trivial⟩
  have hr' : r < 5 := hr
  have : r = 0 ∨ r = 1 ∨ r = 2 ∨ r = 3 ∨ r = 4 := by omega
  rcases this with rfl | rfl | rfl | rfl | rfl
  · exact ⟨[2, 1], by decide +kernel, hsup _ _ (by decide +kernel) (by decide +kernel) (by decide +kernel)
      (by decide +kernel), by decide +kernel⟩
  · exact ⟨[5/2, 3/2], by decide +kernel, hsup _ _ (by decide +kernel) (by decide +kernel) (by decide +kernel)
      (by decide +kernel), by decide +kernel⟩
  · exact ⟨[11/4, 1], by decide +kernel, hsup _ _ (by decide +kernel) (by decide +kernel) (by decide +kernel)
      (by decide +kernel), by decide +kernel⟩
  · exact ⟨[11/4, 3/2], by decide +kernel, hsup _ _ (by decide +kernel) (by decide +kernel) (by decide +kernel)
      (by decide +kernel), by decide +kernel⟩
  · exact absurd (by decide +kernel : rowW polyP 4 = 0) hw

end Example

/-! ## a concrete two-dimensional problem over `Rat` with a quadratic

Orders 3 × 1 on the knots `0,…,8` and `0,…,3`: 5 × 2 coefficients, strides (2, 1), fully supported range `[3,5) × [1,2)`.
Data: the polynomial `x²(1 − y) + 3` (degree 2 in `x`, degree 1 in `y`) at four points, one datum of weight 0 off the
polynomial.  Penalty orders (3, 2), `λ = (2, 5)`. -/
section Example

def polyDims2 : List (Dim Rat) := [⟨3, 9, 5, 2, fun i => (i : Rat)⟩, ⟨1, 4, 2, 1, fun i => (i : Rat)⟩]
def polyTerms2 : List (List (List Rat)) := [[[0, 0, 1], [1, -1]], [[3], [1]]]
def polyP2 : FitProblem Rat :=
  { dims := polyDims2, coords := [[3, 7/2, 9/2], [1, 3/2]],
    rows := #[⟨[0, 0], 3, 1⟩, ⟨[1, 1], -25/8, 2⟩, ⟨[2, 0], 3, 1⟩, ⟨[2, 1], -57/8, 1⟩, ⟨[1, 0], 100, 0⟩],
    smooth := [2, 5], porder := [3, 2] }

theorem polyP2_strides : StridesRowMajor polyP2.dims := ⟨rfl, rfl⟩

theorem polyP2_sorted : KnotsSorted polyP2.dims := by
  intro d hd i j _ hij _
  simp only [polyP2, polyDims2, List.mem_cons, List.not_mem_nil, or_false] at hd
  rcases hd with rfl | rfl <;> (show ((i : Int) : Rat) ≤ (j : Int); exact_mod_cast hij)

theorem polyP2_knots (o : Nat) (m q : Nat) (hq : q < o) :
    (((m : Int) + q + 1 : Int) : Rat) ≠ (((m : Int) + o + 1 : Int) : Rat) :=
  Int.cast_injective.ne (by omega)

theorem polyP2_terms : ∀ ass ∈ polyTerms2, ass.length = polyP2.dims.length ∧ PolyDegOKG polyP2.dims ass polyP2.porder := by
  intro ass h
  simp only [polyTerms2, List.mem_cons, List.not_mem_nil, or_false] at h
  rcases h with rfl | rfl
  · exact ⟨rfl, ⟨by decide, by decide, fun m q h1 h2 _ => polyP2_knots 3 m q h2⟩,
      ⟨by decide, by decide, fun m q h1 h2 _ => polyP2_knots 1 m q h2⟩, trivial⟩
  · exact ⟨rfl, ⟨by decide, by decide, fun m q h1 h2 _ => polyP2_knots 3 m q h2⟩,
      ⟨by decide, by decide, fun m q h1 h2 _ => polyP2_knots 1 m q h2⟩, trivial⟩

theorem polyP2_val (x y : Rat) : polyValGSum polyTerms2 [x, y] = x ^ 2 * (1 - y) + 3 := by
  simp only [polyValGSum, polyTerms2, polyValG, poly1, Finset.sum_range_succ, Finset.sum_range_zero,
    List.map_cons, List.map_nil, List.sum_cons, List.sum_nil, List.length_cons, List.length_nil,
    List.getD_cons_zero, List.getD_cons_succ]
  ring

theorem polyP2_data : PolyDataG polyP2 polyTerms2 := by
  intro r hr hw
  have hsup : ∀ x y : Rat, 3 ≤ x → x < 5 → 1 ≤ y → y < 2 → InSupport polyP2.dims [x, y] :=
    fun x y h1 h2 h3 h4 => ⟨⟨h1, h2⟩, ⟨h3, h4⟩, trivial⟩
  have hr' : r < 5 := hr
  have : r = 0 ∨ r = 1 ∨ r = 2 ∨ r = 3 ∨ r = 4 := by omega
  rcases this with rfl | rfl | rfl | rfl | rfl
  · exact ⟨[3, 1], by decide +kernel, hsup _ _ (by decide +kernel) (by decide +kernel) (by decide +kernel)
      (by decide +kernel), by decide +kernel⟩
  · exact ⟨[7/2, 3/2], by decide +kernel, hsup _ _ (by decide +kernel) (by decide +kernel) (by decide +kernel)
      (by decide +kernel), by decide +kernel⟩
  · exact ⟨[9/2, 1], by decide +kernel, hsup _ _ (by decide +kernel) (by decide +kernel) (by decide +kernel)
      (by decide +kernel), by decide +kernel⟩
  · exact ⟨[9/2, 3/2], by decide +kernel, hsup _ _ (by decide +kernel) (by decide +kernel) (by decide +kernel)
      (by decide +kernel), by decide +kernel⟩
  · exact absurd (by decide +kernel : rowW polyP2 4 = 0) hw

end Example

end PsV
