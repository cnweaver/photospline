import PsV.Proofs.Alloc
/-!
# C19 - the peak against `estimateMemory`

Core Lean only.  An arena whose per-block overhead is bounded by a `PadBound` stays under `estimateMemory` as long as the
overheads fit into what the estimate leaves over (`cost_peak_le_estimate`), with alignment and block headers as
instances.  At the end `cardsParams`, the family of files the witnesses of C19 are taken from.
-/
namespace PsV.C19

/-- How much more than requested an arena with cost function `c` may use for a block: `e16` for the 16-byte pointer
    pair of an auxiliary entry, `e1` for an arbitrary block, `e4` / `e8` for a block whose size is a multiple of 4 / 8. -/
structure PadBound (c : Nat → Nat) (e16 e1 e4 e8 : Nat) : Prop where
  p16 : c 16 ≤ 16 + e16
  any : ∀ n, c n ≤ n + e1
  m4 : ∀ k, c (k * 4) ≤ k * 4 + e4
  m8 : ∀ k, c (k * 8) ≤ k * 8 + e8

theorem padBound_id : PadBound (fun n => n) 0 0 0 0 :=
  ⟨Nat.le_refl _, fun _ => Nat.le_refl _, fun _ => Nat.le_refl _, fun _ => Nat.le_refl _⟩

theorem PadBound.mono {c c' : Nat → Nat} {e16 e1 e4 e8 : Nat} (hb : PadBound c' e16 e1 e4 e8) (h : ∀ n, c n ≤ c' n) :
    PadBound c e16 e1 e4 e8 :=
  ⟨Nat.le_trans (h _) hb.p16, fun n => Nat.le_trans (h _) (hb.any n), fun k => Nat.le_trans (h _) (hb.m4 k),
   fun k => Nat.le_trans (h _) (hb.m8 k)⟩

section
variable {c : Nat → Nat} {e16 e1 e4 e8 : Nat}

theorem PadBound.header (hb : PadBound c e16 e1 e4 e8) (H : Nat) :
    PadBound (fun n => c n + H) (e16 + H) (e1 + H) (e4 + H) (e8 + H) :=
  have h {a b e : Nat} (h : a ≤ b + e) : a + H ≤ b + (e + H) := Nat.add_assoc b e H ▸ Nat.add_le_add_right h H
  ⟨h hb.p16, fun n => h (hb.any n), fun k => h (hb.m4 k), fun k => h (hb.m8 k)⟩

/-- Per card the arena holds at most `(16 + e16) + (keylen + e1) + (storedlen + e1)` bytes; key and stored value come
    from one card (`≤ 82`) and the overheads are budgeted at `40`: `16 + 82 + 40 = 138`. -/
theorem auxBytesC_le (hb : PadBound c e16 e1 e4 e8) (he : e16 + 2 * e1 ≤ 40)
    (as : List AuxEntry) (h : ∀ a ∈ as, a.keylen + a.vallen ≤ 82) (hs : ∀ a ∈ as, a.storedlen ≤ a.vallen) :
    auxBytesC c as ≤ 138 * as.length :=
  sum_map_le as _ 138 (fun a ha => by
    have := h a ha; have := hs a ha; have := hb.p16; have := hb.any a.keylen; have := hb.any a.storedlen; omega)

theorem knotBytesC_le (hb : PadBound c e16 e1 e4 e8) (ds : List Dim) :
    knotBytesC c ds ≤ knotBytes ds + e8 * ds.length := by
  induction ds with
  | nil => exact Nat.le_refl _
  | cons d ds ih =>
    show _ ≤ (d.nknots + 2 * d.order) * 8 + knotBytes ds + e8 * (ds.length + 1)
    rw [Nat.mul_succ e8, Nat.add_comm _ e8, Nat.add_add_add_comm]
    exact Nat.add_le_add (hb.m8 _) ih

theorem fixedBytesC_le (hb : PadBound c e16 e1 e4 e8) (nd : Nat) :
    fixedBytesC c nd ≤ 68 * nd + e4 + 7 * e8 := by
  have := hb.m4 nd; have := hb.m8 nd; have := hb.m8 (2 * nd)
  unfold fixedBytesC; omega

/-- The footprint against the terms of `estimateMemory`: `146` per card is the `138` of `auxBytesC_le` plus the 8-byte
    slot in the array of entries, `68` per dimension the eight per-dimension arrays; what is left over is the padding
    of the array of entries, the eight per-dimension arrays and the coefficients (`8·e8 + 2·e4`) and of one knot vector
    per dimension. -/
theorem footprintC_le (hb : PadBound c e16 e1 e4 e8) (he : e16 + 2 * e1 ≤ 40)
    (p : Params) (h : ∀ a ∈ p.aux, a.keylen + a.vallen ≤ 82) (hs : ∀ a ∈ p.aux, a.storedlen ≤ a.vallen) (ds : List Dim) :
    footprintC c p ds ≤
      knotBytes ds + 68 * ds.length + 4 * prodNaxes ds + 146 * p.aux.length + (8 * e8 + e8 * ds.length + 2 * e4) :=
  Nat.le_trans
    (Nat.add_le_add (Nat.add_le_add (Nat.add_le_add (Nat.add_le_add (hb.m8 _) (auxBytesC_le hb he p.aux h hs))
      (fixedBytesC_le hb _)) (hb.m4 _)) (knotBytesC_le hb ds))
    (Nat.le_of_eq (by omega))

end

/-- **Arena version of the main inequality.**  If the arena uses at most `e16`/`e1`/`e4`/`e8` bytes more than requested
    per block (see `PadBound`) and these fit into what `estimateMemory` leaves over - 40 of the 146 bytes per card, and
    1025 bytes in total for the ten fixed blocks (array of entries, eight per-dimension arrays, coefficients) and one
    knot vector per dimension - the arena never uses more than the estimate. -/
theorem cost_peak_le_estimate {c : Nat → Nat} {e16 e1 e4 e8 : Nat} (hb : PadBound c e16 e1 e4 e8) (p : Params)
    (hn : 1 ≤ p.n) (card : ∀ a ∈ p.aux, a.keylen + a.vallen ≤ 82) (stored_le : ∀ a ∈ p.aux, a.storedlen ≤ a.vallen)
    (hcons : ∀ d, p.dims[p.cdim]? = some d → d.naxes + d.order + 1 = d.nknots)
    (h1 : e16 + 2 * e1 ≤ 40) (h3 : 8 * e8 + e8 * p.dims.length + 2 * e4 ≤ 1025) :
    balanced 0 (costEvents c (readEvents p ++ convolveEvents p)) = true ∧
    p.objsize + peak (costEvents c (readEvents p ++ convolveEvents p)) ≤ estimate p := by
  -- each of the three levels that bound the peak fits under what the estimate allows for the convolved shape:
  -- the transient while the cards are read,
  have t : c (p.aux.length * 8) + auxBytesC c p.aux + (82 + e1) ≤ 146 * p.aux.length + 1025 := by
    have := auxBytesC_le hb h1 p.aux card stored_le
    have := hb.m8 p.aux.length
    omega
  -- the loaded table (no larger than the convolved one),
  have hd := dimsLe_convDims p hn hcons
  have f1 := Nat.le_trans (footprintC_le hb h1 p card stored_le p.dims)
    (Nat.add_le_add (Nat.add_le_add_right (Nat.add_le_add (Nat.add_le_add_right (knotBytes_mono hd) _)
      (Nat.mul_le_mul_left 4 (prodNaxes_mono hd))) _) h3)
  -- the convolved table
  have f2 := footprintC_le hb h1 p card stored_le (convDims p)
  rw [convDims_length] at f2
  have key := Nat.max_le.mpr ⟨Nat.le_trans t (Nat.add_le_add_right (Nat.le_add_left _ _) _),
    Nat.max_le.mpr ⟨f1, Nat.le_trans f2 (Nat.add_le_add_left h3 _)⟩⟩
  have r := run_read_convolve c p (82 + e1) fun a ha =>
    Nat.le_trans (hb.any _) (Nat.add_le_add_right (Nat.le_trans (Nat.le_add_left _ _) (card a ha)) _)
  have hest := estimateWith_ge p.aux.length p
  rw [estDims_eq_convDims p hn] at hest
  have hp := r.peak
  simp only [Nat.add_assoc] at hest key hp
  exact ⟨r.bal, Nat.le_trans (Nat.add_le_add_left (Nat.le_trans hp key) _) hest⟩

theorem alignUp_le (A n : Nat) : alignUp A n ≤ n + (A - 1) := Nat.div_mul_le_self _ _

/-- `alignUp A n` is the least multiple of `A` from `n` on -/
theorem alignUp_le_of_dvd {A n m : Nat} (hA : 0 < A) (hm : A ∣ m) (h : n ≤ m) : alignUp A n ≤ m := by
  obtain ⟨j, rfl⟩ := hm
  rw [Nat.mul_comm A j] at h ⊢
  exact Nat.mul_le_mul_right A (Nat.le_of_lt_succ ((Nat.div_lt_iff_lt_mul hA).mpr (by rw [Nat.succ_mul]; omega)))

theorem alignUp_le_add_sub {A d n : Nat} (hA0 : 0 < A) (hA : d ∣ A) (hn : d ∣ n) : alignUp A n ≤ n + (A - d) := by
  obtain ⟨a, rfl⟩ := hA
  obtain ⟨j, rfl⟩ := hn
  have hd : 0 < d := Nat.pos_of_mul_pos_right hA0
  have ha : 0 < a := Nat.pos_of_mul_pos_left hA0
  -- `(d·(j+a) − 1) / (d·a) = (j+a−1) / a`
  have e : d * j + (d * a - 1) = d * (j + a) - (0 + 1) := by
    rw [Nat.mul_add, Nat.add_sub_assoc (Nat.mul_pos hd ha)]
  rw [alignUp, e, ← Nat.div_div_eq_div_mul, Nat.mul_sub_div 0 d (j + a) (Nat.mul_pos hd (Nat.add_pos_right j ha)),
    Nat.zero_div, Nat.mul_comm d a, ← Nat.mul_assoc]
  calc (j + a - (0 + 1)) / a * a * d ≤ (j + a - 1) * d := Nat.mul_le_mul_right d (Nat.div_mul_le_self _ _)
    _ = d * j + (a * d - d) := by
      rw [Nat.add_sub_assoc ha, Nat.add_mul, Nat.mul_comm j d, Nat.sub_mul, Nat.one_mul]

/-- alignment to `A`: a block whose size is a multiple of a divisor `d` of `A` loses at most `A - d` -/
theorem padBound_alignUp {A d16 d4 d8 : Nat} (hA : 0 < A) (h16 : d16 ∣ A) (h16' : d16 ∣ 16) (h4 : d4 ∣ A) (h4' : d4 ∣ 4)
    (h8 : d8 ∣ A) (h8' : d8 ∣ 8) : PadBound (alignUp A) (A - d16) (A - 1) (A - d4) (A - d8) :=
  ⟨alignUp_le_add_sub hA h16 h16', alignUp_le A,
   fun k => alignUp_le_add_sub hA h4 (Nat.dvd_trans h4' (Nat.dvd_mul_left 4 k)),
   fun k => alignUp_le_add_sub hA h8 (Nat.dvd_trans h8' (Nat.dvd_mul_left 8 k))⟩

theorem dvd16_cases (A : Nat) (h : A ∣ 16) : A ∣ 8 ∨ A = 16 :=
  (by decide : ∀ A ≤ 16, A ∣ 16 → A ∣ 8 ∨ A = 16) A (Nat.le_of_dvd (by decide) h) h

/-- blocks aligned to 1, 2, 4 or 8 bytes: only the `uint32_t`/`float` arrays and the strings are padded.  A multiple of 8
    is a multiple of `A`, so alignment to `A` never uses more than alignment to 8. -/
theorem padBound_align8 (A : Nat) (h : A ∣ 8) : PadBound (alignUp A) 0 7 4 0 :=
  PadBound.mono (c' := alignUp 8)
    (padBound_alignUp (A := 8) (d16 := 8) (d4 := 4) (d8 := 8) (by decide) ⟨1, rfl⟩ ⟨2, rfl⟩ ⟨2, rfl⟩ ⟨1, rfl⟩ ⟨1, rfl⟩ ⟨1, rfl⟩)
    fun n => alignUp_le_of_dvd (Nat.pos_of_dvd_of_pos h (by decide)) (Nat.dvd_trans h (Nat.dvd_mul_left 8 _))
      (by simp only [alignUp]; omega)

theorem padBound_align16 : PadBound (alignUp 16) 0 15 12 8 :=
  padBound_alignUp (A := 16) (d16 := 16) (d4 := 4) (d8 := 8) (by decide) ⟨1, rfl⟩ ⟨1, rfl⟩ ⟨4, rfl⟩ ⟨1, rfl⟩ ⟨2, rfl⟩ ⟨1, rfl⟩

theorem padBound_arena8 (A H : Nat) (h : A ∣ 8) : PadBound (fun n => alignUp A n + H) H (7 + H) (4 + H) H := by
  have := (padBound_align8 A h).header H
  rwa [Nat.zero_add] at this

/-- a 1-dimensional table of order 0 with two knots and `k` auxiliary cards of full width, no convolution -/
def cardsParams (k : Nat) : Params :=
  { objsize := 96, dims := [⟨0, 2, 1⟩], aux := List.replicate k ⟨9, 71, 69⟩, nauxKnotsHdu := 4, n := 1, cdim := 0 }

theorem cardsParams_card (k : Nat) : ∀ a ∈ (cardsParams k).aux, a.keylen + a.vallen ≤ 82 :=
  fun _ ha => List.eq_of_mem_replicate ha ▸ by decide

theorem cardsParams_stored (k : Nat) : ∀ a ∈ (cardsParams k).aux, a.storedlen ≤ a.vallen :=
  fun _ ha => List.eq_of_mem_replicate ha ▸ by decide

/-- what an arena with cost function `c` holds for the table `cardsParams k` at the end is a lower bound of its peak -/
theorem cardsParams_le_peak (c : Nat → Nat) (k : Nat) :
    c (k * 8) + k * (c 16 + (c 9 + c 69)) + fixedBytesC c 1 + c 4 + c 16
      ≤ peak (costEvents c (readEvents (cardsParams k) ++ convolveEvents (cardsParams k))) := by
  have h := footprintC_le_peak c (cardsParams k)
  rwa [footprintC, cardsParams, auxBytesC_replicate, List.length_replicate] at h

end PsV.C19
