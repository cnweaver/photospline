import PsV.Model.Nnls
import PsV.Proofs.QuadMin
import PsV.Proofs.ListBasics
import Mathlib.Data.Matrix.Mul
import Mathlib.LinearAlgebra.Matrix.Symmetric
import Mathlib.Algebra.Order.BigOperators.Group.Finset
import Mathlib.Algebra.Order.Field.Basic
import Mathlib.Algebra.Order.Ring.Rat
import Mathlib.Data.Rat.Defs
import Mathlib.Tactic.Linarith
import Mathlib.Tactic.Ring
import Mathlib.Algebra.BigOperators.Fin
/-!
# C11 (NNLS): the executable model in Mathlib's terms

The bridge between the `Nat`-indexed matrices, sums and checker of `PsV.Model.Nnls` and `Matrix (Fin n) (Fin n)`, where
the quadratic objective and the KKT points live (`QuadMin`); what `kktCheck` decides; the arrays `tab`; and what it means
for the environment of BLOCK3 to be exact (`ExactEnv`, `ExactResid`).  The dual and the residual of the executable
`exactEnv` are exact for every matrix (`exactEnv_dual`, `exactEnv_resid`); its solve is exact on a positive definite one
(`exactEnv_exact` in `NnlsSolve`).
-/
namespace PsV
open Matrix

namespace Nnls

/-- the model's matrix and vectors as Mathlib's: `NormalEq.toM`/`toV` at `ℚ` word for word, which is how `spd_toMat_iff_window`
(`NnlsSolve`) takes `NormalEq`'s bridges -/
def toMat (n : ℕ) (A : Mat) : Matrix (Fin n) (Fin n) ℚ := fun i j => A i j
def toVec (n : ℕ) (v : Vec) : Fin n → ℚ := fun i => v i

theorem sumTo_range (n : ℕ) (f : ℕ → ℚ) : sumTo n f = ∑ i ∈ Finset.range n, f i := by
  induction n with
  | zero => rfl
  | succ k ih =>
    rw [Finset.sum_range_succ, ← ih]
    unfold sumTo
    rw [List.range_succ, List.foldl_append]
    rfl

theorem sumTo_eq (n : ℕ) (f : ℕ → ℚ) : sumTo n f = ∑ i : Fin n, f i := by
  rw [sumTo_range, Finset.sum_range]

theorem sumTo_congr (n : ℕ) (f g : ℕ → ℚ) (h : ∀ i, i < n → f i = g i) : sumTo n f = sumTo n g := by
  rw [sumTo_range, sumTo_range]
  exact Finset.sum_congr rfl fun i hi => h i (Finset.mem_range.mp hi)

theorem mulVec_eq (n : ℕ) (A : Mat) (x : Vec) (i : Fin n) :
    Nnls.mulVec n A x i = ((toMat n A) *ᵥ (toVec n x)) i := sumTo_eq n _

theorem grad_eq (n : ℕ) (A : Mat) (b x : Vec) (i : Fin n) :
    grad n A b x i = gradM (toMat n A) (toVec n b) (toVec n x) i :=
  congrArg (· - b i) (mulVec_eq n A x i)

theorem grad_congr (n : ℕ) (A : Mat) (b x x' : Vec) (h : ∀ j, j < n → x j = x' j) (i : ℕ) :
    grad n A b x i = grad n A b x' i :=
  congrArg (· - b i) (sumTo_congr n _ _ fun j hj => by rw [h j hj])

theorem grad_zero (n : ℕ) (A : Mat) (b : Vec) (i : ℕ) : grad n A b (fun _ => 0) i = -(b i) := by
  unfold grad Nnls.mulVec
  rw [sumTo_range, Finset.sum_eq_zero fun j _ => mul_zero _, zero_sub]

/-- `x` on `p`, zero elsewhere -/
def onF (p : ℕ → Bool) (x : ℕ → ℚ) : ℕ → ℚ := fun j => if p j then x j else 0

/-- a product with a point that vanishes off `p`, as `exactEnv` computes it (in `dual` and in `resid`) -/
theorem mulVec_restrict (n : ℕ) (A : Mat) (x : Vec) (p : ℕ → Bool) (i : ℕ) :
    (sumTo n fun j => if p j then A i j * x j else 0) = Nnls.mulVec n A (onF p x) i :=
  sumTo_congr n _ _ fun j _ => by rw [onF, mul_ite, mul_zero]

theorem grad_restrict (n : ℕ) (A : Mat) (b x : Vec) (p : ℕ → Bool) (i : ℕ) :
    (sumTo n fun j => if p j then A i j * x j else 0) - b i = grad n A b (onF p x) i :=
  congrArg (· - b i) (mulVec_restrict n A x p i)

theorem gapBound_eq (n : ℕ) (tol x z : Vec) :
    gapBound n tol x z = ∑ i : Fin n, toVec n tol i * (toVec n x i + toVec n z i) :=
  sumTo_eq n _

theorem halfQuad_eq (n : ℕ) (A : Mat) (d : Vec) :
    halfQuad n A d = (1/2) * (toVec n d ⬝ᵥ (toMat n A) *ᵥ (toVec n d)) := by
  unfold halfQuad
  rw [sumTo_eq, div_eq_inv_mul, one_div]
  simp only [mulVec_eq]
  rfl

theorem kktCheck_iff {n : ℕ} {A : Mat} {b x tol : Vec} : kktCheck n A b x tol = true ↔
    ∀ i, i < n → 0 ≤ x i ∧ -(tol i) ≤ grad n A b x i ∧ (x i ≤ 0 ∨ grad n A b x i ≤ tol i) := by
  simp only [kktCheck, List.all_eq_true, List.mem_range, Bool.and_eq_true, Bool.or_eq_true, decide_eq_true_eq,
    and_assoc]

theorem kktCheck_iff_tolKKT {n : ℕ} {A : Mat} {b x tol : Vec} :
    kktCheck n A b x tol = true ↔ TolKKT (toMat n A) (toVec n b) (toVec n x) (toVec n tol) := by
  rw [kktCheck_iff]
  constructor
  · intro h
    have key := fun i : Fin n => h i i.2
    exact ⟨fun i => (key i).1, fun i => grad_eq n A b x i ▸ (key i).2.1,
      fun i hi => grad_eq n A b x i ▸ (key i).2.2.resolve_left (not_le.mpr hi)⟩
  · rintro ⟨h0, hlo, hhi⟩ i hi
    have e := grad_eq n A b x ⟨i, hi⟩
    exact ⟨h0 ⟨i, hi⟩, e ▸ hlo ⟨i, hi⟩,
      (h0 ⟨i, hi⟩).eq_or_lt.elim (fun z => Or.inl z.ge) fun hpos => Or.inr (e ▸ hhi ⟨i, hi⟩ hpos)⟩

theorem kktCheck_zero_iff {n : ℕ} {A : Mat} {b x : Vec} : kktCheck n A b x (fun _ => 0) = true ↔
    ∀ i, i < n → 0 ≤ x i ∧ 0 ≤ grad n A b x i ∧ (0 < x i → grad n A b x i = 0) := by
  rw [kktCheck_iff]
  refine forall₂_congr fun i _ => and_congr_right fun h0 => ?_
  rw [neg_zero]
  exact and_congr_right fun hg => ⟨fun h hpos => le_antisymm (h.resolve_left (not_le.mpr hpos)) hg,
    fun h => h0.eq_or_lt.elim (fun e => Or.inl e.ge) fun hpos => Or.inr (h hpos).le⟩

theorem kktCheck_congr {n : ℕ} {A : Mat} {b x x' tol : Vec} (h : ∀ i, i < n → x i = x' i)
    (hk : kktCheck n A b x tol = true) : kktCheck n A b x' tol = true := by
  rw [kktCheck_iff] at hk ⊢
  intro i hi
  rw [← h i hi, ← grad_congr n A b x x' h i]
  exact hk i hi

theorem tryMask_eq_some {n : ℕ} {A : Mat} {b : Vec} {mask : ℕ} {x : Array ℚ} : tryMask n A b mask = some x ↔
    solveOn n A b (maskSet n mask) = some x ∧ x.all (fun v => decide (0 ≤ v)) = true ∧
      kktCheck n A b (at0 x) (fun _ => 0) = true := by
  unfold tryMask
  cases solveOn n A b (maskSet n mask) with
  | none => exact ⟨fun h => (nomatch h), fun h => (nomatch h.1)⟩
  | some w =>
    show (if _ then some w else none) = some x ↔ _
    rw [Option.ite_none_right_eq_some, Bool.and_eq_true, Option.some.injEq]
    exact ⟨fun ⟨h, e⟩ => e ▸ ⟨rfl, h⟩, fun ⟨e, h⟩ => e ▸ ⟨e ▸ h, rfl⟩⟩

theorem getD_tab {β : Type} (n : ℕ) (f : ℕ → β) (i : ℕ) (d : β) :
    (tab n f).getD i d = if i < n then f i else d := by
  rw [tab, Array.getD_toArray]
  split
  · exact getD_map_range_of_lt f ‹_› d
  · exact getD_of_le (by rw [List.length_map, List.length_range]; exact Nat.le_of_not_lt ‹_›)

theorem at0_tab {n : ℕ} (f : ℕ → ℚ) {i : ℕ} (h : i < n) : at0 (tab n f) i = f i :=
  (getD_tab n f i 0).trans (if_pos h)

theorem atF_tab {n : ℕ} (f : ℕ → Bool) {i : ℕ} (h : i < n) : atF (tab n f) i = f i :=
  (getD_tab n f i false).trans (if_pos h)

theorem atF_empty (i : ℕ) : atF #[] i = false := rfl

theorem at0_tab_nonneg {n : ℕ} {f : ℕ → ℚ} (h : ∀ i, i < n → 0 ≤ f i) (i : ℕ) : 0 ≤ at0 (tab n f) i := by
  rw [at0, getD_tab]
  split
  · exact h i ‹_›
  · exact le_rfl

theorem countB_eq_zero_iff {n : ℕ} {p : ℕ → Bool} : countB n p = 0 ↔ ∀ i, i < n → p i = false := by
  unfold countB
  rw [List.length_eq_zero_iff, List.filter_eq_nil_iff]
  exact ⟨fun h i hi => Bool.eq_false_iff.mpr (h i (List.mem_range.mpr hi)),
    fun h i hi => Bool.eq_false_iff.mp (h i (List.mem_range.mp hi))⟩

theorem countB_exists {n : ℕ} {p : ℕ → Bool} (h : countB n p ≠ 0) : ∃ i, i < n ∧ p i = true := by
  by_contra hne
  exact h (countB_eq_zero_iff.mpr fun i hi => Bool.eq_false_iff.mpr fun hp => hne ⟨i, hi, hp⟩)

theorem countB_le (n : ℕ) (p : ℕ → Bool) : countB n p ≤ n :=
  (List.length_filter_le _ _).trans (List.length_range).le

theorem countB_drop {n : ℕ} {p h q : ℕ → Bool} (hq : ∀ i, i < n → q i = (p i && !h i))
    (hw : ∃ i, i < n ∧ p i = true ∧ h i = true) : countB n q < countB n p := by
  obtain ⟨i, hi, hp, hh⟩ := hw
  have e : (List.range n).filter q = ((List.range n).filter p).filter fun i => !h i := by
    rw [List.filter_filter]
    exact List.filter_congr fun j hj => by rw [hq j (List.mem_range.mp hj), Bool.and_comm]
  unfold countB
  rw [e]
  exact List.length_filter_lt_length_iff_exists.mpr
    ⟨i, List.mem_filter.mpr ⟨List.mem_range.mpr hi, hp⟩, by rw [hh]; exact Bool.false_ne_true⟩

/-- What "exact solves" means for the environment of BLOCK3 on the system `(A, b)`.  The residual `resid` is left out
on purpose: the convergence exit does not depend on it; termination does, and asks for `ExactResid` besides. -/
structure ExactEnv (E : B3Env) (A : Mat) (b : Vec) : Prop where
  tol_nonneg : 0 ≤ E.tol
  /-- the passive-set solve returns a vector whose gradient vanishes on `F` (zero elsewhere) -/
  solve_exact : ∀ (inF : ℕ → Bool) (i : ℕ), i < E.n → inF i = true →
      grad E.n A b (fun j => if inF j then at0 (E.solve inF) j else 0) i = 0
  /-- the dual update is the gradient of the point that is `x` on `F_` and zero elsewhere -/
  dual_exact : ∀ (inF : ℕ → Bool) (x : ℕ → ℚ) (i : ℕ), i < E.n →
      E.dual inF x i = grad E.n A b (fun j => if inF j then x j else 0) i

/-- `xc` on `F`, zero elsewhere, as a vector of `Fin n → ℚ` -/
def restr (n : ℕ) (inF : ℕ → Bool) (xc : ℕ → ℚ) : Fin n → ℚ := fun i => if inF i then xc i else 0

theorem restr_eq_toVec (n : ℕ) (inF : ℕ → Bool) (xc : ℕ → ℚ) : restr n inF xc = toVec n (onF inF xc) := rfl

/-- the clause `solve_exact` of `ExactEnv`, which is all that termination and the decrease of the objective use -/
def ExactSolve (E : B3Env) (A : Mat) (b : Vec) : Prop :=
  ∀ (inF : ℕ → Bool) (i : ℕ), i < E.n → inF i = true → grad E.n A b (onF inF (at0 (E.solve inF))) i = 0

theorem ExactSolve.gradM_restr {E : B3Env} {A : Mat} {b : Vec} (h : ExactSolve E A b) (inF : ℕ → Bool) (i : Fin E.n)
    (hi : inF i = true) : gradM (toMat E.n A) (toVec E.n b) (restr E.n inF (at0 (E.solve inF))) i = 0 := by
  rw [restr_eq_toVec, ← grad_eq]
  exact h inF i i.2 hi

/-- `calc_residual` is exact: `xᵀ(A x − 2b)` of the point restricted to `F` -/
def ExactResid (E : B3Env) (A : Mat) (b : Vec) : Prop :=
  ∀ (inF : ℕ → Bool) (xc : ℕ → ℚ), E.resid inF xc = 2 * qf (toMat E.n A) (toVec E.n b) (restr E.n inF xc)

theorem exactEnv_dual (n : ℕ) (A : Mat) (b : Vec) (tol : ℚ) (mi fu : ℕ) (inF : ℕ → Bool) (x : ℕ → ℚ) (i : ℕ) :
    (exactEnv n A b tol mi fu).dual inF x i = grad n A b (onF inF x) i :=
  grad_restrict n A b x inF i

theorem exactEnv_resid (n : ℕ) (A : Mat) (b : Vec) (tol : ℚ) (mi fu : ℕ) :
    ExactResid (exactEnv n A b tol mi fu) A b := by
  intro inF xc
  have h : ∀ i : Fin n,
      (if inF i then xc i * ((sumTo n fun j => if inF j then A i j * xc j else 0) - 2 * b i) else 0)
        = restr n inF xc i * ((toMat n A *ᵥ restr n inF xc) i - 2 * toVec n b i) := fun i => by
    rw [mulVec_restrict, mulVec_eq, restr, ite_mul, zero_mul]
    rfl
  show sumTo n _ = 2 * qf (toMat n A) (toVec n b) (restr n inF xc)
  rw [sumTo_eq, Finset.sum_congr rfl fun i _ => h i]
  unfold qf dotProduct
  rw [mul_sub, Finset.mul_sum, Finset.mul_sum, Finset.mul_sum, ← Finset.sum_sub_distrib]
  exact Finset.sum_congr rfl fun i _ => by ring

end Nnls
end PsV
