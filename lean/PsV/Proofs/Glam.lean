import PsV.Proofs.GridTable
/-!
# C17: one call of `slicemultiply` is a mode product

The rotated mixed-radix flattening of `slicemultiply` is undone by its un-flattening (`unflatten_flatten'`), so a result
entry sits at the source index with entry `dim` replaced; hence shape (`sliceMultiply_shape`, for every arithmetic) and
value `Σ_j b[j, idx_dim] · a(idx with entry dim := j)` (`sliceMultiply_spec`) of the result.  The basis matrix of
`bsplinebasis` is Cox–de Boor with the right-continuous indicator (`bsplineG_eq_Bind`, `basis_val`).
-/
namespace PsV
open PsV.Permute
set_option linter.unusedSectionVars false

/-- The un-flattening loop `for (k = dim+1; k < dim+ndim; k++) … k % ndim` visits `0 … n-1` rotated to start after
`dim` and stops before `dim`; the flattening loop runs the other way. -/
theorem loopDims_rotate : ∀ {n dim : Nat}, dim < n →
    (loopDims n dim).reverse ++ [dim] = (List.range n).rotate (dim + 1)
  | n + 1, dim, hd => by
    unfold loopDims
    rw [Nat.add_sub_cancel]
    have hl : ((List.range n).map fun m => (dim + (n + 1) - 1 - m) % (n + 1)).reverse.length = n := by
      rw [List.length_reverse, List.length_map, List.length_range]
    apply List.ext_getElem
    · rw [List.length_append, hl, List.length_rotate, List.length_range, List.length_singleton]
    · intro i h1 h2
      rw [List.getElem_rotate, List.getElem_range, List.length_range]
      by_cases hi : i < n
      · rw [List.getElem_append_left (hl.symm ▸ hi), List.getElem_reverse, List.getElem_map,
          List.getElem_range, List.length_map, List.length_range]
        congr 1
        omega
      · have hi' : i = n := by
          rw [List.length_rotate, List.length_range] at h2; omega
        subst hi'
        rw [List.getElem_append_right (Nat.le_of_eq hl), List.getElem_singleton,
          ← Nat.add_assoc, Nat.add_comm i dim, Nat.add_assoc, Nat.add_mod_right, Nat.mod_eq_of_lt hd]

theorem loopDims_perm {n dim : Nat} (hd : dim < n) : (loopDims n dim ++ [dim]).Perm (List.range n) := by
  have h := (List.range n).rotate_perm (dim + 1)
  rw [← loopDims_rotate hd] at h
  exact ((List.reverse_perm _).symm.append_right _).trans h

theorem mem_loopDims {n dim k : Nat} (hd : dim < n) : k ∈ loopDims n dim ↔ k < n ∧ k ≠ dim := by
  have hp := loopDims_perm hd
  have hn : (loopDims n dim ++ [dim]).Nodup := hp.nodup_iff.mpr List.nodup_range
  have hm := hp.mem_iff (a := k)
  rw [List.mem_append, List.mem_singleton, List.mem_range] at hm
  rw [List.nodup_append] at hn
  exact ⟨fun h => ⟨hm.mp (Or.inl h), fun hk => hn.2.2 k h dim (List.mem_singleton_self _) hk⟩,
    fun h => (hm.mpr h.1).resolve_right h.2⟩

/-- product of the radices `r k`, `k ∈ ks` -/
def mrProd (r : Nat → Nat) : List Nat → Nat
  | [] => 1
  | k :: ks => r k * mrProd r ks

/-- the number with digits `d k` in radices `r k`, `k` running through `ks`, most significant first -/
def mrNum (r d : Nat → Nat) : List Nat → Nat
  | [] => 0
  | k :: ks => d k * mrProd r ks + mrNum r d ks

theorem mrProd_eq_prod (r : Nat → Nat) (ks : List Nat) : mrProd r ks = (ks.map r).prod := by
  induction ks with
  | nil => rfl
  | cons k ks ih => rw [mrProd, ih, List.map_cons, List.prod_cons]

theorem mrProd_append (r : Nat → Nat) (l₁ l₂ : List Nat) :
    mrProd r (l₁ ++ l₂) = mrProd r l₁ * mrProd r l₂ := by
  rw [mrProd_eq_prod, mrProd_eq_prod, mrProd_eq_prod, List.map_append, List.prod_append_nat]

theorem mrProd_pos (r : Nat → Nat) (ks : List Nat) (h : ∀ k ∈ ks, 0 < r k) : 0 < mrProd r ks := by
  rw [mrProd_eq_prod, List.prod_pos_iff_forall_pos_nat]
  exact fun x hx => by obtain ⟨k, hk, rfl⟩ := List.mem_map.1 hx; exact h k hk

theorem mrProd_reverse (r : Nat → Nat) (ks : List Nat) : mrProd r ks.reverse = mrProd r ks := by
  rw [mrProd_eq_prod, mrProd_eq_prod, List.map_reverse, List.prod_reverse]

theorem mrNum_snoc (r d : Nat → Nat) (l : List Nat) (k : Nat) :
    mrNum r d (l ++ [k]) = r k * mrNum r d l + d k := by
  induction l with
  | nil => simp [mrNum, mrProd]
  | cons a l ih =>
    simp only [List.cons_append, mrNum, mrProd_append, mrProd, ih]
    ring

theorem mrNum_lt (r d : Nat → Nat) (ks : List Nat) (h : ∀ k ∈ ks, d k < r k) :
    mrNum r d ks < mrProd r ks := by
  induction ks with
  | nil => simp [mrNum, mrProd]
  | cons k ks ih =>
    have h1 := h k (by simp)
    have h2 := ih (fun a ha => h a (by simp [ha]))
    simp only [mrNum, mrProd]
    calc d k * mrProd r ks + mrNum r d ks < d k * mrProd r ks + mrProd r ks := by omega
      _ = (d k + 1) * mrProd r ks := by ring
      _ ≤ r k * mrProd r ks := Nat.mul_le_mul_right _ h1

theorem mrProd_congr {r r' : Nat → Nat} {ks : List Nat} (h : ∀ k ∈ ks, r k = r' k) :
    mrProd r ks = mrProd r' ks := by
  rw [mrProd_eq_prod, mrProd_eq_prod, List.map_congr_left h]

theorem mrNum_congr {r r' : Nat → Nat} (d : Nat → Nat) {ks : List Nat} (h : ∀ k ∈ ks, r k = r' k) :
    mrNum r d ks = mrNum r' d ks := by
  induction ks with
  | nil => rfl
  | cons k ks ih =>
    have h' : ∀ a ∈ ks, r a = r' a := fun a ha => h a (by simp [ha])
    simp only [mrNum]
    rw [mrProd_congr h', ih h']

theorem flatLoop_eq (ranges idx : List Nat) (ks : List Nat) (stride col : Nat) :
    flatLoop ranges idx ks stride col
      = col + stride * mrNum (fun k => ranges.getD k 0) (fun k => idx.getD k 0) ks.reverse := by
  induction ks generalizing stride col with
  | nil => simp [flatLoop, mrNum]
  | cons k ks ih =>
    simp only [flatLoop, ih, List.reverse_cons, mrNum_snoc]
    ring

theorem foldl_mul_eq (r : Nat → Nat) (ks : List Nat) (s : Nat) :
    ks.foldl (fun s k => s * r k) s = s * mrProd r ks.reverse := by
  induction ks generalizing s with
  | nil => simp [mrProd]
  | cons k ks ih =>
    simp only [List.foldl_cons, ih, List.reverse_cons, mrProd_append, mrProd]
    ring

theorem unflatLoop_eq (R : List Nat) (d : Nat → Nat) (ks : List Nat) (acc : List Nat)
    (h : ∀ k ∈ ks, d k < R.getD k 0) :
    unflatLoop R ks (mrProd (fun k => R.getD k 0) ks) (mrNum (fun k => R.getD k 0) d ks) acc
      = ks.foldl (fun a k => a.set k (d k)) acc := by
  induction ks generalizing acc with
  | nil => simp [unflatLoop]
  | cons k ks ih =>
    have hk := h k (by simp)
    have hlt := mrNum_lt (fun k => R.getD k 0) d ks (fun a ha => h a (by simp [ha]))
    have hpos : 0 < R.getD k 0 := by omega
    simp only [unflatLoop, mrProd, mrNum, List.foldl_cons]
    rw [Nat.mul_div_cancel_left _ hpos, mul_add_div _ hlt, Nat.mul_add_mod_of_lt hlt]
    exact ih _ (fun a ha => h a (by simp [ha]))

theorem foldl_set_length (d : Nat → Nat) (ks : List Nat) (acc : List Nat) :
    (ks.foldl (fun a k => a.set k (d k)) acc).length = acc.length := by
  induction ks generalizing acc with
  | nil => rfl
  | cons k ks ih => simp [ih]

theorem foldl_set_getD (d : Nat → Nat) (ks : List Nat) (acc : List Nat) (p : Nat)
    (hp : p < acc.length) :
    (ks.foldl (fun a k => a.set k (d k)) acc).getD p 0 = if p ∈ ks then d p else acc.getD p 0 := by
  induction ks generalizing acc with
  | nil => simp
  | cons k ks ih =>
    simp only [List.foldl_cons, List.mem_cons]
    rw [ih _ (by simpa using hp), getD_set]
    by_cases h1 : p ∈ ks
    · simp [h1]
    · by_cases h2 : k = p
      · subst h2; simp [h1, hp]
      · have : ¬ p = k := fun h => h2 h.symm
        simp [h1, h2, this]

theorem unflatten_flatten' (ranges idx : List Nat) (dim g n' : Nat) (hv : IdxIn idx ranges)
    (hd : dim < ranges.length) :
    unflattenIdx (ranges.set dim n') dim g (flattenCol ranges idx dim) = idx.set dim g := by
  obtain ⟨hl, hb⟩ := hv
  unfold unflattenIdx flattenCol
  simp only [List.length_set]
  rw [flatLoop_eq, foldl_mul_eq]
  simp only [Nat.zero_add, Nat.one_mul]
  have hmem : ∀ k ∈ (loopDims ranges.length dim).reverse, k < ranges.length ∧ k ≠ dim :=
    fun k hk => (mem_loopDims hd).mp (List.mem_reverse.mp hk)
  have hcongr : ∀ k ∈ (loopDims ranges.length dim).reverse,
      ranges.getD k 0 = (ranges.set dim n').getD k 0 :=
    fun k hk => (getD_set_ne (hmem k hk).2.symm).symm
  rw [mrNum_congr _ hcongr, unflatLoop_eq]
  · apply list_ext_getD
    · rw [foldl_set_length]; simp [hl]
    · intro p hp
      simp only [foldl_set_length, List.length_set, List.length_replicate] at hp
      rw [foldl_set_getD _ _ _ _ (by simpa using hp), getD_set, getD_set]
      by_cases hpd : dim = p
      · subst hpd
        have : dim ∉ (loopDims ranges.length dim).reverse := fun h => (hmem _ h).2 rfl
        simp [this, hd, hl]
      · have : p ∈ (loopDims ranges.length dim).reverse :=
          List.mem_reverse.mpr ((mem_loopDims hd).mpr ⟨hp, fun h => hpd h.symm⟩)
        simp [this, hpd]
  · intro k hk
    rw [← hcongr k hk]
    exact hb k (hmem k hk).1

theorem sliceMultiply_eq_some {α : Type} [A : Arith α] (a : NdSparse α) (b : Mat α) (dim : Nat)
    (hb : b.nrow = a.ranges.getD dim 0) :
    sliceMultiply a b dim = some ⟨a.ranges.set dim b.ncol,
      a.entries.flatMap fun e =>
        (List.range b.ncol).filterMap fun g =>
          if isZero (b.val (e.1.getD dim 0) g) then none
          else some (unflattenIdx (a.ranges.set dim b.ncol) dim g (flattenCol a.ranges e.1 dim),
                     A.mul (b.val (e.1.getD dim 0) g) e.2)⟩ := by
  unfold sliceMultiply
  rw [if_neg (fun h => h hb)]

theorem sliceMultiply_eq_none {α : Type} [A : Arith α] (a : NdSparse α) (b : Mat α) (dim : Nat)
    (hb : b.nrow ≠ a.ranges.getD dim 0) : sliceMultiply a b dim = none := by
  unfold sliceMultiply
  rw [if_pos hb]

section
variable {α : Type} [A : Arith α]

theorem slice_entries_wf (ranges : List Nat) (b : Mat α) (dim : Nat) (es : List (List Nat × α))
    (hes : ∀ e ∈ es, IdxIn e.1 ranges) (hd : dim < ranges.length) :
    ∀ e' ∈ (es.flatMap fun e =>
        (List.range b.ncol).filterMap fun g =>
          if isZero (b.val (e.1.getD dim 0) g) then none
          else some (unflattenIdx (ranges.set dim b.ncol) dim g (flattenCol ranges e.1 dim),
                     A.mul (b.val (e.1.getD dim 0) g) e.2)),
      IdxIn e'.1 (ranges.set dim b.ncol) := by
  intro e' he'
  rw [List.mem_flatMap] at he'
  obtain ⟨e, hemem, he'⟩ := he'
  rw [List.mem_filterMap] at he'
  obtain ⟨g, hg, he'⟩ := he'
  by_cases hz : isZero (b.val (e.1.getD dim 0) g) = true
  · rw [if_pos hz] at he'; exact absurd he' (by simp)
  · rw [if_neg hz, unflatten_flatten' ranges e.1 dim _ _ (hes e hemem) hd] at he'
    rw [← Option.some.inj he']
    exact (hes e hemem).set dim g b.ncol (List.mem_range.mp hg)

theorem sliceMultiply_shape (a : NdSparse α) (b : Mat α) (dim : Nat) (ha : a.WF)
    (hd : dim < a.ranges.length) (hb : b.nrow = a.ranges.getD dim 0) :
    ∃ a', sliceMultiply a b dim = some a' ∧ a'.ranges = a.ranges.set dim b.ncol ∧ a'.WF :=
  ⟨_, sliceMultiply_eq_some a b dim hb, rfl, slice_entries_wf a.ranges b dim a.entries ha hd⟩

end

section
variable {α : Type} [Field α] [LinearOrder α] [A : Arith α] [L : LawfulArith α]

/-- sum of the listed values at `idx` -/
def entSum (l : List (List Nat × α)) (idx : List Nat) : α :=
  (l.map fun e => if e.1 = idx then e.2 else 0).sum

theorem get_eq_entSum (s : NdSparse α) (idx : List Nat) : s.get idx = entSum s.entries idx := by
  unfold NdSparse.get entSum
  have hf : (fun (e : List Nat × α) acc => if e.1 = idx then A.add e.2 acc else acc)
      = fun e acc => if e.1 = idx then e.2 + acc else acc := by
    funext e acc; rw [L.add_eq]
  rw [hf, L.zero_eq]
  induction s.entries with
  | nil => simp
  | cons e es ih =>
    simp only [List.foldr_cons, List.map_cons, List.sum_cons, ← ih]
    split <;> simp

theorem entSum_cons (e : List Nat × α) (l : List (List Nat × α)) (idx : List Nat) :
    entSum (e :: l) idx = (if e.1 = idx then e.2 else 0) + entSum l idx := by simp [entSum]

theorem entSum_append (l₁ l₂ : List (List Nat × α)) (idx : List Nat) :
    entSum (l₁ ++ l₂) idx = entSum l₁ idx + entSum l₂ idx := by simp [entSum]

theorem entSum_eq_zero (l : List (List Nat × α)) (idx : List Nat) (h : ∀ e ∈ l, e.1 ≠ idx) :
    entSum l idx = 0 := by
  induction l with
  | nil => rfl
  | cons e es ih =>
    rw [entSum_cons, ih (fun a ha => h a (by simp [ha])), if_neg (h e (by simp))]; simp

/-- sum over the stored entries `t g`, `g < n`, of which those with `c g = 0` are not stored — where the summand
vanishes anyway -/
theorem sum_filterMap_isZero {β : Type} (n : Nat) (c : Nat → α) (t : Nat → β) (F : β → α)
    (h : ∀ g, c g = 0 → F (t g) = 0) :
    (((List.range n).filterMap fun g => if isZero (c g) then none else some (t g)).map F).sum
      = ∑ g ∈ Finset.range n, F (t g) := by
  induction n with
  | zero => rfl
  | succ n ih =>
    rw [List.range_succ, List.filterMap_append, List.map_append, List.sum_append, ih, Finset.sum_range_succ]
    congr 1
    by_cases hz : isZero (c n) = true
    · simp [hz, h n ((isZero_iff _).mp hz)]
    · simp [hz]

theorem slice_entry (ranges : List Nat) (b : Mat α) (dim : Nat) (e : List Nat × α) (idx : List Nat)
    (he : IdxIn e.1 ranges) (hd : dim < ranges.length) (hidx : IdxIn idx (ranges.set dim b.ncol))
    (hb : b.nrow = ranges.getD dim 0) :
    entSum ((List.range b.ncol).filterMap fun g =>
        if isZero (b.val (e.1.getD dim 0) g) then none
        else some (unflattenIdx (ranges.set dim b.ncol) dim g (flattenCol ranges e.1 dim),
                   A.mul (b.val (e.1.getD dim 0) g) e.2)) idx
      = ∑ j ∈ Finset.range b.nrow, b.val j (idx.getD dim 0) * (if e.1 = idx.set dim j then e.2 else 0) := by
  have hde : dim < e.1.length := by rw [he.1]; exact hd
  have hdi : dim < idx.length := by rw [hidx.1]; simpa using hd
  have hg0 : idx.getD dim 0 < b.ncol := by
    have := hidx.2 dim (by simpa using hd)
    rwa [getD_set_self hd] at this
  have hj0 : e.1.getD dim 0 < b.nrow := by rw [hb]; exact he.2 dim hd
  unfold entSum
  rw [sum_filterMap_isZero _ _ _ _ (fun g hg => by simp only [L.mul_eq, hg, zero_mul, ite_self])]
  simp only [unflatten_flatten' ranges e.1 dim _ _ he hd, L.mul_eq]
  -- only the result row `g = idx_dim` can be `idx`, and only the source row `j = e_dim` can be `e`
  rw [Finset.sum_eq_single (idx.getD dim 0), Finset.sum_eq_single (e.1.getD dim 0)]
  · by_cases h : e.1.set dim (idx.getD dim 0) = idx
    · rw [if_pos h, if_pos ((set_eq_iff _ _ _).mp h)]
    · rw [if_neg h, if_neg (fun h' => h ((set_eq_iff _ _ _).mpr h')), mul_zero]
  · intro j _ hne
    rw [if_neg (fun h => hne (by rw [h, getD_set_self hdi])), mul_zero]
  · intro h; exact absurd (Finset.mem_range.mpr hj0) h
  · intro g _ hne
    rw [if_neg (fun h => hne (by rw [← h, getD_set_self hde]))]
  · intro h; exact absurd (Finset.mem_range.mpr hg0) h

theorem slice_entries (ranges : List Nat) (b : Mat α) (dim : Nat) (es : List (List Nat × α))
    (idx : List Nat) (hes : ∀ e ∈ es, IdxIn e.1 ranges) (hd : dim < ranges.length)
    (hidx : IdxIn idx (ranges.set dim b.ncol)) (hb : b.nrow = ranges.getD dim 0) :
    entSum (es.flatMap fun e =>
        (List.range b.ncol).filterMap fun g =>
          if isZero (b.val (e.1.getD dim 0) g) then none
          else some (unflattenIdx (ranges.set dim b.ncol) dim g (flattenCol ranges e.1 dim),
                     A.mul (b.val (e.1.getD dim 0) g) e.2)) idx
      = ∑ j ∈ Finset.range b.nrow, b.val j (idx.getD dim 0) * entSum es (idx.set dim j) := by
  induction es with
  | nil => simp only [List.flatMap_nil, entSum, List.map_nil, List.sum_nil, mul_zero, Finset.sum_const_zero]
  | cons e es ih =>
    rw [List.flatMap_cons, entSum_append, slice_entry ranges b dim e idx (hes e (by simp)) hd hidx hb,
      ih (fun a ha => hes a (by simp [ha])), ← Finset.sum_add_distrib]
    apply Finset.sum_congr rfl
    intro j _
    rw [entSum_cons, mul_add]

/-- The specifications of this group have the form `∃ r, run = some r ∧ P r`; for a result already named they are read
    through this. -/
theorem of_exists_eq_some {β : Type _} {o : Option β} {P : β → Prop} (h : ∃ r, o = some r ∧ P r) {r : β}
    (hr : o = some r) : P r := by
  obtain ⟨r', h1, h2⟩ := h
  cases h1.symm.trans hr
  exact h2

theorem sliceMultiply_spec (a : NdSparse α) (b : Mat α) (dim : Nat) (ha : a.WF)
    (hd : dim < a.ranges.length) (hb : b.nrow = a.ranges.getD dim 0) :
    ∃ a', sliceMultiply a b dim = some a' ∧ a'.ranges = a.ranges.set dim b.ncol ∧ a'.WF ∧
      ∀ idx, IdxIn idx a'.ranges →
        a'.get idx = ∑ j ∈ Finset.range b.nrow, b.val j (idx.getD dim 0) * a.get (idx.set dim j) := by
  refine ⟨_, sliceMultiply_eq_some a b dim hb, rfl, slice_entries_wf a.ranges b dim a.entries ha hd, ?_⟩
  intro idx hidx
  simp only [get_eq_entSum]
  exact slice_entries a.ranges b dim a.entries idx ha hd hidx hb

/-- the guarded recursion of splineutil.c is Cox–de Boor with the right-continuous indicator and
`a/0 = 0` -/
theorem bsplineG_eq_Bind (t : Int → α) (x : α) (n : Nat) (i : Int) :
    bsplineG t x n i = Bind (indR t x) t x n i := by
  induction n generalizing i with
  | zero => rfl
  | succ n ih =>
    -- the guards only skip terms that `a/0 = 0` makes vanish
    have hz : ∀ a g d : α, (if d = 0 then 0 else a * g / d) = a / d * g := by
      intro a g d
      split
      · next h => rw [h, div_zero, zero_mul]
      · rw [mul_div_right_comm]
    simp only [bsplineG, Bind, ih, L.add_eq, L.sub_eq, L.mul_eq, L.div_eq, L.zero_eq, isZero_iff, hz]
    split
    · next h => rw [h, div_zero, zero_mul, add_zero]
    · rw [mul_div_right_comm]

theorem basis_val (t : Int → α) (nknots order : Nat) (xs : List α) (j i : Nat) :
    (bsplineBasis t nknots order xs).val j i
      = match xs[j]? with
        | some x => Bind (indR t x) t x order (i : Int)
        | none => 0 := by
  simp only [bsplineBasis, tabGet_tabOf]
  cases xs[j]? <;> simp [bsplineG_eq_Bind, L.zero_eq]

end

end PsV
