import PsV.Proofs.ListBasics
import PsV.Model.FitsRead
/-!
# `read_fits_core` on every store (C07; the reader half of C06)

The reader's loops are instances of one bounded loop `loopE`, so that what is known of one iteration (`orderStep`,
`knotStep`, `knotStepV`) is carried to the loop by `loopE_ok_iff` / `loopE_error` / `loopE_error_at`.  The reader itself is
`readWith`, `read_fits_core` with the knot loop left open: `readCore` and `readFixed` (with the validation block of
fixes/C07-1.diff) are its two instances.  `readWith_ok_iff` is the one inversion of a successful read: through it
`readFixed` accepts exactly the files `readCore` accepts whose table passes the per-dimension checks, with the same table
(`readFixed_ok_iff`), and every table it returns is well-formed (`readFixed_wf`).  `readWith_error` says where a failing
read fails: its stop exists for the file's number of dimensions (`readFixed_stop_valid`).  Mathlib-free.
-/
namespace PsV.Fits

theorem map_eq_error {ε α β} (f : α → β) (x : Except ε α) (e : ε) : x.map f = .error e ↔ x = .error e := by
  cases x <;> simp [Except.map]

theorem map_eq_ok {ε α β} (f : α → β) (x : Except ε α) (b : β) :
    x.map f = .ok b ↔ ∃ a, x = .ok a ∧ f a = b := by
  cases x <;> simp [Except.map]

/-- The shape of the reader's loops (`ORDERn`, `KNOTSn` before and after the repair): iterations `i, i+1, …`, `n` of
    them, collecting the results and stopping at the first error. -/
def loopE {ε α} (step : Nat → Except ε α) : Nat → Nat → Except ε (List α)
  | _, 0 => .ok []
  | i, n+1 =>
    match step i with
    | .error e => .error e
    | .ok a => (loopE step (i+1) n).map (a :: ·)

theorem loopE_ok_iff {ε α} (step : Nat → Except ε α) (d : α) :
    ∀ n i l, loopE step i n = .ok l ↔ l.length = n ∧ ∀ j, j < n → step (i + j) = .ok (l.getD j d)
  | 0, i, l => by
    rw [loopE, Except.ok.injEq, List.length_eq_zero_iff, eq_comm]
    exact ⟨fun h => ⟨h, fun _ hj => absurd hj (Nat.not_lt_zero _)⟩, fun h => h.1⟩
  | n+1, i, l => by
    rw [loopE]
    cases hs : step i with
    | error e => exact ⟨nofun, fun h => by have := h.2 0 (Nat.succ_pos n); rw [Nat.add_zero, hs] at this; cases this⟩
    | ok a =>
      simp only [map_eq_ok, loopE_ok_iff step d n (i+1)]
      constructor
      · rintro ⟨r, ⟨hl, hr⟩, rfl⟩
        refine ⟨congrArg (· + 1) hl, fun j hj => ?_⟩
        cases j with
        | zero => exact hs
        | succ j => rw [← Nat.add_assoc, Nat.add_right_comm]; exact hr j (Nat.lt_of_succ_lt_succ hj)
      · rintro ⟨hl, hr⟩
        cases l with
        | nil => cases hl
        | cons b r =>
          have h0 := hr 0 (Nat.succ_pos n)
          rw [Nat.add_zero, hs] at h0
          cases h0
          refine ⟨r, ⟨Nat.succ.inj hl, fun j hj => ?_⟩, rfl⟩
          have := hr (j+1) (Nat.succ_lt_succ hj)
          rwa [← Nat.add_assoc, Nat.add_right_comm] at this

theorem loopE_error {ε α} (step : Nat → Except ε α) :
    ∀ n i e, loopE step i n = .error e → ∃ j, j < n ∧ step (i + j) = .error e
  | 0, _, _, h => nomatch h
  | n+1, i, e, h => by
    rw [loopE] at h
    cases hs : step i with
    | error e' => rw [hs] at h; exact ⟨0, Nat.succ_pos n, by rw [Nat.add_zero, hs, ← Except.error.inj h]⟩
    | ok a =>
      rw [hs] at h
      obtain ⟨j, hj, hs'⟩ := loopE_error step n (i+1) e ((map_eq_error _ _ _).1 h)
      exact ⟨j+1, Nat.succ_lt_succ hj, by rw [← Nat.add_assoc, Nat.add_right_comm]; exact hs'⟩

theorem loopE_error_at {ε α} (step : Nat → Except ε α) (e : ε) :
    ∀ k n i, k < n → (∀ j, j < k → ∃ a, step (i + j) = .ok a) → step (i + k) = .error e →
      loopE step i n = .error e
  | _, 0, _, hk, _, _ => absurd hk (Nat.not_lt_zero _)
  | 0, n+1, i, _, _, he => by rw [loopE, ← Nat.add_zero i, he]
  | k+1, n+1, i, hk, hok, he => by
    obtain ⟨a, ha⟩ := hok 0 (Nat.succ_pos k)
    rw [loopE, ← Nat.add_zero i, ha]
    dsimp only
    rw [Nat.add_zero, loopE_error_at step e k n (i+1) (Nat.lt_of_succ_lt_succ hk)
      (fun j hj => by have := hok (j+1) (Nat.succ_lt_succ hj); rwa [← Nat.add_assoc, Nat.add_right_comm] at this)
      (by rwa [← Nat.add_assoc, Nat.add_right_comm] at he)]
    rfl

theorem prod_cons (a : Nat) (l : List Nat) : prod (a :: l) = a * prod l := rfl

theorem prod_reverse (l : List Nat) : prod l.reverse = prod l := List.prod_reverse_nat l

theorem partialProds_append_single (l : List Nat) (x : Nat) :
    ∀ a, partialProds a (l ++ [x]) = partialProds a l ++ [a * prod l] := by
  induction l with
  | nil => intro a; simp [partialProds, prod]
  | cons b r ih =>
    intro a
    rw [List.cons_append, partialProds, partialProds, ih, prod_cons, Nat.mul_assoc]
    rfl

theorem partialProds_reverse (l : List Nat) : (partialProds 1 l.reverse).reverse = rowMajor l := by
  induction l with
  | nil => rfl
  | cons a r ih =>
    rw [List.reverse_cons, partialProds_append_single, List.reverse_append, ih, prod_reverse, Nat.one_mul]
    rfl

theorem strides_of_axes (axes : List Nat) : (partialProds 1 axes).reverse = rowMajor axes.reverse := by
  rw [← partialProds_reverse, List.reverse_reverse]

theorem rowMajor_length : ∀ l : List Nat, (rowMajor l).length = l.length
  | [] => rfl
  | _ :: as => congrArg (· + 1) (rowMajor_length as)

theorem rowMajor_head (l : List Nat) (h : l ≠ []) : (rowMajor l).headD 0 * l.headD 0 = prod l := by
  cases l with
  | nil => exact absurd rfl h
  | cons a r => simp [rowMajor, prod_cons, Nat.mul_comm]

/-- the reader's `ncoeffs = strides[0]*naxes[0]`, formed from the image axes, is their product -/
theorem ncoeffs_of_axes (axes : List Nat) (h : axes ≠ []) :
    ((partialProds 1 axes).reverse).headD 0 * (axes.reverse).headD 0 = prod axes := by
  rw [strides_of_axes, rowMajor_head _ (by simpa using h), prod_reverse]

/-- the image axes `write_fits_core` forms: `naxes[ndim-1-i]`, the reverse of what the reader makes of them -/
def wAxes (t : Table) : List Nat := (List.range t.ndim).map fun i => t.naxes.getD (t.ndim - i - 1) 0

theorem wAxes_eq (t : Table) (h : t.naxes.length = t.ndim) : wAxes t = t.naxes.reverse :=
  map_getD_range_rev _ _ _ h

/-- one iteration of the `ORDERn` loop -/
def orderStep (cs : List Card) (i : Nat) : Except RErr Nat :=
  match readKeyInt cs .tuint (keyN "ORDER" i) with
  | none => .error (.order i)
  | some o => .ok o

theorem readOrders_loop (cs : List Card) : ∀ n i, readOrders cs i n = loopE (orderStep cs) i n
  | 0, _ => rfl
  | n+1, i => by
    rw [readOrders, loopE, orderStep, readOrders_loop cs n]
    cases readKeyInt cs .tuint (keyN "ORDER" i) <;> rfl

/-- one iteration of the `KNOTSn` loop of `readCore` -/
def knotStep (E : Ext) (f : Fits) (i : Nat) : Except RErr (List UInt64) :=
  match movnamHdu f (keyN "KNOTS" i) with
  | none => .error (.knotSize i)
  | some h =>
    if h.axes.headD 0 = 0 then .error (.knotCount i) else
    match readPixD E h (h.axes.headD 0) with
    | none => .error (.knotData i)
    | some k => .ok k

theorem readKnots_loop (E : Ext) (f : Fits) : ∀ n i, readKnots E f i n = loopE (knotStep E f) i n
  | 0, _ => rfl
  | n+1, i => by
    rw [readKnots, loopE, knotStep, readKnots_loop E f n]
    cases movnamHdu f (keyN "KNOTS" i) with
    | none => rfl
    | some h =>
      dsimp only
      split
      · rfl
      · cases readPixD E h (h.axes.headD 0) <;> rfl

/-- the order-reading step of `readCore` -/
def ordersOf (cs : List Card) (ndim : Nat) : Except RErr (List Nat) :=
  match readKeyInt cs .tint "ORDER".toList with
  | some o => .ok (List.replicate ndim o)
  | none => readOrders cs 0 ndim

/-- the extents-reading step of `readCore` -/
def extentsOf (E : Ext) (f : Fits) (ndim : Nat) (order : List Nat) (knots : List (List UInt64)) :
    Except RErr (List UInt64) :=
  match movnamHdu f "EXTENTS".toList with
  | none => .ok (defaultExtents order knots)
  | some h =>
    let n := h.axes.headD 0
    if n ≠ 2 * ndim then .ok (defaultExtents order knots) else
    match readPixD E h n with
    | none => .error .extData
    | some e => .ok e

/-- `read_fits_core` on the primary HDU `h0` of the file `f` with the knot loop `K` (a function of the orders) left
    open: the reader before and after the validation block differ only there -/
def readWith (E : Ext) (K : List Nat → Except RErr (List (List UInt64))) (h0 : Hdu) (f : Fits) : Except RErr Table :=
  if h0.axes.length < 1 then .error .badDim else
  match ordersOf (hdrCards true h0) h0.axes.length with
  | .error e => .error e
  | .ok order =>
    match readPixF E h0 (((partialProds 1 h0.axes).reverse).headD 0 * (h0.axes.reverse).headD 0) with
    | none => .error .readPix
    | some coef =>
      match K order with
      | .error e => .error e
      | .ok knots =>
        match extentsOf E f h0.axes.length order knots with
        | .error e => .error e
        | .ok extents =>
          .ok ⟨order, knots, h0.axes.reverse, (partialProds 1 h0.axes).reverse, coef, some extents,
            some ((List.range h0.axes.length).map fun i =>
              (readKeyDbl E (hdrCards true h0) (keyN "PERIOD" i)).getD 0),
            readAux (hdrCards true h0)⟩

theorem readCore_eq (E : Ext) (h0 : Hdu) (rest : List Hdu) :
    readCore E (h0 :: rest) = readWith E (fun _ => readKnots E (h0 :: rest) 0 h0.axes.length) h0 (h0 :: rest) := by
  -- with the header and the file opaque the two sides agree by unfolding alone; otherwise the unifier starts to
  -- evaluate the key lookups on the mandatory cards
  rw [readCore, readWith]
  generalize hdrCards true h0 = cs
  generalize h0 :: rest = f
  rfl

theorem readCore_cons (E : Ext) (h0 : Hdu) (rest : List Hdu) :
    readCore E (h0 :: rest) =
      if h0.axes.length < 1 then .error .badDim else
      match ordersOf (hdrCards true h0) h0.axes.length with
      | .error e => .error e
      | .ok order =>
        match readPixF E h0 (((partialProds 1 h0.axes).reverse).headD 0 * (h0.axes.reverse).headD 0) with
        | none => .error .readPix
        | some coef =>
          match readKnots E (h0 :: rest) 0 h0.axes.length with
          | .error e => .error e
          | .ok knots =>
            match extentsOf E (h0 :: rest) h0.axes.length order knots with
            | .error e => .error e
            | .ok extents =>
              .ok ⟨order, knots, h0.axes.reverse, (partialProds 1 h0.axes).reverse, coef, some extents,
                some ((List.range h0.axes.length).map fun i =>
                  (readKeyDbl E (hdrCards true h0) (keyN "PERIOD" i)).getD 0),
                readAux (hdrCards true h0)⟩ := by
  rw [readCore_eq, readWith]

theorem readWith_ok_iff (E : Ext) (K : List Nat → Except RErr (List (List UInt64))) (h0 : Hdu) (f : Fits)
    (t : Table) :
    readWith E K h0 f = .ok t ↔
      1 ≤ h0.axes.length ∧ ∃ order coef knots extents,
        ordersOf (hdrCards true h0) h0.axes.length = .ok order ∧
        readPixF E h0 (((partialProds 1 h0.axes).reverse).headD 0 * (h0.axes.reverse).headD 0) = some coef ∧
        K order = .ok knots ∧ extentsOf E f h0.axes.length order knots = .ok extents ∧
        t = ⟨order, knots, h0.axes.reverse, (partialProds 1 h0.axes).reverse, coef, some extents,
              some ((List.range h0.axes.length).map fun i =>
                (readKeyDbl E (hdrCards true h0) (keyN "PERIOD" i)).getD 0),
              readAux (hdrCards true h0)⟩ := by
  unfold readWith
  constructor
  · intro h
    split at h
    · cases h
    · split at h
      · cases h
      · rename_i order ho
        split at h
        · cases h
        · rename_i coef hc
          split at h
          · cases h
          · rename_i knots hk
            split at h
            · cases h
            · rename_i extents hx
              exact ⟨by omega, order, coef, knots, extents, ho, hc, hk, hx, (Except.ok.inj h).symm⟩
  · rintro ⟨hd, order, coef, knots, extents, ho, hc, hk, hx, rfl⟩
    rw [if_neg (by omega)]
    simp only [ho, hc, hk, hx]

theorem readCore_strides (E : Ext) (h0 : Hdu) (rest : List Hdu) (t : Table)
    (h : readCore E (h0 :: rest) = .ok t) :
    t.naxes = h0.axes.reverse ∧ t.strides = rowMajor h0.axes.reverse := by
  rw [readCore_eq, readWith_ok_iff] at h
  obtain ⟨_, _, _, _, _, _, _, _, _, rfl⟩ := h
  exact ⟨rfl, strides_of_axes _⟩

theorem readPixD_length (E : Ext) (h : Hdu) (n : Nat) (k : List UInt64) (hk : readPixD E h n = some k) :
    k.length = n := by
  unfold readPixD at hk
  cases hp : h.pix <;> simp only [hp, Pix.length] at hk <;> split at hk <;> cases hk <;>
    simp only [List.length_map, List.length_take] <;> omega

theorem readPixF_length (E : Ext) (h : Hdu) (n : Nat) (k : List UInt32) (hk : readPixF E h n = some k) :
    k.length = n := by
  unfold readPixF at hk
  cases hp : h.pix <;> simp only [hp, Pix.length] at hk <;> split at hk <;> cases hk <;>
    simp only [List.length_map, List.length_take] <;> omega

theorem readOrders_length (cs : List Card) (n i : Nat) (o : List Nat) (h : readOrders cs i n = .ok o) :
    o.length = n :=
  ((loopE_ok_iff _ 0 n i o).1 (readOrders_loop cs n i ▸ h)).1

theorem ordersOf_length (cs : List Card) (n : Nat) (o : List Nat) (h : ordersOf cs n = .ok o) : o.length = n := by
  unfold ordersOf at h
  split at h
  · have := Except.ok.inj h; subst this; simp
  · exact readOrders_length cs n 0 o h

theorem readKnots_length (E : Ext) (f : Fits) (n i : Nat) (ks : List (List UInt64))
    (h : readKnots E f i n = .ok ks) : ks.length = n :=
  ((loopE_ok_iff _ [] n i ks).1 (readKnots_loop E f n i ▸ h)).1

theorem defaultExtents_length (order : List Nat) (knots : List (List UInt64)) :
    (defaultExtents order knots).length = 2 * order.length := by
  rw [defaultExtents, List.length_flatMap]
  simp only [List.length_cons, List.length_nil, List.map_const', List.sum_replicate_nat, List.length_range]
  omega

theorem extentsOf_length (E : Ext) (f : Fits) (ndim : Nat) (order : List Nat) (knots : List (List UInt64))
    (e : List UInt64) (ho : order.length = ndim) (h : extentsOf E f ndim order knots = .ok e) :
    e.length = 2 * ndim := by
  unfold extentsOf at h
  split at h
  · have := Except.ok.inj h; subst this; rw [defaultExtents_length, ho]
  · simp only at h
    split at h
    · have := Except.ok.inj h; subst this; rw [defaultExtents_length, ho]
    · rename_i hn
      split at h
      · cases h
      · rename_i e' he'
        have := Except.ok.inj h; subst this
        have := readPixD_length E _ _ _ he'
        omega

/-- one iteration of the `KNOTSn` loop of `readFixed` -/
def knotStepV (E : Ext) (f : Fits) (order naxes : List Nat) (i : Nat) : Except RErr (List UInt64) :=
  match movnamHdu f (keyN "KNOTS" i) with
  | none => .error (.knotSize i)
  | some h =>
    if h.axes.headD 0 = 0 then .error (.knotCount i) else
    if h.axes.headD 0 < 2 * order.getD i 0 + 2 ∨ naxes.getD i 0 ≠ h.axes.headD 0 - order.getD i 0 - 1 then
      .error (.invalid i 1) else
    match readPixD E h (h.axes.headD 0) with
    | none => .error (.knotData i)
    | some k => if knotsValid k then .ok k else .error (.invalid i 2)

theorem readKnotsV_loop (E : Ext) (f : Fits) (order naxes : List Nat) :
    ∀ n i, readKnotsV E f order naxes i n = loopE (knotStepV E f order naxes) i n
  | 0, _ => rfl
  | n+1, i => by
    rw [readKnotsV, loopE, knotStepV, readKnotsV_loop E f order naxes n]
    cases movnamHdu f (keyN "KNOTS" i) with
    | none => rfl
    | some h =>
      dsimp only
      split
      · rfl
      · split
        · rfl
        · cases readPixD E h (h.axes.headD 0) with
          | none => rfl
          | some k => dsimp only; split <;> rfl

theorem knotStepV_ok_iff (E : Ext) (f : Fits) (order naxes : List Nat) (i : Nat) (k : List UInt64) :
    knotStepV E f order naxes i = .ok k ↔
      knotStep E f i = .ok k ∧ DimWF (order.getD i 0) (naxes.getD i 0) k := by
  unfold knotStepV knotStep DimWF
  cases movnamHdu f (keyN "KNOTS" i) with
  | none => exact ⟨nofun, fun h => nomatch h.1⟩
  | some h =>
    dsimp only
    split
    · exact ⟨nofun, fun h => nomatch h.1⟩
    · cases hp : readPixD E h (h.axes.headD 0) with
      | none => dsimp only; exact ⟨fun h => by (split at h <;> cases h), fun h => nomatch h.1⟩
      | some k' =>
        -- the counts are checked on `nknots_temp`, which is the length of what is read afterwards
        rw [← readPixD_length E h _ k' hp]
        dsimp only
        constructor
        · intro hk
          split at hk
          · cases hk
          · split at hk
            · rename_i hv; cases hk; exact ⟨rfl, by omega, by omega, hv⟩
            · cases hk
        · rintro ⟨hk, h1, h2, h3⟩
          cases hk
          rw [if_neg (by omega), if_pos h3]

theorem readKnotsV_ok_iff (E : Ext) (f : Fits) (order naxes : List Nat) :
    ∀ n i ks, readKnotsV E f order naxes i n = .ok ks ↔
      (readKnots E f i n = .ok ks ∧
       ∀ j, j < n → DimWF (order.getD (i+j) 0) (naxes.getD (i+j) 0) (ks.getD j [])) := by
  intro n i ks
  simp only [readKnotsV_loop, readKnots_loop, loopE_ok_iff _ [], knotStepV_ok_iff]
  exact ⟨fun ⟨hl, h⟩ => ⟨⟨hl, fun j hj => (h j hj).1⟩, fun j hj => (h j hj).2⟩,
    fun ⟨⟨hl, h1⟩, h2⟩ => ⟨hl, fun j hj => ⟨h1 j hj, h2 j hj⟩⟩⟩

theorem readFixed_eq (E : Ext) (h0 : Hdu) (rest : List Hdu) :
    readFixed E (h0 :: rest) =
      readWith E (fun order => readKnotsV E (h0 :: rest) order h0.axes.reverse 0 h0.axes.length) h0 (h0 :: rest) := by
  rw [readFixed, readWith]
  generalize hdrCards true h0 = cs
  generalize h0 :: rest = f
  rfl

/-- dimension `i` of `t` passes the checks of the validation block; `DimsWF t` asks it of every `i < t.ndim` -/
def Table.DimOK (t : Table) (i : Nat) : Prop :=
  DimWF (t.order.getD i 0) (t.naxes.getD i 0) (t.knots.getD i [])

/-- per-dimension validity of a table, as checked by the validation block -/
def DimsWF (t : Table) : Prop :=
  ∀ i, i < t.ndim → DimWF (t.order.getD i 0) (t.naxes.getD i 0) (t.knots.getD i [])

theorem readFixed_ok_iff (E : Ext) (f : Fits) (t : Table) :
    readFixed E f = .ok t ↔ (readCore E f = .ok t ∧ DimsWF t) := by
  cases f with
  | nil => simp [readFixed, readCore]
  | cons h0 rest =>
    rw [readFixed_eq, readCore_eq, readWith_ok_iff, readWith_ok_iff]
    constructor
    · rintro ⟨hd, order, coef, knots, ext, ho, hc, hk, hx, rfl⟩
      obtain ⟨hk1, hk2⟩ := (readKnotsV_ok_iff E _ order _ _ 0 knots).1 hk
      refine ⟨⟨hd, order, coef, knots, ext, ho, hc, hk1, hx, rfl⟩, fun j hj => ?_⟩
      simpa using hk2 j (ordersOf_length _ _ _ ho ▸ hj)
    · rintro ⟨⟨hd, order, coef, knots, ext, ho, hc, hk, hx, rfl⟩, hw⟩
      refine ⟨hd, order, coef, knots, ext, ho, hc, (readKnotsV_ok_iff E _ order _ _ 0 knots).2 ⟨hk, fun j hj => ?_⟩,
        hx, rfl⟩
      simpa using hw j ((ordersOf_length _ _ _ ho).symm ▸ hj)

theorem readCore_of_readFixed {E : Ext} {f : Fits} {t : Table} (h : readFixed E f = .ok t ∨ readCore E f = .ok t) :
    readCore E f = .ok t :=
  h.elim (fun h => ((readFixed_ok_iff E f t).mp h).1) id

theorem Table.WF.ndim_pos {t : Table} (h : t.WF) : 1 ≤ t.ndim := h.1
theorem Table.WF.dims {t : Table} (h : t.WF) : DimsWF t := h.2.2.2.2.2.1

theorem readFixed_wf (E : Ext) (f : Fits) (t : Table) (h : readFixed E f = .ok t) : t.WF := by
  obtain ⟨hc, hdims⟩ := (readFixed_ok_iff E f t).mp h
  cases f with
  | nil => simp [readCore] at hc
  | cons h0 rest =>
    rw [readCore_eq, readWith_ok_iff] at hc
    obtain ⟨hd, order, coef, knots, ext, hord, hpix, hk, hex, rfl⟩ := hc
    have hol := ordersOf_length _ _ _ hord
    refine ⟨hol ▸ hd, (readKnots_length E _ _ _ _ hk).trans hol.symm, (List.length_reverse).trans hol.symm,
      strides_of_axes _, ?_, hdims, ?_, ?_⟩
    · exact (readPixF_length E _ _ _ hpix).trans
        ((ncoeffs_of_axes _ (List.ne_nil_of_length_pos hd)).trans (prod_reverse _).symm)
    · simp only [Option.map_some, Option.getD_some, Table.ndim]
      rw [extentsOf_length E _ _ _ _ _ hol hex, hol]
    · simp [Table.ndim, hol]

theorem readFixed_ndim (E : Ext) (f : Fits) (t : Table) (h : readFixed E f = .ok t) :
    t.ndim = (f.headD default).axes.length := by
  cases f with
  | nil => simp [readFixed] at h
  | cons h0 rest =>
    rw [readFixed_eq, readWith_ok_iff] at h
    obtain ⟨_, order, _, _, _, ho, _, _, _, rfl⟩ := h
    exact ordersOf_length _ _ _ ho

/-- `extents` from the `EXTENTS` image or made up, `periods` 0 when a key is missing -/
theorem readFixed_some_arrays (E : Ext) (f : Fits) (t : Table) (h : readFixed E f = .ok t) :
    ∃ e p, t.extents = some e ∧ t.periods = some p := by
  cases f with
  | nil => simp [readFixed] at h
  | cons h0 rest =>
    rw [readFixed_eq, readWith_ok_iff] at h
    obtain ⟨_, _, _, _, _, _, _, _, _, rfl⟩ := h
    exact ⟨_, _, rfl, rfl⟩

theorem readOrders_err (cs : List Card) (n i : Nat) (e : RErr) (h : readOrders cs i n = .error e) :
    stopOf e = .order := by
  obtain ⟨j, _, hs⟩ := loopE_error _ n i e (readOrders_loop cs n i ▸ h)
  unfold orderStep at hs
  split at hs <;> cases hs
  rfl

theorem ordersOf_err (cs : List Card) (n : Nat) (e : RErr) (h : ordersOf cs n = .error e) : stopOf e = .order := by
  unfold ordersOf at h
  split at h
  · cases h
  · exact readOrders_err cs n 0 e h

theorem knotStepV_err (E : Ext) (f : Fits) (order naxes : List Nat) (i : Nat) (e : RErr)
    (h : knotStepV E f order naxes i = .error e) : ∃ a, stopOf e = .knot i a := by
  unfold knotStepV at h
  split at h
  · cases h; exact ⟨false, rfl⟩
  · split at h
    · cases h; exact ⟨false, rfl⟩
    · split at h
      · cases h; exact ⟨false, rfl⟩
      · split at h
        · cases h; exact ⟨true, rfl⟩
        · split at h <;> cases h; exact ⟨true, rfl⟩

theorem readKnotsV_err (E : Ext) (f : Fits) (o na : List Nat) (n i : Nat) (e : RErr)
    (h : readKnotsV E f o na i n = .error e) : ∃ j a, j < i + n ∧ stopOf e = .knot j a := by
  obtain ⟨j, hj, hs⟩ := loopE_error _ n i e (readKnotsV_loop E f o na n i ▸ h)
  obtain ⟨a, ha⟩ := knotStepV_err E f o na _ e hs
  exact ⟨i + j, a, by omega, ha⟩

theorem extentsOf_err (E : Ext) (f : Fits) (n : Nat) (o : List Nat) (k : List (List UInt64)) (e : RErr)
    (h : extentsOf E f n o k = .error e) : stopOf e = .extData := by
  unfold extentsOf at h
  split at h
  · cases h
  · simp only at h
    split at h
    · cases h
    · split at h
      · have := Except.error.inj h; subst this; rfl
      · cases h

theorem readWith_error (E : Ext) (K : List Nat → Except RErr (List (List UInt64))) (h0 : Hdu) (f : Fits) (e : RErr)
    (h : readWith E K h0 f = .error e) : (∃ order, K order = .error e) ∨ ∀ i a, stopOf e ≠ .knot i a := by
  rw [readWith] at h
  split at h
  · cases h; exact .inr nofun
  · split at h
    · rename_i e' he'
      cases h
      exact .inr fun i a => by rw [ordersOf_err _ _ _ he']; nofun
    · split at h
      · cases h; exact .inr nofun
      · split at h
        · rename_i e' he'
          cases h
          exact .inl ⟨_, he'⟩
        · split at h
          · rename_i e' he'
            cases h
            exact .inr fun i a => by rw [extentsOf_err E _ _ _ _ _ he']; nofun
          · cases h

theorem readFixed_stop_valid (E : Ext) (f : Fits) (e : RErr) (h : readFixed E f = .error e) :
    ∀ i a, stopOf e = .knot i a → i < (f.headD default).axes.length := by
  intro i a hs
  cases f with
  | nil =>
    simp only [readFixed] at h
    cases h; cases hs
  | cons h0 rest =>
    rw [readFixed_eq] at h
    rcases readWith_error E _ h0 _ e h with ⟨order, hk⟩ | hn
    · obtain ⟨j, b, hj, hs'⟩ := readKnotsV_err E _ _ _ _ 0 _ hk
      rw [hs'] at hs
      cases hs
      simpa using hj
    · exact absurd hs (hn i a)

/-- reader verdicts are compared by `decide` in the concrete examples -/
instance {ε α} [DecidableEq ε] [DecidableEq α] : DecidableEq (Except ε α)
  | .ok a, .ok b => if h : a = b then isTrue (by rw [h]) else isFalse (fun h' => h (Except.ok.inj h'))
  | .error a, .error b => if h : a = b then isTrue (by rw [h]) else isFalse (fun h' => h (Except.error.inj h'))
  | .ok _, .error _ => isFalse (fun h => by cases h)
  | .error _, .ok _ => isFalse (fun h => by cases h)

/-- formats every number as `0.` and parses none: every `PERIODn` then reads as missing and the default 0 applies -/
def exExt : Ext := ⟨fun _ => ['0', '.'], fun _ => none, fun _ => 0, fun _ => 0⟩

def exKnotsHdu (i : Nat) (k : List UInt64) : Hdu :=
  ⟨[k.length], [cardStr "EXTNAME".toList (keyN "KNOTS" i) []], .f64 k⟩

def exOrd (i v : Nat) : Card := cardInt (keyN "ORDER" i) v []

/-- order 0, knots 0,1,2 (bit patterns of 0.0, 1.0, 2.0), two coefficients -/
def exValid : Fits :=
  [⟨[2], [exOrd 0 0], .f32 [1065353216, 1073741824]⟩, exKnotsHdu 0 [0, 4607182418800017408, 4611686018427387904]]

def exValidTable : Table :=
  ⟨[0], [[0, 4607182418800017408, 4611686018427387904]], [2], [1], [1065353216, 1073741824],
   some [0, 4611686018427387904], some [0], []⟩

theorem exValid_read : readFixed exExt exValid = .ok exValidTable := by decide +kernel

theorem exValidTable_dims : DimsWF exValidTable := by unfold DimsWF; decide +kernel

/-- the same file claiming order 5 -/
def exCounts : Fits :=
  [⟨[2], [exOrd 0 5], .f32 [1065353216, 1073741824]⟩, exKnotsHdu 0 [0, 4607182418800017408, 4611686018427387904]]

def exCountsTable : Table :=
  ⟨[5], [[0, 4607182418800017408, 4611686018427387904]], [2], [1], [1065353216, 1073741824],
   some [0, 0], some [0], []⟩

theorem exCounts_core : readCore exExt exCounts = .ok exCountsTable := by decide +kernel
theorem exCounts_not_wf : ¬ exCountsTable.WF := by decide +kernel
theorem exCounts_fixed : readFixed exExt exCounts = .error (.invalid 0 1) := by decide +kernel

/-- the valid file with a NaN in the middle of the knot vector -/
def exNaNKnots : Fits :=
  [⟨[2], [exOrd 0 0], .f32 [1065353216, 1073741824]⟩, exKnotsHdu 0 [0, 9221120237041090560, 4611686018427387904]]

def exNaNKnotsTable : Table :=
  ⟨[0], [[0, 9221120237041090560, 4611686018427387904]], [2], [1], [1065353216, 1073741824],
   some [0, 4611686018427387904], some [0], []⟩

theorem exNaNKnots_core : readCore exExt exNaNKnots = .ok exNaNKnotsTable := by decide +kernel
theorem exNaNKnots_not_wf : ¬ exNaNKnotsTable.WF := by decide +kernel

/-- two dimensions, `KNOTS1` missing -/
def exMissingKnots : Fits :=
  [⟨[2, 2], [exOrd 0 0, exOrd 1 0], .f32 [0, 0, 0, 0]⟩, exKnotsHdu 0 [0, 4607182418800017408, 4611686018427387904]]

theorem exMissingKnots_core : readCore exExt exMissingKnots = .error (.knotSize 1) := by decide +kernel
theorem exMissingKnots_fixed : readFixed exExt exMissingKnots = .error (.knotSize 1) := by decide +kernel

/-- one dimension, no `ORDER0` -/
def exMissingOrder : Fits :=
  [⟨[2], [], .f32 [0, 0]⟩, exKnotsHdu 0 [0, 4607182418800017408, 4611686018427387904]]

theorem exMissingOrder_core : readCore exExt exMissingOrder = .error (.order 0) := by decide +kernel

end PsV.Fits
