import Mathlib.Algebra.BigOperators.Intervals
import PsV.Proofs.Lawful
import PsV.Proofs.ListBasics
import PsV.Proofs.Strides
import PsV.Proofs.SpecFlat
import PsV.Spec.Grid
/-!
# The table `grideval` starts from

The coefficient table: with row-major strides (`Strides`) the position and the index tuple of a coefficient determine each
other (`decode_pos`, `pos_decode`), so `coefTensor` lists the non-zero coefficients at their index tuples
(`mem_coefTensor`).  Also the induction along `gridPoint` and the statement-level definitions around `GridInv`.
-/
namespace PsV
open PsV.Permute
set_option linter.unusedSectionVars false

/-- every listed entry of the tensor has a valid index tuple -/
def NdSparse.WF {α : Type} (s : NdSparse α) : Prop := ∀ e ∈ s.entries, IdxIn e.1 s.ranges

theorem idxIn_iff_forall₂ (idx ranges : List Nat) :
    IdxIn idx ranges ↔ List.Forall₂ (· < ·) idx ranges := by
  induction idx generalizing ranges with
  | nil =>
    cases ranges with
    | nil => exact ⟨fun _ => .nil, fun _ => (idxIn_nil_right _).mpr rfl⟩
    | cons a as => exact ⟨fun h => absurd h.1 (by simp), fun h => nomatch h⟩
  | cons j js ih =>
    cases ranges with
    | nil => exact ⟨fun h => absurd h.1 (by simp), fun h => nomatch h⟩
    | cons a as => rw [idxIn_cons, List.forall₂_cons, ih]

section
variable {α : Type}

/-- what grid evaluation needs of the dimension list -/
structure GridTableWF (dims : List (Dim α)) : Prop where
  ne : dims ≠ []
  naxes_eq : ∀ d ∈ dims, d.naxes = d.nknots - d.order - 1
  strides : StridesRowMajor dims

theorem GridTableWF.single (d : Dim α) (hn : d.naxes = d.nknots - d.order - 1) (hs : d.stride = 1) : GridTableWF [d] :=
  ⟨List.cons_ne_nil _ _, fun _ h => List.mem_singleton.mp h ▸ hn, hs⟩

/-- number of coefficients `naxes_0 · stride_0` -/
def tableSize : List (Dim α) → Nat
  | [] => 0
  | d :: _ => d.naxes * d.stride

/-- position of the coefficient with index tuple `idx` -/
def posL : List (Dim α) → List Nat → Nat
  | d :: ds, j :: js => j * d.stride + posL ds js
  | _, _ => 0

theorem posL_eq_wsum (dims : List (Dim α)) (idx : List Nat) : posL dims idx = wsum idx (dims.map (·.stride)) := by
  induction dims generalizing idx with
  | nil => cases idx <;> rfl
  | cons d ds ih =>
    cases idx with
    | nil => rfl
    | cons j js => simp only [posL, List.map_cons, wsum, ih]

theorem posL_eq_flat {dims : List (Dim α)} (hs : StridesRowMajor dims) (idx : List Nat) :
    posL dims idx = flat (dims.map (·.naxes)) idx := by
  rw [posL_eq_wsum, hs.eq_rowMajor, flat_eq_wsum]

theorem tableSize_eq {dims : List (Dim α)} (hs : StridesRowMajor dims) (hne : dims ≠ []) :
    tableSize dims = prodL (dims.map (·.naxes)) := by
  cases dims with
  | nil => exact absurd rfl hne
  | cons d ds =>
    have h := hs.eq_rowMajor
    simp only [List.map_cons, rowMajor, List.cons.injEq] at h
    simp only [tableSize, List.map_cons, prodL, h.1]

theorem decodeStrides_rowMajor : ∀ (ns : List Nat) (i : Nat), i < prodL ns →
    decodeStrides (rowMajor ns) i = digits ns i
  | [], _, _ => rfl
  | n :: ns, i, h => by
    have hP : 0 < prodL ns := Nat.pos_of_ne_zero fun h0 => by simp [prodL, h0] at h
    have hs : digits ns (i % prodL ns) = digits ns i := by
      conv_rhs => rw [← Nat.div_add_mod i (prodL ns)]
      exact (digits_shift ns _ _ _ (Nat.dvd_refl _)).symm
    simp only [rowMajor, decodeStrides, digits]
    rw [decodeStrides_rowMajor ns _ (Nat.mod_lt _ hP), hs,
      Nat.mod_eq_of_lt ((Nat.div_lt_iff_lt_mul hP).mpr h)]

theorem decode_pos (ds : List (Dim α)) (hs : StridesRowMajor ds) (hne : ds ≠ []) (idx : List Nat)
    (hv : IdxIn idx (ds.map (·.naxes))) :
    posL ds idx < tableSize ds ∧ decodeStrides (ds.map (·.stride)) (posL ds idx) = idx := by
  have hlt := flat_lt idx _ hv
  rw [posL_eq_flat hs, tableSize_eq hs hne, hs.eq_rowMajor, decodeStrides_rowMajor _ _ hlt]
  exact ⟨hlt, digits_flat idx _ hv⟩

theorem pos_decode (ds : List (Dim α)) (hs : StridesRowMajor ds) (hne : ds ≠ []) (i : Nat)
    (hi : i < tableSize ds) :
    IdxIn (decodeStrides (ds.map (·.stride)) i) (ds.map (·.naxes)) ∧
      posL ds (decodeStrides (ds.map (·.stride)) i) = i := by
  rw [tableSize_eq hs hne] at hi
  rw [posL_eq_flat hs, hs.eq_rowMajor, decodeStrides_rowMajor _ _ hi]
  exact ⟨digits_inBox _ _ (by omega), flat_digits _ _ hi⟩

@[elab_as_elim]
theorem gridPoint_induct {motive : List (List α) → List Nat → List α → Prop} (nil : motive [] [] [])
    (cons : ∀ c cs g gs x xs, c[g]? = some x → gridPoint cs gs = some xs → motive cs gs xs →
      motive (c :: cs) (g :: gs) (x :: xs)) :
    ∀ coords g xs, gridPoint coords g = some xs → motive coords g xs
  | [], [], xs, h => by cases Option.some.inj h; exact nil
  | [], _ :: _, _, h => by cases h
  | _ :: _, [], _, h => by cases h
  | c :: cs, g :: gs, xs, h => by
    unfold gridPoint at h
    split at h
    · next x xs' hc hr =>
      cases Option.some.inj h
      exact cons c cs g gs x xs' hc hr (gridPoint_induct nil cons cs gs xs' hr)
    · cases h

theorem gridPoint_idxIn (coords : List (List α)) (g : List Nat) (xs : List α)
    (h : gridPoint coords g = some xs) : IdxIn g (coords.map List.length) := by
  refine gridPoint_induct ⟨rfl, fun k hk => absurd hk (by simp)⟩ ?_ coords g xs h
  intro c cs g gs x xs hc _ ih
  rw [List.map_cons, idxIn_cons]
  exact ⟨(List.getElem?_eq_some_iff.mp hc).1, ih⟩

theorem gridPoint_of_idxIn (coords : List (List α)) (g : List Nat)
    (h : IdxIn g (coords.map List.length)) : ∃ xs, gridPoint coords g = some xs := by
  induction coords generalizing g with
  | nil =>
    have : g = [] := by simpa [idxIn_nil_right] using h
    subst this; exact ⟨[], rfl⟩
  | cons c cs ih =>
    cases g with
    | nil => exact absurd h.1 (by simp)
    | cons g0 gs =>
      rw [List.map_cons, idxIn_cons] at h
      obtain ⟨xs, hxs⟩ := ih gs h.2
      refine ⟨c[g0]'h.1 :: xs, ?_⟩
      simp [gridPoint, List.getElem?_eq_getElem h.1, hxs]

theorem gridPoint_length (coords : List (List α)) (g : List Nat) (xs : List α)
    (h : gridPoint coords g = some xs) : xs.length = coords.length := by
  refine gridPoint_induct rfl ?_ coords g xs h
  intro c cs g gs x xs _ _ ih
  rw [List.length_cons, List.length_cons, ih]

end

section
variable {α : Type} [A : Arith α]

theorem coefTensor_eq (dims : List (Dim α)) (coef : Int → α) :
    coefTensor dims coef = ⟨dims.map (·.naxes),
      (List.range (tableSize dims)).filterMap fun (i : Nat) =>
        if isZero (coef (Int.ofNat i)) then none
        else some (decodeStrides (dims.map (·.stride)) i, coef (Int.ofNat i))⟩ := by
  cases dims <;> rfl

theorem coefTensor_ranges (dims : List (Dim α)) (coef : Int → α) :
    (coefTensor dims coef).ranges = dims.map (·.naxes) := by
  rw [coefTensor_eq]

theorem coefTensor_wf (dims : List (Dim α)) (coef : Int → α) (hs : StridesRowMajor dims)
    (hne : dims ≠ []) : (coefTensor dims coef).WF := by
  rw [coefTensor_eq]
  intro e he
  obtain ⟨i, hi, he⟩ := List.mem_filterMap.mp he
  split at he
  · exact absurd he (by simp)
  · cases Option.some.inj he
    exact (pos_decode dims hs hne i (List.mem_range.mp hi)).1

theorem gridEval_eq_gridLoop (dims : List (Dim α)) (coef : Int → α) (coords : List (List α))
    (hlen : coords.length = dims.length) :
    gridEval dims coef coords = gridLoop dims coords 0 (coefTensor dims coef) := by
  unfold gridEval
  rw [if_neg (fun h => h hlen)]

end

section
variable {α : Type} [Field α] [LinearOrder α] [A : Arith α] [L : LawfulArith α]

theorem mem_coefTensor (dims : List (Dim α)) (coef : Int → α) (hs : StridesRowMajor dims) (hne : dims ≠ [])
    (e : List Nat × α) :
    e ∈ (coefTensor dims coef).entries ↔
      IdxIn e.1 (dims.map (·.naxes)) ∧ coef (posL dims e.1 : Nat) = e.2 ∧ e.2 ≠ 0 := by
  rw [coefTensor_eq]
  simp only [List.mem_filterMap, List.mem_range]
  constructor
  · rintro ⟨i, hi, hif⟩
    by_cases hz : isZero (coef (Int.ofNat i)) = true
    · rw [if_pos hz] at hif; exact absurd hif (by simp)
    · rw [if_neg hz] at hif
      obtain ⟨p1, p2⟩ := pos_decode dims hs hne i hi
      cases Option.some.inj hif
      exact ⟨p1, by rw [p2]; rfl, fun h0 => hz ((isZero_iff _).mpr h0)⟩
  · rintro ⟨hc, hv, hnz⟩
    obtain ⟨p1, p2⟩ := decode_pos dims hs hne e.1 hc
    have hv' : coef (Int.ofNat (posL dims e.1)) = e.2 := hv
    refine ⟨posL dims e.1, p1, ?_⟩
    rw [if_neg (fun hz => hnz (by rw [← hv']; exact (isZero_iff _).mp hz)), p2, hv']

/-- dimension `d` (a dummy beyond the end) -/
def dimAt (dims : List (Dim α)) (d : Nat) : Dim α := dims.getD d ⟨0, 0, 0, 0, fun _ => 0⟩

/-- coordinate of the grid point `idx` in dimension `d` -/
def xAt (coords : List (List α)) (idx : List Nat) (d : Nat) : α :=
  (coords.getD d []).getD (idx.getD d 0) 0

/-- `(stride, [B_0(x), …])` of dimension `d` at the grid point `idx` -/
def gRow (dims : List (Dim α)) (coords : List (List α)) (idx : List Nat) (d : Nat) : Nat × List α :=
  ((dimAt dims d).stride, (List.range (dimAt dims d).naxes).map fun (i : Nat) =>
    Bind (indR (dimAt dims d).knots (xAt coords idx d)) (dimAt dims d).knots (xAt coords idx d)
      (dimAt dims d).order i)

def gRowsUpTo (dims : List (Dim α)) (coords : List (List α)) (idx : List Nat) (k : Nat) :
    List (Nat × List α) := (List.range k).map (gRow dims coords idx)

/-- `Σ_{k ≤ d < n} idx_d · stride_d` -/
def posFrom (dims : List (Dim α)) (idx : List Nat) (k n : Nat) : Int :=
  ∑ d ∈ Finset.Ico k n, (idx.getD d 0 : Int) * ((dimAt dims d).stride : Int)

theorem dimAt_eq_getElem (dims : List (Dim α)) {k : Nat} (hk : k < dims.length) : dimAt dims k = dims[k] := by
  simp [dimAt, List.getD_eq_getElem?_getD, hk]

/-- The exact tensor of `grideval` after the mode products along the first `k` of the `n` dimensions, with its value in
nested-sum form: at a valid index the sum `specSum` over the basis rows of the dimensions below `k` at the grid point,
started at the coefficient position that the indices from `k` on address.  It is the hypothesis on the exact run under
which `gridLoop_rel` (`GlamRound`) is stated; of it only the shape (`ranges`, `wf`) is needed there
(`gridLoop_rel_of_shape`).  The exact value of the finished loop is `gridEval_flat` (`GlamGrid`). -/
structure GridInv (dims : List (Dim α)) (coef : Int → α) (coords : List (List α)) (k : Nat)
    (nd : NdSparse α) : Prop where
  ranges : nd.ranges = (List.range dims.length).map fun d =>
    if d < k then (coords.getD d []).length else (dimAt dims d).naxes
  wf : nd.WF
  get : ∀ idx, IdxIn idx nd.ranges →
    nd.get idx = specSum coef (gRowsUpTo dims coords idx k) 1 (posFrom dims idx k dims.length)

end

end PsV
