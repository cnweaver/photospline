import PsV.Model.Search
import Mathlib.Order.Defs.LinearOrder
import Mathlib.Data.Int.Order.Basic
/-! The centre lookup of C04/C05.  The binary search keeps `k min ≤ x < k (max+1)`; the three shortcuts of `searchAxis` are
what make its result a fully supported interval (`searchAxis_spec`, outcome by outcome); everything n-dimensional is the
axis fact position by position, for any comparison bundle (`Option` adds NaN). -/
namespace PsV

/-- The comparison bundle of a linear order (what IEEE comparison is on non-NaN doubles). -/
@[reducible] def cmpLO (α : Type) [LinearOrder α] : Cmp α :=
  ⟨fun a b => decide (a < b), fun a b => decide (a ≤ b)⟩

theorem instCmpInt_eq : (inferInstance : Cmp Int) = cmpLO Int := by
  show (⟨_, _⟩ : Cmp Int) = ⟨_, _⟩
  congr 1

/-! One step of the n-dimensional lookup, outcome by outcome: the case split on the axis and on the remaining axes is taken
here once. -/
section Cons
variable {α : Type} [Cmp α] (a : Axis α) (as : List (Axis α)) (x : α) (xs : List α)

theorem searchCenters_cons_ok {cs : List Nat} : searchCenters (a :: as) (x :: xs) = .ok cs ↔
    ∃ c cs', searchAxis a.order a.nknots a.knots x = .ok c ∧ searchCenters as xs = .ok cs' ∧ cs = c :: cs' := by
  rw [searchCenters]
  cases searchAxis a.order a.nknots a.knots x <;> [skip; cases searchCenters as xs; skip] <;> simp [eq_comm]

theorem searchCenters_cons_nonterm : searchCenters (a :: as) (x :: xs) = .nonterm ↔
    searchAxis a.order a.nknots a.knots x = .nonterm ∨
      ∃ c, searchAxis a.order a.nknots a.knots x = .ok c ∧ searchCenters as xs = .nonterm := by
  rw [searchCenters]
  cases searchAxis a.order a.nknots a.knots x <;> [skip; cases searchCenters as xs; skip] <;> simp

theorem searchCenters_cons_reject : searchCenters (a :: as) (x :: xs) = .reject ↔
    searchAxis a.order a.nknots a.knots x = .reject ∨
      ∃ c, searchAxis a.order a.nknots a.knots x = .ok c ∧ searchCenters as xs = .reject := by
  rw [searchCenters]
  cases searchAxis a.order a.nknots a.knots x <;> [skip; cases searchCenters as xs; skip] <;> simp

end Cons

section LO
variable {α : Type} [LinearOrder α]
attribute [local instance] cmpLO

theorem bsearch_spec (k : Nat → α) (x : α) :
    ∀ (fuel min max : Nat), min ≤ max → max - min < fuel → k min ≤ x → x < k (max+1) →
      ∃ c, bsearch k x fuel min max = some c ∧ min ≤ c ∧ c ≤ max ∧ k c ≤ x ∧ x < k (c+1) := by
  intro fuel
  induction fuel with
  | zero => intro min max _ h; omega
  | succ fuel ih =>
    intro min max hle hf hlo hhi
    unfold bsearch
    simp only [Cmp.lt, Cmp.le, Bool.or_eq_true, decide_eq_true_eq]
    -- the midpoint lies in `[min, max]`; the invariant `k min ≤ x < k (max+1)` excludes the end it would leave
    have hmid : min ≤ (max + min) / 2 ∧ (max + min) / 2 ≤ max := by omega
    generalize (max + min) / 2 = c at hmid ⊢
    by_cases h1 : x < k c
    · simp only [h1, true_or, if_true]
      have hc : min < c := Nat.lt_of_le_of_ne hmid.1 fun e : min = c => absurd hlo (not_le.mpr (e ▸ h1))
      obtain ⟨c', e, a1, a2, a3, a4⟩ := ih min (c - 1) (by omega) (by omega) hlo (by rwa [Nat.sub_add_cancel (by omega)])
      exact ⟨c', e, a1, by omega, a3, a4⟩
    · simp only [h1, false_or, if_false]
      by_cases h2 : k (c + 1) ≤ x
      · simp only [h2, if_true]
        have hc : c < max := Nat.lt_of_le_of_ne hmid.2 fun e : c = max => absurd hhi (not_lt.mpr (e ▸ h2))
        obtain ⟨c', e, a1, a2, a3, a4⟩ := ih (c + 1) max (by omega) (by omega) h2 hhi
        exact ⟨c', e, by omega, a2, a3, a4⟩
      · simp only [h2, if_false]
        exact ⟨c, rfl, hmid.1, hmid.2, not_lt.mp h1, not_le.mp h2⟩

/-- Well-formed axis, as far as lookup is concerned. -/
structure Axis.WF (a : Axis α) : Prop where
  len : 2 * a.order + 2 ≤ a.nknots
  mono : ∀ i j, i ≤ j → j < a.nknots → a.knots i ≤ a.knots j

/-- What C04 demands of a returned centre. -/
def CenterSpec (a : Axis α) (x : α) (c : Nat) : Prop :=
  a.order ≤ c ∧ c ≤ a.nknots - a.order - 2 ∧
  (x < a.knots a.order → c = a.order) ∧
  (a.knots (a.nknots - a.order - 1) ≤ x → c = a.nknots - a.order - 2) ∧
  (a.knots a.order ≤ x → x < a.knots (a.nknots - a.order - 1) → a.knots c ≤ x ∧ x < a.knots (c+1))

def InRange (a : Axis α) (x : α) : Prop := a.knots 0 < x ∧ x ≤ a.knots (a.nknots - 1)

/-- a centre as C04 demands it is a fully supported interval, in the additive form the evaluation and memory theorems use -/
theorem CenterSpec.inRange {a : Axis α} {x : α} {c : Nat} (hc : CenterSpec a x c) (h : a.WF) :
    a.order ≤ c ∧ c + a.order + 2 ≤ a.nknots := by
  have := h.len; have := hc.2.1
  exact ⟨hc.1, by omega⟩

/-- One axis of the lookup, outcome by outcome.  Knots beyond index `nknots-1` (the padding) are unconstrained. -/
theorem searchAxis_spec (a : Axis α) (h : a.WF) (x : α) :
    match searchAxis a.order a.nknots a.knots x with
    | .reject => ¬ InRange a x
    | .ok c => InRange a x ∧ CenterSpec a x c
    | .nonterm => False := by
  obtain ⟨order, nknots, k⟩ := a
  obtain ⟨hn, hmono⟩ := h
  -- `nknots = m + order + 2` with `order ≤ m`: the last fully supported interval is `m`, `naxes = m + 1`
  obtain ⟨m, rfl⟩ : ∃ m, nknots = m + order + 2 := ⟨nknots - order - 2, by simp only at hn; omega⟩
  have hm : order ≤ m := by simp only at hn; omega
  have e1 : m + order + 2 - order - 1 = m + 1 := by omega
  have e2 : m + order + 2 - order - 2 = m := by omega
  simp only [InRange, CenterSpec, searchAxis, e1, e2, Nat.add_sub_cancel, Cmp.lt, Cmp.le,
    decide_eq_true_eq, Bool.not_eq_true', show m + order + 2 - 1 = m + order + 1 from rfl,
    show m + order + 2 - 2 = m + order from rfl] at hmono ⊢
  by_cases hr : k 0 < x ∧ x ≤ k (m + order + 1)
  · simp only [hr.1, hr.2, decide_true, Bool.and_self, and_self, true_and]
    by_cases ha : x < k order
    · simp only [ha, if_true]
      refine ⟨Nat.le_refl _, hm, fun _ => rfl, fun hb => ?_, fun hb => absurd ha (not_lt.mpr hb)⟩
      exact absurd (lt_of_lt_of_le ha (le_trans (hmono _ _ (by omega) (by omega)) hb)) (lt_irrefl _)
    · simp only [ha, if_false]
      by_cases hb : k (m + 1) ≤ x
      · simp only [hb, if_true]
        exact ⟨hm, Nat.le_refl _, fun h => h.elim, fun _ => rfl, fun _ hc => absurd hb (not_le.mpr hc)⟩
      · simp only [hb, if_false]
        have hx2 : x < k (m + 1) := not_le.mp hb
        obtain ⟨c, hc1, hc2, hc3, hc4, hc5⟩ :=
          bsearch_spec k x (m + order + 2) order (m + order) (by omega) (by omega) (not_lt.mp ha)
            (lt_of_lt_of_le hx2 (hmono _ _ (by omega) (by omega)))
        -- the bracket found lies below `k (m+1)`, so the search did not stop on the interval `m + 1`
        have hcn : c < m + 1 := by
          rcases Nat.lt_or_ge c (m + 1) with h | h
          · exact h
          · exact absurd (lt_of_lt_of_le hx2 (le_trans (hmono _ _ h (by omega)) hc4)) (lt_irrefl _)
        simp only [hc1, Nat.ne_of_lt hcn, if_false]
        exact ⟨hc2, by omega, fun h => h.elim, fun h => h.elim, fun _ _ => ⟨hc4, hc5⟩⟩
  · rw [if_pos (by simpa using hr)]
    exact hr

theorem searchAxis_ok (a : Axis α) (h : a.WF) {x : α} {c : Nat} (hs : searchAxis a.order a.nknots a.knots x = .ok c) :
    InRange a x ∧ CenterSpec a x c := by
  have := searchAxis_spec a h x; rwa [hs] at this

theorem searchAxis_reject (a : Axis α) (h : a.WF) {x : α} (hs : searchAxis a.order a.nknots a.knots x = .reject) :
    ¬ InRange a x := by
  have := searchAxis_spec a h x; rwa [hs] at this

theorem searchAxis_ne_nonterm (a : Axis α) (h : a.WF) (x : α) : searchAxis a.order a.nknots a.knots x ≠ .nonterm :=
  fun hs => by have := searchAxis_spec a h x; rwa [hs] at this

/-- All coordinates inside their `(first, last]`. -/
def AllInRange : List (Axis α) → List α → Prop
  | [], _ => True
  | _ :: _, [] => False
  | a :: as, x :: xs => InRange a x ∧ AllInRange as xs

def CentersSpec : List (Axis α) → List α → List Nat → Prop
  | [], _, [] => True
  | a :: as, x :: xs, c :: cs => CenterSpec a x c ∧ CentersSpec as xs cs
  | _, _, _ => False

/-- The n-dimensional lookup, outcome by outcome; a vector with too few coordinates counts as out of range. -/
theorem searchCenters_spec : ∀ (axes : List (Axis α)) (xs : List α), (∀ a ∈ axes, a.WF) →
    match searchCenters axes xs with
    | .reject => ¬ AllInRange axes xs
    | .ok cs => AllInRange axes xs ∧ CentersSpec axes xs cs
    | .nonterm => False
  | [], _, _ => ⟨trivial, trivial⟩
  | _ :: _, [], _ => id
  | a :: as, x :: xs, hwf => by
    have hwa := hwf a List.mem_cons_self
    have ih := searchCenters_spec as xs fun b hb => hwf b (List.mem_cons_of_mem _ hb)
    cases hr : searchCenters (a :: as) (x :: xs) with
    | reject =>
      rcases (searchCenters_cons_reject a as x xs).mp hr with ha | ⟨c, _, hrs⟩
      · exact fun h => searchAxis_reject a hwa ha h.1
      · rw [hrs] at ih; exact fun h => ih h.2
    | nonterm =>
      rcases (searchCenters_cons_nonterm a as x xs).mp hr with ha | ⟨c, _, hrs⟩
      · exact searchAxis_ne_nonterm a hwa x ha
      · rw [hrs] at ih; exact ih
    | ok cs =>
      obtain ⟨c, cs', ha, hrs, rfl⟩ := (searchCenters_cons_ok a as x xs).mp hr
      rw [hrs] at ih
      exact ⟨⟨(searchAxis_ok a hwa ha).1, ih.1⟩, (searchAxis_ok a hwa ha).2, ih.2⟩

end LO

section Opt
variable {α : Type} [Cmp α]

theorem bsearch_some (k : Nat → α) (x : α) :
    ∀ fuel min max, bsearch (fun i => some (k i)) (some x) fuel min max = bsearch k x fuel min max := by
  intro fuel
  induction fuel with
  | zero => intros; rfl
  | succ fuel ih =>
    intro min max
    simp only [bsearch, Cmp.lt, Cmp.le]
    split <;> simp_all

theorem searchAxis_some (order nknots : Nat) (k : Nat → α) (x : α) :
    searchAxis order nknots (fun i => some (k i)) (some x) = searchAxis order nknots k x := by
  simp only [searchAxis, bsearch_some]
  rfl

/-- A NaN coordinate is rejected by the range test (all comparisons are false). -/
theorem searchAxis_nan (order nknots : Nat) (k : Nat → Option α) :
    searchAxis order nknots k none = .reject := by
  simp [searchAxis, Cmp.lt, Cmp.le]

end Opt

section Reads
variable {α : Type} [Cmp α]

theorem bsearch_congr (k k' : Nat → α) (x : α) (M : Nat) (h : ∀ i, i ≤ M + 1 → k i = k' i) :
    ∀ fuel min max, min ≤ M + 1 → max ≤ M → bsearch k x fuel min max = bsearch k' x fuel min max := by
  intro fuel
  induction fuel with
  | zero => intros; rfl
  | succ fuel ih =>
    intro min max hmin hmax
    have hc : (max + min) / 2 ≤ M := by omega
    simp only [bsearch]
    rw [h _ (Nat.le_succ_of_le hc), h ((max + min) / 2 + 1) (by omega)]
    split
    · apply ih
      · split <;> omega
      · split <;> omega
    · rfl

/-- the lookup reads `knots[i]` only for `i < nknots` -/
theorem searchAxis_congr (order nknots : Nat) (k k' : Nat → α) (x : α) (hn : 2 * order + 2 ≤ nknots)
    (h : ∀ i, i < nknots → k i = k' i) : searchAxis order nknots k x = searchAxis order nknots k' x := by
  unfold searchAxis
  simp only
  rw [h 0 (by omega), h (nknots - 1) (by omega), h order (by omega), h (nknots - order - 1) (by omega),
    bsearch_congr k k' x (nknots - 2) (fun i hi => h i (by omega)) nknots order (nknots - 2) (by omega)
      (Nat.le_refl _)]

end Reads

/-! The n-dimensional lookup is the axis lookup position by position: its result is determined by the axes' results
(`searchCenters_map_congr`), it hangs only if an axis hangs (`searchCenters_ne_nonterm`), and what holds of every accepted
coordinate and its centre holds of the accepted vector (`searchCenters_ok_induct`).  The axes are given as `l.map f`, the
form in which every user has them (dimensions of a table, indices of a stored table). -/
section Lift
variable {α ι : Type} [Cmp α]

theorem searchCenters_map_congr (f g : ι → Axis α) : ∀ (l : List ι) (xs : List α),
    (∀ i ∈ l, ∀ x, searchAxis (f i).order (f i).nknots (f i).knots x =
      searchAxis (g i).order (g i).nknots (g i).knots x) →
    searchCenters (l.map f) xs = searchCenters (l.map g) xs
  | [], _, _ => rfl
  | _ :: _, [], _ => rfl
  | i :: l, x :: xs, h => by
    rw [List.map_cons, List.map_cons, searchCenters, searchCenters, h i List.mem_cons_self x,
      searchCenters_map_congr f g l xs fun j hj => h j (List.mem_cons_of_mem _ hj)]

theorem searchCenters_ne_nonterm (f : ι → Axis α) : ∀ (l : List ι) (xs : List α),
    (∀ i ∈ l, ∀ x, searchAxis (f i).order (f i).nknots (f i).knots x ≠ .nonterm) →
    searchCenters (l.map f) xs ≠ .nonterm
  | [], _, _ => fun h => nomatch h
  | _ :: _, [], _ => fun h => nomatch h
  | i :: l, x :: xs, h => by
    intro hn
    rcases (searchCenters_cons_nonterm (f i) (l.map f) x xs).mp hn with ha | ⟨c, _, hr⟩
    · exact h i List.mem_cons_self x ha
    · exact searchCenters_ne_nonterm f l xs (fun j hj => h j (List.mem_cons_of_mem _ hj)) hr

/-- induction along an accepted lookup: every coordinate was accepted by its axis, with the centre returned for it -/
theorem searchCenters_ok_induct (f : ι → Axis α) {motive : List ι → List α → List Nat → Prop}
    (nil : ∀ xs, motive [] xs [])
    (cons : ∀ i l x xs c cs, searchAxis (f i).order (f i).nknots (f i).knots x = .ok c →
      searchCenters (l.map f) xs = .ok cs → motive l xs cs → motive (i :: l) (x :: xs) (c :: cs)) :
    ∀ (l : List ι) (xs : List α) (cs : List Nat), searchCenters (l.map f) xs = .ok cs → motive l xs cs
  | [], xs, _, h => by cases h; exact nil xs
  | _ :: _, [], _, h => by cases h
  | i :: l, x :: xs, cs, h => by
    obtain ⟨c, cs', ha, hr, rfl⟩ := (searchCenters_cons_ok (f i) (l.map f) x xs).mp h
    exact cons i l x xs c cs' ha hr (searchCenters_ok_induct f nil cons l xs cs' hr)

end Lift
end PsV
