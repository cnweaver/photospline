import PsV.Model.Fit
import PsV.Proofs.ListBasics
import PsV.Proofs.MixedRadix
/-! C13, the model in `Nat`.  The outcome of a block of checked statements, as conditions on the statements that are reached
    (`= .ok`, and `Post F S` for what it may be otherwise); the index arithmetic of the routines behind the sanity block; the
    sanity block itself, which falls through exactly on consistent arguments and otherwise ends in one of its own argument
    errors. -/
namespace PsV.Fit

@[simp] theorem andThen_ok_iff {x y : Out} : x.andThen y = .ok ↔ x = .ok ∧ y = .ok := by
  cases x <;> simp [Out.andThen]

@[simp] theorem seqAll_nil : seqAll [] = .ok := rfl

@[simp] theorem seqAll_cons_ok {x : Out} {xs : List Out} :
    seqAll (x :: xs) = .ok ↔ x = .ok ∧ seqAll xs = .ok := andThen_ok_iff

theorem seqAll_ok_iff {l : List Out} : seqAll l = .ok ↔ ∀ x ∈ l, x = .ok := by
  induction l with
  | nil => simp
  | cons x xs ih => simp [ih]

theorem forN_ok_iff {n : Nat} {f : Nat → Out} : forN n f = .ok ↔ ∀ i, i < n → f i = .ok := by
  induction n with
  | zero => exact ⟨fun _ _ h => absurd h (Nat.not_lt_zero _), fun _ => rfl⟩
  | succ n ih =>
    simp only [forN, andThen_ok_iff, ih, Nat.lt_succ_iff_lt_or_eq, or_imp, forall_and, forall_eq]

@[simp] theorem rd_ok_iff {s : Site} {len i : Nat} : rd s len i = .ok ↔ i < len := by
  unfold rd; split <;> simp [*]

@[simp] theorem vla_ok_iff {s : Site} {n : Nat} : vla s n = .ok ↔ 0 < n := by
  unfold vla; split <;> simp [*]

@[simp] theorem throwIf_ok_iff {c : Bool} {e : Err} : throwIf c e = .ok ↔ c = false := by
  unfold throwIf; cases c <;> simp

@[simp] theorem when_ok_iff {c : Bool} {x : Out} : Out.when c x = .ok ↔ (c = true → x = .ok) := by
  unfold Out.when; cases c <;> simp

/-! A later statement is reached only if the earlier ones fell through.  `Post F S o` says what the outcome `o` may be besides
`.ok`: a fault allowed by `F`, a rejection allowed by `S` (`o = .ok`, "`o` is no fault", "`o` throws only …" are instances).  The
rules below turn `Post F S` of a block into what has to hold of every statement *where it is reached*; `simp only` with them
computes that condition for a whole routine. -/

def Post (F : Fault → Prop) (S : Err → Prop) : Out → Prop
  | .ok => True
  | .reject e => S e
  | .fault f => F f

section
variable {F : Fault → Prop} {S : Err → Prop}

theorem post_ok : Post F S .ok := trivial

theorem post_andThen {x y : Out} : Post F S (x.andThen y) ↔ Post F S x ∧ (x = .ok → Post F S y) := by
  cases x <;> simp [Out.andThen, Post]

theorem post_cons {x : Out} {xs : List Out} :
    Post F S (seqAll (x :: xs)) ↔ Post F S x ∧ (x = .ok → Post F S (seqAll xs)) := post_andThen

theorem post_forN {n : Nat} {f : Nat → Out} :
    Post F S (forN n f) ↔ ∀ i, i < n → (∀ j, j < i → f j = .ok) → Post F S (f i) := by
  induction n with
  | zero => exact ⟨fun _ _ h => absurd h (Nat.not_lt_zero _), fun _ => trivial⟩
  | succ n ih =>
    simp only [forN, post_andThen, ih, forN_ok_iff, Nat.lt_succ_iff_lt_or_eq, or_imp, forall_and, forall_eq]

theorem post_when {c : Bool} {x : Out} : Post F S (Out.when c x) ↔ (c = true → Post F S x) := by
  cases c <;> simp [Out.when, Post]

/-- a checked access or declaration -/
theorem post_check {c : Prop} [Decidable c] {f : Fault} : Post F S (if c then .ok else .fault f) ↔ (¬ c → F f) := by
  split <;> simp [Post, *]

theorem post_rd {s : Site} {l i : Nat} : Post F S (rd s l i) ↔ (¬ i < l → F (.oob s l i)) := post_check
theorem post_vla {s : Site} {n : Nat} : Post F S (vla s n) ↔ (¬ 0 < n → F (.vlaBound s n)) := post_check

theorem post_throwIf {c : Bool} {e : Err} : Post F S (throwIf c e) ↔ (c = true → S e) := by
  cases c <;> simp [throwIf, Post]

theorem Post.mono {F' : Fault → Prop} {S' : Err → Prop} {o : Out} (h : Post F S o) (hF : ∀ f, F f → F' f)
    (hS : ∀ e, S e → S' e) : Post F' S' o := by
  cases o with
  | ok => trivial
  | reject e => exact hS e h
  | fault f => exact hF f h

end

theorem noFault_iff {o : Out} : o.isFault = false ↔ Post (fun _ => False) (fun _ => True) o := by
  cases o <;> simp [Out.isFault, Post]

theorem ok_noFault {x : Out} (h : x = .ok) : x.isFault = false := by subst h; rfl

theorem wsub_of_le {a b : Nat} (h : b ≤ a) : wsub a b = a - b := if_pos h

theorem wsub32_of_le {a b : Nat} (h : b ≤ a) : wsub32 a b = a - b := if_pos h

theorem nsplinesOf_eq {nk o : Nat} (h : o + 1 ≤ nk) : nsplinesOf nk o = nk - o - 1 := by
  unfold nsplinesOf
  rw [wsub_of_le (Nat.le_of_succ_le h), wsub_of_le (Nat.le_sub_of_add_le' h)]

/-- cell `(col, row)` of the basis matrix as `bsplinebasis` writes the index, with the extents multiplied the other way round (`npts*nsplines`) -/
theorem cell_lt {col row npts ns : Nat} (hc : col < ns) (hr : row < npts) : col * npts + row < npts * ns := by
  rw [Nat.mul_comm npts ns]; exact Permute.mul_add_lt hc hr

theorem foldl_max_lt_iff {l : List Nat} {b : Nat} : ∀ {acc}, l.foldl max acc < b ↔ acc < b ∧ ∀ v ∈ l, v < b := by
  induction l with
  | nil => simp
  | cons x xs ih => intro acc; simp only [List.foldl_cons, ih, Nat.max_lt, List.forall_mem_cons, and_assoc]

/-- `*std::max_element` is below a bound exactly when every element is (and the bound is not 0, for the empty range) -/
theorem maxIdx_lt_iff {l : List Nat} {b : Nat} : maxIdx l < b ↔ 0 < b ∧ ∀ v ∈ l, v < b := foldl_max_lt_iff

/-- `bspline(knots, x, i, n)` reads exactly `knots[i .. i+n+1]` -/
@[simp] theorem bsplineReads_ok_iff {nk : Nat} : ∀ {n i : Nat}, bsplineReads nk n i = .ok ↔ i + n + 1 < nk := by
  intro n
  induction n with
  | zero => intro i; simp only [bsplineReads, seqAll_cons_ok, seqAll_nil, rd_ok_iff, and_true]; omega
  | succ n ih => intro i; simp only [bsplineReads, seqAll_cons_ok, seqAll_nil, rd_ok_iff, ih, and_true]; omega

theorem bsplineBasis_ok {nk npts xlen order : Nat} (hk : order + 2 ≤ nk) (hx : npts ≤ xlen) :
    bsplineBasis nk npts xlen order = .ok := by
  unfold bsplineBasis
  rw [nsplinesOf_eq (Nat.le_of_succ_le hk)]
  simp only [forN_ok_iff, seqAll_cons_ok, seqAll_nil, rd_ok_iff, bsplineReads_ok_iff, and_true]
  intro col hc row hr
  exact ⟨Nat.lt_of_lt_of_le hr hx, by omega, cell_lt hc hr⟩

/-- `divided_diffs` stays inside `a`, `b`, `out` and the knot vector when the recursion depth `d` fits the stack arrays -/
theorem dividedDiffs_ok {vlaLen nk order : Nat} (hv : 0 < vlaLen) :
    ∀ (d j outLen : Nat), d ≤ vlaLen → d < outLen → (d ≠ 0 → j + d + order < nk) →
      dividedDiffs vlaLen nk order d j outLen = .ok := by
  intro d
  induction d with
  | zero => intro j outLen _ h2 _; simp [dividedDiffs, hv, h2]
  | succ p ih =>
    intro j outLen h1 h2 h4
    have h4' := h4 (Nat.succ_ne_zero p)
    obtain ⟨k1, k3⟩ : j + 1 + p + order < nk ∧ j + order + 1 < nk := by omega
    have k2 : j + p + order < nk := Nat.lt_trans (Nat.add_lt_add_right (Nat.lt_succ_self _) order) h4'
    simp only [dividedDiffs, seqAll_cons_ok, seqAll_nil, rd_ok_iff, vla_ok_iff, forN_ok_iff, and_true, true_and,
      ih (j+1) vlaLen (Nat.le_of_succ_le h1) h1 fun _ => k1, ih j vlaLen (Nat.le_of_succ_le h1) h1 fun _ => k2]
    exact ⟨hv, hv, k3, Nat.lt_of_le_of_lt (Nat.le_add_right _ order) h4', hv, Nat.zero_lt_of_lt h2, h1, h2,
      fun i hi => ⟨Nat.lt_trans hi h1, Nat.lt_of_le_of_lt hi h1, Nat.lt_trans (Nat.succ_lt_succ hi) h2⟩⟩

theorem calcPenalty_ok {vlaExtra ndim : Nat} {nspl : List Nat} {dim nk order porder : Nat}
    (hlen : nspl.length = ndim) (hdim : dim < ndim) (hns : nspl.getD dim 0 = nk - order - 1)
    (hk : 2 * order + 2 ≤ nk) (hp : porder ≤ order) (hx : 1 ≤ vlaExtra) (hnk : nk < U32) :
    calcPenalty vlaExtra ndim nspl dim nk order porder = .ok := by
  unfold calcPenalty
  -- `divd[porder+1]`: the uint32 sum does not wrap because porder ≤ order < nknots < 2^32
  have hb : porder + 1 + order ≤ nk := by omega
  rw [hns, wsub_of_le (Nat.le_sub_of_add_le (Nat.le_sub_of_add_le hb)),
    Nat.mod_eq_of_lt (Nat.lt_of_le_of_lt (Nat.le_trans (Nat.le_add_right _ order) hb) hnk)]
  simp only [seqAll_cons_ok, seqAll_nil, rd_ok_iff, vla_ok_iff, forN_ok_iff, and_true]
  refine ⟨Nat.succ_pos _, hlen ▸ hdim, fun row hrow => ⟨?_, fun k hk' => ⟨Permute.mul_add_lt hrow hk', hk'⟩⟩, fun i hi => hlen ▸ hi⟩
  exact dividedDiffs_ok (Nat.add_pos_right order hx) porder row (porder+1) (Nat.le_trans hp (Nat.le_add_right ..))
    (Nat.lt_succ_self _) (fun _ => by omega)

/- the product loop is core's `List.prod`, whose lemmas (`Init.Data.List.Nat.Prod`) then apply -/
theorem prodL_eq (l : List Nat) : prodL l = l.prod := List.prod_eq_foldl_nat.symm

theorem prodL_append (l1 l2 : List Nat) : prodL (l1 ++ l2) = prodL l1 * prodL l2 := by
  simp only [prodL_eq, List.prod_append_nat]

theorem prodL_cons (x : Nat) (l : List Nat) : prodL (x :: l) = x * prodL l := by
  simp only [prodL_eq, List.prod_cons]

theorem prodL_split (l : List Nat) (m : Nat) (h : m < l.length) :
    prodL l = prodL (l.take m) * (l.getD m 0 * prodL (l.drop (m+1))) := by
  rw [prodL_eq, prodL_eq, prodL_eq, getD_of_lt h]
  exact Permute.prod_split l h

theorem monoTail_ok (naxes : List Nat) (m : Nat) (h : m < naxes.length) : monoTail naxes m = .ok := by
  unfold monoTail
  simp only [seqAll_cons_ok, seqAll_nil, forN_ok_iff, rd_ok_iff, and_true]
  rw [prodL_split naxes m h]
  exact ⟨h, fun i hi j hj k hk =>
    ⟨Permute.block_lt' hi (Nat.add_lt_of_lt_sub hj) hk, Permute.block_lt' hi (Nat.lt_of_lt_of_le hj (Nat.sub_le ..)) hk⟩⟩

/-- What "every check of the repaired block falls through" says, check by check in source order (the reads of the block
    itself included). -/
structure ChecksPass (a : Args) : Prop where
  nweights : a.data.rows = a.nweights
  ndim_ne : ¬a.data.ndim = 0
  rows_ne : ¬a.data.rows = 0
  idx : ∀ i, i < a.data.ndim →
    i < a.data.idx.length ∧ 0 < (a.idxCol i).length ∧ i < a.data.ranges.length ∧ maxIdx (a.idxCol i) < a.rangeOf i
  ncoords : a.coordLens.length = a.data.ndim
  coords : ∀ i, i < a.data.ndim → i < a.coordLens.length ∧ a.rangeOf i ≤ a.coordLen i
  norders : a.orders.length = a.data.ndim
  nknotvecs : a.knots.length = a.data.ndim
  knots : ∀ i, i < a.data.ndim →
    i < a.knots.length ∧ sortedB (a.knotsAt i) = true ∧ i < a.orders.length ∧ 2 * a.ordAt i + 2 ≤ a.nkAt i
  nsmooth : a.smoothNZ.length = a.data.ndim ∨ a.smoothNZ.length = 1
  npenalty : a.penalty.length = a.data.ndim ∨ a.penalty.length = 1
  pen : ∀ i, i < a.data.ndim → a.penIdx i < a.penalty.length ∧ i < a.orders.length ∧ a.penAt i ≤ a.ordAt i
  monodim : a.monodim = noMonodim ∨ a.monodim < a.data.ndim

theorem fitChecks_ok_iff (a : Args) : fitChecks repaired a = .ok ↔ ChecksPass a := by
  simp only [fitChecks, repaired, seqAll_cons_ok, seqAll_nil, forN_ok_iff, rd_ok_iff, throwIf_ok_iff, when_ok_iff,
    and_true, true_implies, bne_eq_false_iff_eq, beq_eq_false_iff_ne, decide_eq_false_iff_not,
    Bool.and_eq_false_iff, Bool.not_eq_false', ne_eq, Nat.not_le, Nat.not_lt]
  exact ⟨fun ⟨h1, h2, h3, h4, h5, h6, h7, h8, h9, h10, h11, h12, h13⟩ => ⟨h1, h2, h3, h4, h5, h6, h7, h8, h9, h10, h11, h12, h13⟩,
    fun ⟨h1, h2, h3, h4, h5, h6, h7, h8, h9, h10, h11, h12, h13⟩ => ⟨h1, h2, h3, h4, h5, h6, h7, h8, h9, h10, h11, h12, h13⟩⟩

theorem idxCol_len {a : Args} (hwf : a.data.WF) {i : Nat} (hi : i < a.data.ndim) :
    (a.idxCol i).length = a.data.rows :=
  hwf.col_len _ (getD_mem (by rw [hwf.idx_len]; exact hi) _)

/-- `(v.size()>1 ? v[i] : v[0])` stays inside a vector that has one entry or one per dimension -/
theorem broadcastIdx_lt {len nd i : Nat} (h : len = nd ∨ len = 1) (hi : i < nd) : (if 1 < len then i else 0) < len := by
  split <;> omega

theorem penIdx_lt {a : Args} (h : a.penalty.length = a.data.ndim ∨ a.penalty.length = 1) {i : Nat}
    (hi : i < a.data.ndim) : a.penIdx i < a.penalty.length := broadcastIdx_lt h hi

theorem smoothIdx_lt {a : Args} (h : a.smoothNZ.length = a.data.ndim ∨ a.smoothNZ.length = 1) {i : Nat}
    (hi : i < a.data.ndim) : a.smoothIdx i < a.smoothNZ.length := broadcastIdx_lt h hi

theorem ChecksPass.needs {a : Args} (hp : ChecksPass a) : Needs a :=
  { ndim_pos := Nat.pos_of_ne_zero hp.ndim_ne
    rows_pos := Nat.pos_of_ne_zero hp.rows_ne
    nweights := hp.nweights.symm
    idx_lt := fun i hi => (maxIdx_lt_iff.mp (hp.idx i hi).2.2.2).2
    ncoords := hp.ncoords
    coord_len := fun i hi => (hp.coords i hi).2
    norders := hp.norders
    nknotvecs := hp.nknotvecs
    sorted := fun i hi => (hp.knots i hi).2.1
    knots_len := fun i hi => (hp.knots i hi).2.2.2
    nsmooth := hp.nsmooth
    npenalty := hp.npenalty
    pen_le := fun i hi => (hp.pen i hi).2.2
    monodim := hp.monodim }

/-- the converse needs the struct's well-formedness: the reads of the block itself have to be in bounds -/
theorem Needs.checksPass {a : Args} (hwf : a.data.WF) (hn : Needs a) : ChecksPass a := by
  refine ⟨hn.nweights.symm, Nat.ne_of_gt hn.ndim_pos, Nat.ne_of_gt hn.rows_pos, fun i hi => ?_,
    hn.ncoords, fun i hi => ⟨hn.ncoords ▸ hi, hn.coord_len i hi⟩, hn.norders, hn.nknotvecs,
    fun i hi => ⟨hn.nknotvecs ▸ hi, hn.sorted i hi, hn.norders ▸ hi, hn.knots_len i hi⟩, hn.nsmooth, hn.npenalty,
    fun i hi => ⟨penIdx_lt hn.npenalty hi, hn.norders ▸ hi, hn.pen_le i hi⟩, hn.monodim⟩
  -- the column is not empty, and an element of it below `ranges[i]` shows that this is not 0
  have hlen : 0 < (a.idxCol i).length := idxCol_len hwf hi ▸ hn.rows_pos
  obtain ⟨v, hv⟩ := List.exists_mem_of_length_pos hlen
  exact ⟨hwf.idx_len ▸ hi, hlen, hwf.ranges_len ▸ hi,
    maxIdx_lt_iff.mpr ⟨Nat.zero_lt_of_lt (hn.idx_lt i hi v hv), hn.idx_lt i hi⟩⟩

/-- Under `Data.WF` the repaired sanity block ends in `.ok` or in one of its own argument errors: it reads nothing out of
    bounds (this is where the `rows == 0` check is needed) and never throws the solver's "GLAM fit failed". -/
theorem fitChecks_post (a : Args) (hwf : a.data.WF) : Post (fun _ => False) (· ≠ .glam) (fitChecks repaired a) := by
  simp only [fitChecks, repaired, post_cons, post_ok, post_rd, post_forN, post_when, post_throwIf, implies_true, true_and,
    and_true, imp_false, seqAll_cons_ok, seqAll_nil, forN_ok_iff, rd_ok_iff, throwIf_ok_iff, when_ok_iff,
    true_implies, bne_eq_false_iff_eq, beq_eq_false_iff_ne, decide_eq_false_iff_not,
    Bool.and_eq_false_iff, Bool.not_eq_false', ne_eq, Nat.not_le, Nat.not_lt, reduceCtorEq, not_false_eq_true]
  intro _ _ hrows
  -- what is left are the reads of the four loops: each is in bounds by the struct's well-formedness or by the length check
  -- in front of its loop (`hc`, `ho`, `hk`, `hp`: coordinates, orders, knot vectors, penalty orders)
  refine ⟨fun i hi _ => ⟨hwf.idx_len ▸ hi, fun _ => ⟨idxCol_len hwf hi ▸ Nat.pos_of_ne_zero hrows, fun _ => hwf.ranges_len ▸ hi⟩⟩,
    fun _ hc => ⟨fun i hi _ => hc ▸ hi, fun _ ho hk => ⟨fun i hi _ => ⟨hk ▸ hi, fun _ _ => ho ▸ hi⟩,
      fun _ _ hp i hi _ => ⟨penIdx_lt hp hi, fun _ => ho ▸ hi⟩⟩⟩⟩

theorem checks_reject_of {a : Args} (hwf : a.data.WF) (hnok : fitChecks repaired a ≠ .ok) :
    ∃ e, e ≠ Err.glam ∧ fitChecks repaired a = .reject e := by
  have h := fitChecks_post a hwf
  cases hc : fitChecks repaired a with
  | ok => exact absurd hc hnok
  | fault f => rw [hc] at h; exact h.elim
  | reject e => rw [hc] at h; exact ⟨e, h, rfl⟩

theorem checks_verdict (a : Args) (hwf : a.data.WF) :
    (Needs a ∧ fitChecks repaired a = .ok) ∨ (¬ Needs a ∧ ∃ e, e ≠ Err.glam ∧ fitChecks repaired a = .reject e) := by
  by_cases hc : fitChecks repaired a = .ok
  · exact Or.inl ⟨((fitChecks_ok_iff a).mp hc).needs, hc⟩
  · exact Or.inr ⟨fun hn => hc ((fitChecks_ok_iff a).mpr (hn.checksPass hwf)), checks_reject_of hwf hc⟩

theorem Needs.order_add_two_le {a : Args} (hn : Needs a) {i : Nat} (hi : i < a.data.ndim) :
    a.ordAt i + 2 ≤ a.nkAt i := by
  have := hn.knots_len i hi; omega

theorem Needs.nsplAt_eq {a : Args} (hn : Needs a) {i : Nat} (hi : i < a.data.ndim) :
    a.nsplAt i = a.nkAt i - a.ordAt i - 1 :=
  nsplinesOf_eq (Nat.le_of_succ_le (hn.order_add_two_le hi))

/-- What `fitBody` and `fitBodyW` have in common: the table set-up and the loops over the dimensions, with the three
    routines (`calc_penalty`, `bsplinebasis`, the monotone tail of `glamfit_complex`) left open. -/
def bodyWith (a : Args) (pen basis : Nat → Out) (mono : Out) : List Out :=
  let nd := a.data.ndim
  [ forN a.orders.length fun j => rd .tblOrder nd j,
    forN nd fun i => rd .knotsVec a.knots.length i,
    forN nd fun i => rd .ordersVec a.orders.length i,
    rd .strides nd (wsub32 nd 1),
    forN (wsub32 nd 1) fun i' => seqAll [rd .strides nd i', rd .strides nd (i'+1), rd .naxes nd (i'+1)],
    rd .strides nd 0, rd .naxes nd 0,
    forN nd fun i => rd .coordsVec a.coordLens.length i,
    forN nd fun i => seqAll [
      rd .knots (a.nkAt i) (a.ordAt i),
      rd .knots (a.nkAt i) (nsplinesOf (a.nkAt i) (a.ordAt i))],
    forN nd fun i => seqAll [
      rd .penalty a.penalty.length (a.penIdx i),
      rd .smoothing a.smoothNZ.length (a.smoothIdx i),
      Out.when (a.smoothAt i) (pen i)],
    forN nd fun i => seqAll [rd .ranges a.data.ranges.length i, basis i],
    Out.when (a.monodim != noMonodim) mono]

theorem fitBody_eq (c : Cfg) (a : Args) : fitBody c a = seqAll (bodyWith a
    (fun i => calcPenalty c.vlaExtra a.data.ndim ((List.range a.data.ndim).map a.nsplAt) i (a.nkAt i) (a.ordAt i) (a.penAt i))
    (fun i => bsplineBasis (a.nkAt i) (a.rangeOf i) (a.coordLen i) (a.ordAt i))
    (monoTail ((List.range a.data.ndim).map a.nsplAt) a.monodim)) := rfl

/-- Consistent arguments carry the shared part; what remains are the three routines, each where it is reached. -/
theorem bodyWith_ok {a : Args} (hwf : a.data.WF) (hn : Needs a) {pen basis : Nat → Out} {mono : Out}
    (hpen : ∀ i, i < a.data.ndim → a.smoothAt i = true → pen i = .ok)
    (hbasis : ∀ i, i < a.data.ndim → basis i = .ok) (hmono : a.monodim ≠ noMonodim → mono = .ok) :
    seqAll (bodyWith a pen basis mono) = .ok := by
  simp only [bodyWith, seqAll_cons_ok, seqAll_nil, forN_ok_iff, rd_ok_iff, when_ok_iff, and_true,
    wsub32_of_le hn.ndim_pos, bne_iff_ne]
  refine ⟨fun j hj => hn.norders ▸ hj, fun i hi => hn.nknotvecs ▸ hi, fun i hi => hn.norders ▸ hi,
    Nat.sub_lt hn.ndim_pos Nat.one_pos, fun i hi => ?_, hn.ndim_pos, hn.ndim_pos, fun i hi => hn.ncoords ▸ hi,
    fun i hi => ?_, fun i hi => ⟨penIdx_lt hn.npenalty hi, smoothIdx_lt hn.nsmooth hi, hpen i hi⟩,
    fun i hi => ⟨hwf.ranges_len ▸ hi, hbasis i hi⟩, hmono⟩
  · exact ⟨Nat.lt_of_lt_of_le hi (Nat.sub_le ..), Nat.add_lt_of_lt_sub hi, Nat.add_lt_of_lt_sub hi⟩
  · have := hn.order_add_two_le hi
    rw [← Args.nsplAt, hn.nsplAt_eq hi]
    omega

theorem bodyWith_basis_ok {a : Args} {pen basis : Nat → Out} {mono : Out} (h : seqAll (bodyWith a pen basis mono) = .ok)
    {i : Nat} (hi : i < a.data.ndim) : basis i = .ok := by
  have hloop := seqAll_ok_iff.mp h (forN a.data.ndim fun i => seqAll [rd .ranges a.data.ranges.length i, basis i])
    (by simp only [bodyWith, List.mem_cons, true_or, or_true])
  exact seqAll_ok_iff.mp (forN_ok_iff.mp hloop i hi) _ (by simp only [List.mem_cons, true_or, or_true])

/-- the spline count of dimension `i` as `calc_penalty` finds it in the table's `naxes` -/
theorem nspl_getD {a : Args} (hn : Needs a) {i : Nat} (hi : i < a.data.ndim) :
    ((List.range a.data.ndim).map a.nsplAt).getD i 0 = a.nkAt i - a.ordAt i - 1 := by
  rw [getD_map_range_of_lt _ hi, hn.nsplAt_eq hi]

theorem monodim_lt {a : Args} (hn : Needs a) (hm : a.monodim ≠ noMonodim) :
    a.monodim < ((List.range a.data.ndim).map a.nsplAt).length := by
  rw [List.length_map, List.length_range]; exact hn.monodim.resolve_left hm

/-- Every knot vector has fewer than 2^32 entries.  What the `Nat` model `fitBody` needs of it: `porder + 1`, which
    `calc_penalty` forms in `uint32_t` for `divd[porder+1]`, does not wrap.  (The `int` and `long` quantities of the fitter are
    the subject of `fitBodyW` and `NoWrapB`.) -/
def SizesFit (a : Args) : Prop := ∀ i, i < a.data.ndim → a.nkAt i < U32

theorem fitBody_ok {a : Args} (hwf : a.data.WF) (hsz : SizesFit a) (hn : Needs a) : fitBody repaired a = .ok := by
  rw [fitBody_eq]
  refine bodyWith_ok hwf hn (fun i hi _ => ?_) (fun i hi => ?_) (fun _ => ?_)
  · exact calcPenalty_ok (by simp) hi (nspl_getD hn hi) (hn.knots_len i hi) (hn.pen_le i hi) (Nat.le_refl 1) (hsz i hi)
  · exact bsplineBasis_ok (hn.order_add_two_le hi) (hn.coord_len i hi)
  · exact monoTail_ok _ _ (monodim_lt hn ‹_›)

/-- `false false`: both handles valid -/
theorem cGlamfit_valid (c : Cfg) (ca : CArgs) (glamOk : Bool) (t : Tbl) :
    cGlamfit c false false ca glamOk t =
      (if (fit c ca.view glamOk t).1 = .ok then 0 else 1, (fit c ca.view glamOk t).2) := by
  unfold cGlamfit
  rcases fit c ca.view glamOk t with ⟨o, t'⟩
  cases o <;> rfl

end PsV.Fit
