import PsV.Proofs.ConvTile
import PsV.Proofs.ConvSpec
/-!
# The Beta identity for the tile integrals

The sum over the tiles `[x-τ_{a+1}, x-τ_a] ∩ [y_b, y_{b+1}]` (`a < m`, `b < r`) of the integrals of
`(t - (x-τ_m))^p (y_r - t)^q'`, differenced over `m` (`p+2` nodes) and `r` (`q'+2` nodes), is
`p! q'! / (p+q'+1)!` times the double divided difference of the truncated power `(τ_m + y_r - x)_+^{p+q'+1}`.

Step 1 (any antiderivative `F`): a tile integral is the mixed second difference of `(a, b) ↦ ∫_a^b F'` over the four
corners of the tile, so the sum over the tiles telescopes in both directions; with `A = σ m`, `D = σ 0`, `C = y 0 ≤ D`,
`B = y r` what is left is `intPlus F A B - intPlus F A C - intPlus F D B` (`tileSum_split`).
Step 2: `betaPhi p q' A B`, the antiderivative of `(t - A)^p (B - t)^q'` that vanishes at `A` (integration by parts).
Step 3: of the three terms the first is the Beta constant times the truncated power; the second has degree `≤ q'` in
`B`, the third (reflected) degree `≤ p` in `A`, and the divided differences annihilate them.
-/
namespace PsV
open Finset Polynomial ConvSpec

/-- `∫_a^b F'` if `a < b`, else `0` -/
def intPlus (F : ℚ → ℚ) (a b : ℚ) : ℚ := if a < b then F b - F a else 0

theorem intPlus_eq_max (F : ℚ → ℚ) (a b : ℚ) : intPlus F a b = F (max a b) - F a := by
  unfold intPlus
  split_ifs with h
  · rw [max_eq_right (le_of_lt h)]
  · rw [max_eq_left (not_lt.mp h), sub_self]

theorem tileInt_eq_max (F : ℚ → ℚ) (lo hi ylo yhi : ℚ) :
    tileInt F lo hi ylo yhi = F (max (max lo ylo) (min hi yhi)) - F (max lo ylo) := by
  have e1 : (if lo < ylo then ylo else lo) = max lo ylo := by
    rcases lt_or_ge lo ylo with h | h
    · rw [if_pos h, max_eq_right h.le]
    · rw [if_neg (not_lt.mpr h), max_eq_left h]
  have e2 : (if yhi < hi then yhi else hi) = min hi yhi := by
    rcases lt_or_ge yhi hi with h | h
    · rw [if_pos h, min_eq_right h.le]
    · rw [if_neg (not_lt.mpr h), min_eq_left h]
  rw [← intPlus_eq_max]
  unfold tileInt intPlus
  simp only [e1, e2]

theorem tileInt_symm (F : ℚ → ℚ) (lo hi ylo yhi : ℚ) :
    tileInt F lo hi ylo yhi = tileInt F ylo yhi lo hi := by
  rw [tileInt_eq_max, tileInt_eq_max, max_comm lo ylo, min_comm hi yhi]

theorem tileInt_corners (F : ℚ → ℚ) (lo hi ylo yhi : ℚ) (h0 : lo ≤ hi) (hy : ylo ≤ yhi) :
    tileInt F lo hi ylo yhi =
      (intPlus F lo yhi - intPlus F lo ylo) - (intPlus F hi yhi - intPlus F hi ylo) := by
  rw [tileInt_eq_max, intPlus_eq_max, intPlus_eq_max, intPlus_eq_max, intPlus_eq_max]
  rcases le_total yhi hi with h | h
  · rw [min_eq_right h, max_eq_left h, max_eq_left (hy.trans h), max_assoc, max_eq_right hy]
    ring
  · rw [min_eq_left h, max_eq_right h, max_eq_right (h0.trans h), max_comm lo ylo, max_assoc, max_eq_right h0,
      max_comm ylo hi]
    ring

theorem tileSum_corners (F : ℚ → ℚ) (σ y : Nat → ℚ) (m r : Nat)
    (hσ : ∀ a, a < m → σ (a+1) ≤ σ a) (hy : ∀ b, b < r → y b ≤ y (b+1)) :
    tileSum F σ y m r =
      (intPlus F (σ m) (y r) - intPlus F (σ m) (y 0)) - (intPlus F (σ 0) (y r) - intPlus F (σ 0) (y 0)) := by
  unfold tileSum
  have row : ∀ a ∈ range m, ∑ b ∈ range r, tileInt F (σ (a+1)) (σ a) (y b) (y (b+1)) =
      (intPlus F (σ (a+1)) (y r) - intPlus F (σ (a+1)) (y 0)) - (intPlus F (σ a) (y r) - intPlus F (σ a) (y 0)) := by
    intro a ha
    rw [sum_congr rfl fun b hb => tileInt_corners F _ _ _ _ (hσ a (mem_range.mp ha)) (hy b (mem_range.mp hb)),
      sum_sub_distrib, sum_range_sub (fun b => intPlus F (σ (a+1)) (y b)), sum_range_sub (fun b => intPlus F (σ a) (y b))]
  rw [sum_congr rfl row, sum_range_sub (fun a => intPlus F (σ a) (y r) - intPlus F (σ a) (y 0))]

theorem tileSum_split (F : ℚ → ℚ) (σ y : Nat → ℚ) (m r : Nat)
    (hσ : ∀ a, a < m → σ (a+1) ≤ σ a) (hy : ∀ b, b < r → y b ≤ y (b+1)) (h0 : y 0 ≤ σ 0) :
    tileSum F σ y m r = intPlus F (σ m) (y r) - intPlus F (σ m) (y 0) - intPlus F (σ 0) (y r) := by
  rw [tileSum_corners F σ y m r hσ hy, show intPlus F (σ 0) (y 0) = 0 from if_neg (not_lt.mpr h0), sub_zero]

theorem le_of_steps (y : Nat → ℚ) (r : Nat) (h : ∀ b, b < r → y b ≤ y (b+1)) : y 0 ≤ y r := by
  induction r with
  | zero => exact le_refl _
  | succ r ih => exact (ih fun b hb => h b (by omega)).trans (h r (by omega))

theorem tileSum_eq_tileInt (F : ℚ → ℚ) (σ y : Nat → ℚ) (m r : Nat)
    (hσ : ∀ a, a < m → σ (a+1) ≤ σ a) (hy : ∀ b, b < r → y b ≤ y (b+1)) :
    tileSum F σ y m r = tileInt F (σ m) (σ 0) (y 0) (y r) := by
  rw [tileSum_corners F σ y m r hσ hy, tileInt_corners F _ _ _ _
    (neg_le_neg_iff.mp (le_of_steps (fun a => - σ a) m fun a ha => neg_le_neg (hσ a ha))) (le_of_steps y r hy)]

/-- antiderivative of `(X - A)^p (B - X)^q'` that vanishes at `A` (integration by parts, recursively) -/
noncomputable def betaPhi : Nat → Nat → ℚ → ℚ → ℚ[X]
  | p, 0, A, _ => C (1 / ((p:ℚ) + 1)) * (X - C A)^(p+1)
  | p, q'+1, A, B => C (1 / ((p:ℚ) + 1)) *
      ((X - C A)^(p+1) * (C B - X)^(q'+1) + C ((q':ℚ) + 1) * betaPhi (p+1) q' A B)

theorem betaPhi_eval_zero (p : Nat) (A B t : ℚ) :
    (betaPhi p 0 A B).eval t = (1 / ((p:ℚ) + 1)) * (t - A)^(p+1) := by
  rw [betaPhi]
  simp only [eval_mul, eval_C, eval_pow, eval_sub, eval_X]

theorem betaPhi_eval_succ (p q' : Nat) (A B t : ℚ) :
    (betaPhi p (q'+1) A B).eval t = (1 / ((p:ℚ) + 1)) *
      ((t - A)^(p+1) * (B - t)^(q'+1) + ((q':ℚ) + 1) * (betaPhi (p+1) q' A B).eval t) := by
  rw [betaPhi]
  simp only [eval_mul, eval_C, eval_pow, eval_sub, eval_X, eval_add]

theorem betaPhi_deriv (p q' : Nat) (A B t : ℚ) :
    (derivative (betaPhi p q' A B)).eval t = (t - A)^p * (B - t)^q' := by
  have h : 1 / ((p:ℚ) + 1) * ((p:ℚ) + 1) = 1 := one_div_mul_cancel (by positivity)
  induction q' generalizing p with
  | zero =>
    rw [betaPhi]
    simp only [derivative_mul, derivative_C, derivative_pow, derivative_sub, derivative_X,
      eval_mul, eval_C, eval_pow, eval_sub, eval_X, eval_add, eval_zero, eval_one,
      Nat.add_sub_cancel]
    push_cast
    linear_combination (t - A)^p * h
  | succ q' ih =>
    rw [betaPhi]
    simp only [derivative_mul, derivative_C, derivative_pow, derivative_sub, derivative_X, derivative_add,
      eval_mul, eval_C, eval_pow, eval_sub, eval_X, eval_add, eval_zero, eval_one,
      Nat.add_sub_cancel, ih (p+1) (one_div_mul_cancel (by positivity))]
    push_cast
    linear_combination (t - A)^p * (B - t)^(q'+1) * h

theorem betaPhi_eval_left (p q' : Nat) (A B : ℚ) : (betaPhi p q' A B).eval A = 0 := by
  induction q' generalizing p with
  | zero => rw [betaPhi_eval_zero]; simp
  | succ q' ih => rw [betaPhi_eval_succ, ih]; simp

theorem betaPhi_eval_right (p q' : Nat) (A B : ℚ) :
    (betaPhi p q' A B).eval B =
      ((p.factorial : ℚ) * q'.factorial / (p + q' + 1).factorial) * (B - A)^(p + q' + 1) := by
  have h : 1 / ((p:ℚ) + 1) * ((p:ℚ) + 1) = 1 := one_div_mul_cancel (by positivity)
  induction q' generalizing p with
  | zero =>
    have hf : (p.factorial : ℚ) ≠ 0 := by positivity
    rw [betaPhi_eval_zero, Nat.add_zero, Nat.factorial_succ, Nat.factorial_zero]
    push_cast
    field_simp
  | succ q' ih =>
    rw [betaPhi_eval_succ, ih (p+1) (one_div_mul_cancel (by positivity)), sub_self, zero_pow (Nat.succ_ne_zero q'), mul_zero,
      zero_add, show p + 1 + q' + 1 = p + (q' + 1) + 1 by omega, Nat.factorial_succ p, Nat.factorial_succ q']
    push_cast
    linear_combination (((q':ℚ) + 1) * (p.factorial * q'.factorial / (p + (q'+1) + 1).factorial * (B - A)^(p + (q'+1) + 1))) * h

/-- the integral from `D` to `B`, through the antiderivative of the reflected integrand that vanishes at `-B` -/
theorem betaPhi_reflect (p q' : Nat) (A B D : ℚ) :
    (betaPhi p q' A B).eval B - (betaPhi p q' A B).eval D = (betaPhi q' p (-B) (-A)).eval (-D) := by
  have h := eval_sub_eq_of_deriv (betaPhi p q' A B) (-(betaPhi q' p (-B) (-A)).comp (-X))
    (fun t => by
      simp only [derivative_neg, derivative_comp, derivative_X, eval_neg, eval_mul, eval_comp, eval_one, eval_X,
        betaPhi_deriv]
      ring) D B
  simp only [eval_neg, eval_comp, eval_X, betaPhi_eval_left] at h
  rw [h]; ring

/-- as a function of `B = y r - k`, the value at a fixed point has degree at most `q'` -/
theorem dd_betaPhi_right (y : Nat → ℚ) (A Cc k : ℚ) : ∀ (q' p n o : Nat), q' + 2 ≤ n → DistinctOn y o n →
    divdiff y (fun r => (betaPhi p q' A (y r - k)).eval Cc) n o = 0
  | 0, p, n, o, hn, _ => by
    obtain ⟨j, rfl⟩ : ∃ j, n = j + 2 := ⟨n - 2, by omega⟩
    simp only [betaPhi_eval_zero]
    exact dd_const y _ j o
  | q'+1, p, n, o, hn, hd => by
    have e : (fun r => (betaPhi p (q'+1) A (y r - k)).eval Cc) =
        fun r => ((1 / ((p:ℚ) + 1)) * (Cc - A)^(p+1)) * linProd (fun _ => Cc + k) (q'+1) (y r)
          + ((1 / ((p:ℚ) + 1)) * ((q':ℚ) + 1)) * (betaPhi (p+1) q' A (y r - k)).eval Cc := by
      funext r
      rw [betaPhi_eval_succ, linProd_const]
      ring
    rw [e, dd_add, dd_smul, dd_smul, dd_linProd_zero y _ (q'+1) n o hd (by omega),
      dd_betaPhi_right y A Cc k q' (p+1) n o (by omega) hd]
    ring

theorem intPlus_betaPhi_main (p q' : Nat) (A B : ℚ) :
    intPlus (fun t => (betaPhi p q' A B).eval t) A B =
      ((p.factorial : ℚ) * q'.factorial / (p + q' + 1).factorial) * pospow (B - A) (p + q' + 1) := by
  unfold pospow
  simp only [intPlus]
  by_cases h : A < B
  · rw [if_pos h, if_pos (sub_pos.mpr h), betaPhi_eval_left, betaPhi_eval_right, sub_zero]
  · rw [if_neg h, if_neg (by rwa [sub_pos]), mul_zero]

theorem intPlus_betaPhi_left (p q' : Nat) (A B Cc : ℚ) :
    intPlus (fun t => (betaPhi p q' A B).eval t) A Cc =
      (if A < Cc then 1 else 0) * (betaPhi p q' A B).eval Cc := by
  simp only [intPlus]
  split_ifs
  · rw [betaPhi_eval_left, sub_zero, one_mul]
  · rw [zero_mul]

theorem intPlus_betaPhi_right (p q' : Nat) (A B D : ℚ) :
    intPlus (fun t => (betaPhi p q' A B).eval t) D B =
      (if D < B then 1 else 0) * (betaPhi q' p (-B) (-A)).eval (-D) := by
  simp only [intPlus]
  split_ifs
  · rw [betaPhi_reflect, one_mul]
  · rw [zero_mul]

theorem tileSum_betaPhi (τ y : Nat → ℚ) (p q' m r : Nat) (x : ℚ)
    (hτ : ∀ a, a < m → τ a ≤ τ (a+1)) (hy : ∀ b, b < r → y b ≤ y (b+1)) (hx : τ 0 + y 0 ≤ x) :
    tileSum (fun t => (betaPhi p q' (x - τ m) (y r)).eval t) (fun a => x - τ a) y m r =
      ((p.factorial : ℚ) * q'.factorial / (p + q' + 1).factorial) * pospow (τ m + y r - x) (p + q' + 1)
      - (if x - τ m < y 0 then 1 else 0) * (betaPhi p q' (x - τ m) (y r)).eval (y 0)
      - (if x - τ 0 < y r then 1 else 0) * (betaPhi q' p (-y r) (τ m - x)).eval (τ 0 - x) := by
  rw [tileSum_split _ (fun a => x - τ a) y m r (fun a ha => by have := hτ a ha; linarith) hy (by linarith),
    intPlus_betaPhi_main, intPlus_betaPhi_left, intPlus_betaPhi_right, neg_sub, neg_sub,
    show y r - (x - τ m) = τ m + y r - x by ring]

theorem tileSum_dd2 (τ y : Nat → ℚ) (p q' j : Nat) (x : ℚ)
    (hτ : StrictBelow τ (j+p+2)) (hy : StrictBelow y (q'+2)) (hx : τ 0 + y 0 ≤ x) :
    dd2 τ y (fun m r => tileSum (fun t => (betaPhi p q' (x - τ m) (y r)).eval t) (fun a => x - τ a) y m r)
        (p+2) j (q'+2) 0
      = ((p.factorial : ℚ) * q'.factorial / (p + q' + 1).factorial) *
        dd2 τ y (fun m r => pospow (τ m + y r - x) (p + q' + 1)) (p+2) j (q'+2) 0 := by
  have hdτ : DistinctOn τ j (p+2) := hτ.distinctOn (by omega)
  have hdy : DistinctOn y 0 (q'+2) := hy.distinctOn (by omega)
  -- the first error term has low degree in `y r`, …
  have hE1 : dd2 τ y (fun m r => (if x - τ m < y 0 then 1 else 0) * (betaPhi p q' (x - τ m) (y r)).eval (y 0))
      (p+2) j (q'+2) 0 = 0 := by
    have h0 := fun A => dd_betaPhi_right y A (y 0) 0 q' p (q'+2) 0 (le_refl _) hdy
    simp only [sub_zero] at h0
    unfold dd2
    simp only [dd_smul, h0, mul_zero]
    exact dd_zero_fun τ _ _
  -- … the second in `τ m`
  have hE2 : dd2 τ y (fun m r => (if x - τ 0 < y r then 1 else 0) * (betaPhi q' p (-y r) (τ m - x)).eval (τ 0 - x))
      (p+2) j (q'+2) 0 = 0 := by
    rw [dd2_swap]
    unfold dd2
    simp only [dd_smul, dd_betaPhi_right τ _ (τ 0 - x) x p q' (p+2) j (le_refl _) hdτ, mul_zero]
    exact dd_zero_fun y _ _
  rw [dd2_congr τ y _ _ (p+2) j (q'+2) 0
    (fun m r _ hm _ hr => tileSum_betaPhi τ y p q' m r x
      (fun a ha => le_of_lt (hτ a (a+1) (by omega) (by omega)))
      (fun b hb => le_of_lt (hy b (b+1) (by omega) (by omega))) hx),
    dd2_sub, dd2_sub, dd2_smul, hE1, hE2, sub_zero, sub_zero]

end PsV
