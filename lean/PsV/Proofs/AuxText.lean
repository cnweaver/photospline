import PsV.Model.AuxKeys
/-!
The value token of a FITS string card (C16), on the model alone.  `dbl v` is `v` with every quote doubled and `quoted v`
that between two quotes: `ffs2c` writes `quoted` of the value padded with blanks to 8 characters (`ffs2c_eq`), the tail of
`ffpsvc` copies a `quoted` token whole (`valTail_quoted`), and `stripValue` gives the string back (`stripValue_quoted`).
Before that, what the proofs need of `blanks`, `lstrip` and `rstrip`.
-/
namespace PsV.Aux

theorem length_blanks (n : Nat) : (blanks n).length = n := List.length_replicate

theorem take_blanks (m n : Nat) : (blanks n).take m = blanks (min m n) := List.take_replicate

theorem eq_of_mem_blanks {n : Nat} {c : Char} (h : c ∈ blanks n) : c = ' ' := List.eq_of_mem_replicate h

theorem takeWhile_append_stop {α} (p : α → Bool) (a : List α) (b : α) (r : List α)
    (ha : ∀ c ∈ a, p c = true) (hb : p b = false) : (a ++ b :: r).takeWhile p = a := by
  rw [List.takeWhile_append_of_pos ha, List.takeWhile_cons_of_neg (Bool.eq_false_iff.mp hb), List.append_nil]

theorem lstrip_blanks_append (n : Nat) (l : List Char) : lstrip (blanks n ++ l) = lstrip l :=
  List.dropWhile_append_of_pos fun _ h => beq_iff_eq.mpr (eq_of_mem_blanks h)

theorem lstrip_of_head (l : List Char) (h : l.head? ≠ some ' ') : lstrip l = l := by
  cases l with
  | nil => rfl
  | cons c r => exact List.dropWhile_cons_of_neg fun hc => h (congrArg some (eq_of_beq hc))

theorem rstrip_pad (v : Str) (p : Nat) : rstrip (v ++ blanks p) = rstrip v := by
  unfold rstrip
  rw [List.reverse_append, blanks, List.reverse_replicate]
  exact congrArg List.reverse (lstrip_blanks_append p v.reverse)

theorem rstrip_of_getLast (l : List Char) (h : l.getLast? ≠ some ' ') : rstrip l = l := by
  unfold rstrip
  rw [show List.dropWhile (· == ' ') l.reverse = lstrip l.reverse from rfl,
    lstrip_of_head l.reverse (List.head?_reverse ▸ h), List.reverse_reverse]

theorem rstrip_append_blanks (l : List Char) (n : Nat) (h : l.getLast? ≠ some ' ') : rstrip (l ++ blanks n) = l :=
  (rstrip_pad l n).trans (rstrip_of_getLast l h)

/-- a string with every quote doubled -/
def dbl : List Char → List Char
  | [] => []
  | c :: r => if c == '\'' then c :: c :: dbl r else c :: dbl r

theorem length_dbl (v : Str) : (dbl v).length = v.length + countQuotes v := by
  unfold countQuotes
  fun_induction dbl v with
  | case1 => rfl
  | case2 c r hc ih =>
    rw [eq_of_beq hc, List.count_cons_self, List.length_cons, List.length_cons, List.length_cons, ih, Nat.add_add_add_comm]
  | case3 c r hc ih =>
    rw [List.count_cons_of_ne (by simpa using hc), List.length_cons, List.length_cons, ih, Nat.add_right_comm]

theorem length_le_dbl (v : Str) : v.length ≤ (dbl v).length :=
  length_dbl v ▸ Nat.le_add_right ..

theorem dbl_append (a b : List Char) : dbl (a ++ b) = dbl a ++ dbl b := by
  fun_induction dbl a with
  | case1 => rfl
  | case2 c r hc ih => rw [List.cons_append, dbl, if_pos hc, ih]; rfl
  | case3 c r hc ih => rw [List.cons_append, dbl, if_neg hc, ih]; rfl

theorem dbl_blanks (m : Nat) : dbl (blanks m) = blanks m := by
  induction m with
  | zero => rfl
  | succ m ih => exact congrArg (' ' :: ·) ih

theorem length_dbl_pad (v : Str) (p : Nat) : (dbl (v ++ blanks p)).length = (dbl v).length + p := by
  rw [dbl_append, dbl_blanks, List.length_append, length_blanks]

theorem undouble_dbl (w : Str) : undouble (dbl w) = w := by
  fun_induction dbl w with
  | case1 => rfl
  | case2 c r hc ih => rw [eq_of_beq hc, undouble, ih]
  | case3 c r hc ih =>
    rw [undouble, ih]
    exact fun _ h _ => hc (beq_iff_eq.mpr h)

/- `69` and `70` below are cfitsio's `FLEN_VALUE` (71, `C16.flenValue`) less 2 and less 1: `ffs2c` of the model carries them as
   literals, `psvcQ` takes the generated constant. -/
theorem s2cBody_eq (v : Str) (jj : Nat) (h : jj + (dbl v).length ≤ 69) : s2cBody v jj = dbl v := by
  fun_induction dbl v generalizing jj with
  | case1 => rfl
  | case2 c r hc ih =>
    have hj : ¬ jj ≥ 69 := Nat.not_le.mpr (Nat.lt_of_lt_of_le (Nat.lt_add_of_pos_right (Nat.succ_pos _)) h)
    rw [s2cBody, if_neg hj, if_pos hc, ih _ (by rw [Nat.add_assoc, Nat.add_comm 2]; exact h)]
  | case3 c r hc ih =>
    have hj : ¬ jj ≥ 69 := Nat.not_le.mpr (Nat.lt_of_lt_of_le (Nat.lt_add_of_pos_right (Nat.succ_pos _)) h)
    rw [s2cBody, if_neg hj, if_neg hc, ih _ (by rw [Nat.add_assoc, Nat.add_comm 1]; exact h)]

theorem ffs2c_eq (v : Str) (h : (dbl v).length ≤ 68) :
    ffs2c v = '\'' :: (dbl v ++ blanks (8 - (dbl v).length)) ++ ['\''] := by
  have h1 : 1 + (dbl v).length ≤ 69 := Nat.add_comm .. ▸ Nat.succ_le_succ h
  have h70 : max (1 + (dbl v).length) 9 ≠ 70 := Nat.ne_of_lt (Nat.lt_succ_of_le (Nat.max_le.mpr ⟨h1, by decide⟩))
  unfold ffs2c
  simp only [List.take_of_length_le (Nat.le_trans (length_le_dbl v) h), s2cBody_eq v 1 h1, beq_iff_eq, if_neg h70,
    Nat.sub_add_eq 9 1]

/-- `w.length + n + 1` is the fuel of `psvcQ`: a step for each character of `w` and one for the closing quote; `n` is slack -/
theorem psvcQ_quoted (w : Str) (n jj : Nat) (h : jj + (dbl w).length < 70) :
    psvcQ (w.length + n + 1) (dbl w ++ ['\'']) jj = dbl w ++ ['\''] := by
  have hq : ('\'' == '\'') = true := rfl
  fun_induction dbl w generalizing jj with
  | case1 => simp only [List.nil_append, psvcQ, hq, if_true, ite_self]
  | case2 c r hc ih =>
    have h1 : ¬ jj ≥ 71 - 1 := Nat.not_le.mpr (Nat.lt_of_le_of_lt (Nat.le_add_right ..) h)
    have h2 : jj + 1 < 71 - 1 := Nat.lt_of_le_of_lt (Nat.add_le_add_left (Nat.le_add_left 1 _) jj) h
    have h3 : jj + 2 + (dbl r).length < 70 := by rw [Nat.add_assoc, Nat.add_comm 2]; exact h
    simp only [List.length_cons, Nat.add_right_comm _ 1 n, eq_of_beq hc, List.cons_append, psvcQ, Gen.C16.flenValue, h1, h2,
      hq, if_false, if_true, ih (jj + 2) h3]
  | case3 c r hc ih =>
    have h1 : ¬ jj ≥ 71 - 1 := Nat.not_le.mpr (Nat.lt_of_le_of_lt (Nat.le_add_right ..) h)
    have h3 : jj + 1 + (dbl r).length < 70 := by rw [Nat.add_assoc, Nat.add_comm 1]; exact h
    simp only [List.length_cons, Nat.add_right_comm _ 1 n, List.cons_append, psvcQ, Gen.C16.flenValue, h1, hc,
      Bool.false_eq_true, if_false, ih (jj + 1) h3]

/-- a quoted FITS string: opening quote, the string with every quote doubled, closing quote -/
def quoted (w : Str) : List Char := '\'' :: (dbl w ++ ['\''])

theorem quoted_pad (v : Str) (p : Nat) : quoted (v ++ blanks p) = '\'' :: (dbl v ++ blanks p) ++ ['\''] := by
  rw [quoted, dbl_append, dbl_blanks]; rfl

theorem stripValue_quoted (w : Str) : stripValue (quoted w) = w := by
  have hlast : (quoted w).getLast? = some '\'' := List.getLast?_concat (l := '\'' :: dbl w)
  have hlen : (quoted w).length ≥ 2 := Nat.succ_le_succ (List.length_append ▸ Nat.le_add_left ..)
  rw [quoted] at hlast hlen
  simp only [quoted, stripValue, hlast, hlen, decide_true, Bool.and_self, BEq.rfl, if_true, List.dropLast_concat, undouble_dbl]

/-- the part of `ffpsvc` after the value position has been found -/
def valTail (l : List Char) : List Char :=
  match lstrip l with
  | [] => []
  | '\'' :: rest => '\'' :: psvcQ (rest.length + 1) rest 1
  | '/' :: _ => []
  | other => other.takeWhile fun c => c != ' ' && c != '/'

theorem valTail_quoted (n : Nat) (w : Str) (h : (dbl w).length ≤ 68) : valTail (blanks n ++ quoted w) = quoted w := by
  unfold valTail
  rw [lstrip_blanks_append, lstrip_of_head _ (by rw [quoted]; exact nofun), quoted]
  simp only
  rw [List.length_append, length_dbl, List.length_singleton, Nat.add_assoc w.length,
    psvcQ_quoted w _ 1 (Nat.add_comm .. ▸ Nat.succ_lt_succ (Nat.lt_succ_of_le h))]

end PsV.Aux
