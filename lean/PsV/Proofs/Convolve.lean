import PsV.Proofs.ConvLoops
import PsV.Proofs.ListBasics
import Mathlib.Data.Nat.Factorial.Basic
import Mathlib.Tactic.Linarith
/-!
What `convolve` does around its coefficient loops: `factorialC` and `convNorm` are the factorials while they fit 32 bits;
the new knot vector is the sorted list of the pairwise sums (`getK`, `pairSums`, `sortKnots`: what `ConvTransfer` and
`ConvStrom` ask of it); and what a successful `convolve` returns, shape, row-major strides and coefficients, is said once
(`convolve_result`).
-/
namespace PsV

variable {α : Type}

theorem factLoop_eq : ∀ (i acc : Nat), acc < 2^32 → factLoop i acc = (acc * i.factorial) % 2^32
  | 0, acc, h => by rw [factLoop, Nat.factorial_zero, Nat.mul_one, Nat.mod_eq_of_lt h]
  | 1, acc, h => by rw [factLoop, Nat.factorial_one, Nat.mul_one, Nat.mod_eq_of_lt h]
  | i+2, acc, h => by
    have hlt : (acc * (i + 2)) % 2^32 < 2^32 := Nat.mod_lt _ (by norm_num)
    rw [factLoop, factLoop_eq (i+1) _ hlt, Nat.mod_mul_mod, Nat.factorial_succ (i+1), Nat.mul_assoc]

theorem factorialC_eq (n : Nat) : factorialC n = n.factorial % 2^32 := by
  rw [factorialC, factLoop_eq n 1 (by norm_num), Nat.one_mul]

/-- `12! < 2^32 < 13!` -/
theorem factorialC_small (n : Nat) (h : n ≤ 12) : factorialC n = n.factorial := by
  rw [factorialC_eq]
  exact Nat.mod_eq_of_lt (lt_of_le_of_lt (Nat.factorial_le h) (by decide))

theorem convNorm_eq (k q : Nat) (hk : 1 ≤ k) (h : k + q - 1 ≤ 12) :
    (convNorm k q : Rat) = ((q.factorial * (k-1).factorial : Nat) : Rat) / (((k+q-1).factorial : Nat) : Rat) := by
  unfold convNorm
  rw [factorialC_small q (by omega), factorialC_small (k-1) (by omega), factorialC_small (k+q-1) h]
  -- the product of the two factorials divides `(k+q-1)!`, so it fits as well
  have hdvd : q.factorial * (k-1).factorial ∣ (k+q-1).factorial := by
    have := Nat.factorial_mul_factorial_dvd_factorial_add q (k-1)
    rwa [show q + (k - 1) = k + q - 1 by omega] at this
  have hle : q.factorial * (k-1).factorial ≤ (12).factorial :=
    le_trans (Nat.le_of_dvd (Nat.factorial_pos _) hdvd) (Nat.factorial_le h)
  rw [Nat.mod_eq_of_lt (lt_of_le_of_lt hle (by decide))]
  rfl

theorem rowMajor_length : ∀ l : List Nat, (rowMajor l).1.length = l.length
  | [] => rfl
  | _ :: ns => congrArg Nat.succ (rowMajor_length ns)

theorem rowMajor_total : ∀ l : List Nat, (rowMajor l).2 = l.prod
  | [] => rfl
  | n :: ns => by
    show (rowMajor ns).2 * n = (n :: ns).prod
    rw [rowMajor_total ns, List.prod_cons, Nat.mul_comm]

theorem rowMajor_stride : ∀ (l : List Nat) (i : Nat), i < l.length →
    (rowMajor l).1.getD i 0 = (l.drop (i+1)).prod
  | [], i, h => absurd h (Nat.not_lt_zero i)
  | _ :: ns, 0, _ => rowMajor_total ns
  | _ :: ns, i+1, h => rowMajor_stride ns i (Nat.lt_of_succ_lt_succ h)

theorem prodL_eq (l : List Nat) : prodL l = l.prod := List.prod_eq_foldl_nat.symm

theorem rowMajor_split (naxes : List Nat) (dim nNew : Nat) (h : dim < naxes.length) :
    (rowMajor (setAt naxes dim nNew)).2 =
      prodL ((setAt naxes dim nNew).take dim) * nNew * prodL ((setAt naxes dim nNew).drop (dim+1)) := by
  have hl : dim < (naxes.set dim nNew).length := by rw [List.length_set]; exact h
  rw [rowMajor_total, prodL_eq, prodL_eq]
  unfold setAt
  rw [Permute.prod_split _ hl, List.getElem_set_self, Nat.mul_assoc]

theorem getK_eq (l : List Rat) (i : Nat) (h : i < l.length) : getK l i = l[i] := by
  unfold getK
  exact getD_of_lt h

theorem getK_mono (rho : List Rat) (hs : rho.Pairwise (· ≤ ·)) (a b : Nat) (hab : a ≤ b) (hb : b < rho.length) :
    getK rho a ≤ getK rho b := by
  rcases Nat.eq_or_lt_of_le hab with h | h
  · subst h; exact le_refl _
  · rw [getK_eq rho a (by omega), getK_eq rho b hb]
    exact (List.pairwise_iff_getElem.mp hs) a b (by omega) hb h

theorem getK_strict (l : List Rat) (h : l.Pairwise (· < ·)) (a b : Nat) (hab : a < b) (hb : b < l.length) :
    getK l a < getK l b := by
  rw [getK_eq l a (by omega), getK_eq l b hb]
  exact (List.pairwise_iff_getElem.mp h) a b (by omega) hb hab

theorem pairSums_length [A : Arith α] (ks cks : List α) : (pairSums ks cks).length = ks.length * cks.length := by
  unfold pairSums
  induction ks with
  | nil => simp
  | cons a t ih => simp only [List.flatMap_cons, List.length_append, List.length_map, ih, List.length_cons]; ring

theorem mem_pairSums (ks cks : List Rat) (a b : Nat) (ha : a < ks.length) (hb : b < cks.length) :
    getK ks a + getK cks b ∈ pairSums ks cks := by
  unfold pairSums
  rw [List.mem_flatMap]
  refine ⟨ks[a], List.getElem_mem ha, ?_⟩
  rw [List.mem_map]
  exact ⟨cks[b], List.getElem_mem hb, by rw [getK_eq ks a ha, getK_eq cks b hb]; rfl⟩

theorem pairSums_head_lt (a : Rat) (ks : List Rat) (b : Rat) (cs : List Rat) (hk : (a :: ks).Pairwise (· < ·))
    (hc : (b :: cs).Pairwise (· < ·)) :
    ∃ rest, pairSums (a :: ks) (b :: cs) = (a + b) :: rest ∧ ∀ s ∈ rest, a + b < s := by
  have hka := List.pairwise_cons.mp hk
  have hcb := List.pairwise_cons.mp hc
  refine ⟨cs.map (fun y => a + y) ++ ks.flatMap (fun a' => (b :: cs).map (fun y => a' + y)), ?_, fun s hs' => ?_⟩
  · simp only [pairSums, List.flatMap_cons, List.map_cons, List.cons_append]
    rfl
  · rcases List.mem_append.mp hs' with h | h
    · obtain ⟨y, hy, rfl⟩ := List.mem_map.mp h
      exact add_lt_add_right (hcb.1 y hy) a
    · obtain ⟨a', ha', h⟩ := List.mem_flatMap.mp h
      obtain ⟨y, hy, rfl⟩ := List.mem_map.mp h
      refine add_lt_add_of_lt_of_le (hka.1 a' ha') ?_
      rcases List.mem_cons.mp hy with h | h
      exacts [h.ge, (hcb.1 y h).le]

theorem pairSums_lower (ks cks : List Rat) (hk : ks.Pairwise (· < ·)) (hc : cks.Pairwise (· < ·))
    (s : Rat) (hs : s ∈ pairSums ks cks) : getK ks 0 + getK cks 0 ≤ s := by
  match ks, cks, hk, hc, hs with
  | [], _, _, _, hs => simp [pairSums] at hs
  | _ :: _, [], _, _, hs => simp [pairSums] at hs
  | a :: ks', b :: cs', hk, hc, hs =>
    obtain ⟨rest, hform, hrest⟩ := pairSums_head_lt a ks' b cs' hk hc
    rw [hform] at hs
    show a + b ≤ s
    rcases List.mem_cons.mp hs with rfl | h
    exacts [le_refl _, (hrest s h).le]

theorem sortKnots_perm (l : List Rat) : (sortKnots l).Perm l := List.mergeSort_perm _ _

theorem sortKnots_sorted (l : List Rat) : (sortKnots l).Pairwise (· ≤ ·) := by
  unfold sortKnots
  have h := List.pairwise_mergeSort (le := fun a b : Rat => Arith.le a b)
    (by intro a b c hab hbc
        exact decide_eq_true (le_trans (of_decide_eq_true hab) (of_decide_eq_true hbc)))
    (by intro a b
        rcases le_total a b with h | h
        · exact (Bool.or_eq_true _ _).mpr (Or.inl (decide_eq_true h))
        · exact (Bool.or_eq_true _ _).mpr (Or.inr (decide_eq_true h))) l
  exact h.imp (fun hab => of_decide_eq_true hab)

theorem restride_getElem? (l : List (CDim α)) (strides : List Nat) (j : Nat) :
    (restride l strides)[j]? = (l[j]?).map fun e => { e with stride := strides.getD j 0 } := by
  unfold restride
  rw [List.getElem?_map, List.getElem?_zipIdx]
  cases l[j]? <;> simp

theorem restride_length (l : List (CDim α)) (strides : List Nat) : (restride l strides).length = l.length := by
  unfold restride; rw [List.length_map, List.length_zipIdx]

theorem restride_naxes (l : List (CDim α)) (strides : List Nat) :
    (restride l strides).map (·.naxes) = l.map (·.naxes) := by
  apply List.ext_getElem?
  intro j
  rw [List.getElem?_map, restride_getElem?, List.getElem?_map]
  cases l[j]? <;> rfl

theorem setAt_self {β : Type} (l : List β) (i : Nat) (v : β) (h : i < l.length) : (setAt l i v)[i]? = some v := by
  unfold setAt; exact List.getElem?_set_self h

theorem setAt_ne {β : Type} (l : List β) (i j : Nat) (v : β) (h : j ≠ i) : (setAt l i v)[j]? = l[j]? := by
  unfold setAt; exact List.getElem?_set_ne (Ne.symm h)

theorem setAt_length {β : Type} (l : List β) (i : Nat) (v : β) : (setAt l i v).length = l.length :=
  List.length_set

theorem setAt_map_naxes (l : List (CDim α)) (i : Nat) (v : CDim α) :
    (setAt l i v).map (·.naxes) = setAt (l.map (·.naxes)) i v.naxes := by
  exact List.map_set

theorem convolve_some (T : CTable Rat) (dim : Nat) (ck : List Rat) (d : CDim Rat) (hd : T.dims[dim]? = some d) :
    ∃ R, convolve T dim ck = some R := by
  unfold convolve
  simp only [hd]
  exact ⟨_, rfl⟩

/-- row-major strides, index by index: the form in which the statements about tables assume them -/
@[reducible] def RowMajorIdx (ds : List (CDim Rat)) : Prop :=
  ∀ j e, ds[j]? = some e → e.stride = ((ds.map (·.naxes)).drop (j+1)).prod

theorem RowMajorIdx.head {e : CDim Rat} {es : List (CDim Rat)} (h : RowMajorIdx (e :: es)) :
    e.stride = (es.map (·.naxes)).prod := h 0 e rfl

theorem RowMajorIdx.tail {e : CDim Rat} {es : List (CDim Rat)} (h : RowMajorIdx (e :: es)) : RowMajorIdx es :=
  fun j e' he' => h (j+1) e' he'

/-- What a successful `convolve` returns: every other dimension as it was, row-major strides, at `dim` the dimension
of the sorted pairwise sums, and as coefficients the mode product of the old coefficients with the transfer matrix
along `dim` (`i`, `k`: the combined indices of the dimensions before / after `dim`). -/
theorem convolve_result (T : CTable Rat) (dim : Nat) (ck : List Rat) (d : CDim Rat) (R : CTable Rat)
    (hd : T.dims[dim]? = some d) (hk : d.knots.length = d.nknots) (hR : convolve T dim ck = some R) :
    R.dims.length = T.dims.length ∧
    (∀ j e, j ≠ dim → T.dims[j]? = some e → ∃ e', R.dims[j]? = some e' ∧ e'.order = e.order ∧
       e'.nknots = e.nknots ∧ e'.naxes = e.naxes ∧ e'.knots = e.knots ∧ e'.extLo = e.extLo ∧ e'.extHi = e.extHi) ∧
    RowMajorIdx R.dims ∧
    R.coef.size = (R.dims.map (·.naxes)).prod ∧
    ∃ d', R.dims[dim]? = some d' ∧
      d'.knots = sortKnots (pairSums d.knots ck) ∧ d'.order = d.order + ck.length - 1 ∧
      d'.naxes = d'.knots.length - d'.order - 1 ∧ d'.nknots = d'.knots.length ∧
      ∀ i l k, i < prodL ((T.dims.map (·.naxes)).take dim) → l < d'.naxes →
        k < prodL ((T.dims.map (·.naxes)).drop (dim+1)) →
        R.coef.getD (i * prodL ((T.dims.map (·.naxes)).drop (dim+1)) * d'.naxes
            + l * prodL ((T.dims.map (·.naxes)).drop (dim+1)) + k) 0 =
          ∑ j ∈ Finset.range d.naxes,
            trafoEntry d.knots ck d'.knots (d.order+1) (ck.length-1) (convNorm (d.order+1) (ck.length-1)) l j *
              T.coef.getD (i * prodL ((T.dims.map (·.naxes)).drop (dim+1)) * d.naxes
                + j * prodL ((T.dims.map (·.naxes)).drop (dim+1)) + k) 0 := by
  have hdim : dim < T.dims.length := (List.getElem?_eq_some_iff.mp hd).1
  have htake : d.knots.take d.nknots = d.knots := List.take_of_length_le (by omega)
  have hnaxlen : dim < (T.dims.map (·.naxes)).length := by rw [List.length_map]; exact hdim
  unfold convolve at hR
  simp only [hd, htake] at hR
  obtain rfl := Option.some.inj hR
  refine ⟨?_, ?_, ?_, ?_, ?_⟩
  · rw [restride_length, setAt_length]
  · intro j e hj he
    rw [restride_getElem?, setAt_ne _ _ _ _ hj, he]
    exact ⟨_, rfl, rfl, rfl, rfl, rfl, rfl, rfl⟩
  · intro j e' he'
    rw [restride_getElem?] at he'
    obtain ⟨e, hq, he⟩ := Option.map_eq_some_iff.mp he'
    have hj := (List.getElem?_eq_some_iff.mp hq).1
    rw [setAt_length] at hj
    rw [restride_naxes, setAt_map_naxes, ← he]
    exact rowMajor_stride _ j (by rw [setAt_length, List.length_map]; exact hj)
  · show (coefLoops _ _ _ _ _ _ _).size = _
    rw [coefLoops_size, Array.size_replicate, rowMajor_total, restride_naxes, setAt_map_naxes]
  rw [restride_getElem?, setAt_self _ _ _ hdim]
  refine ⟨_, rfl, rfl, rfl, rfl, rfl, ?_⟩
  intro i l k hi hl hk'
  dsimp only at hl ⊢
  generalize (sortKnots (pairSums d.knots ck)).length - (d.order + ck.length - 1) - 1 = nNew at hl ⊢
  have hs1 : prodL ((setAt (T.dims.map (·.naxes)) dim nNew).take dim) = prodL ((T.dims.map (·.naxes)).take dim) := by
    unfold setAt; rw [List.take_set_of_le (le_refl _)]
  have hs2 : prodL ((setAt (T.dims.map (·.naxes)) dim nNew).drop (dim+1)) = prodL ((T.dims.map (·.naxes)).drop (dim+1)) := by
    unfold setAt; rw [List.drop_set_of_lt (by omega)]
  rw [rowMajor_split _ dim nNew hnaxlen, hs1, hs2, Nat.mul_assoc]
  generalize prodL ((T.dims.map (·.naxes)).take dim) = s1 at hi ⊢
  generalize prodL ((T.dims.map (·.naxes)).drop (dim+1)) = s2 at hk' ⊢
  rw [Array.getD_eq_getD_getElem?, coefLoops_cell_rat _ _ s1 s2 nNew d.naxes _ i l k hi hl hk' (cell_index_lt hi hl hk').2,
    Option.getD_some]
  exact Finset.sum_congr rfl fun j hj =>
    congrArg (· * _) (trafoMatrix_getD _ _ _ _ _ _ _ _ l j hl (Finset.mem_range.mp hj))

theorem convolve_dims_wf (T : CTable Rat) (dim : Nat) (ck : List Rat) (d : CDim Rat) (R : CTable Rat)
    (hd : T.dims[dim]? = some d) (hk : d.knots.length = d.nknots)
    (hwf : ∀ e ∈ T.dims, e.naxes = e.nknots - e.order - 1)
    (hR : convolve T dim ck = some R) :
    ∀ e' ∈ R.dims, e'.naxes = e'.nknots - e'.order - 1 := by
  obtain ⟨hlen, hother, -, -, d', hd', -, -, hna, hnk, -⟩ := convolve_result T dim ck d R hd hk hR
  intro e' he'
  obtain ⟨j, hj, hje⟩ := List.getElem_of_mem he'
  have hj' : R.dims[j]? = some e' := by rw [List.getElem?_eq_getElem hj, hje]
  by_cases hjd : j = dim
  · subst hjd
    obtain rfl : d' = e' := Option.some.inj (hd'.symm.trans hj')
    rw [hnk]
    exact hna
  · have hjT : j < T.dims.length := by omega
    obtain ⟨e'', he'', ho, hn, hx, _⟩ := hother j T.dims[j] hjd (List.getElem?_eq_getElem hjT)
    obtain rfl : e'' = e' := Option.some.inj (he''.symm.trans hj')
    rw [ho, hn, hx]
    exact hwf _ (List.getElem_mem hjT)

end PsV
