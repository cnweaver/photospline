import PsV.Proofs.FitDiffs
import PsV.Proofs.NormalEq
import PsV.Proofs.ListBasics
import PsV.Proofs.TensorSum
/-!
# C09: the objective of `PsV/Spec/Fit.lean` is the quadratic `cᵀMc − 2rᵀc + k` of the normal equations

`Mf P`, `rf P` are the entry functions of `specM P`, `specR P`; `penaltyGram` is `Σ_d λ_d K_dᵀK_d` with `Finset` sums.
The rows of `K_d` are derivative coefficients of unit vectors on the lines of the coefficient tensor, so the penalty is
the quadratic form of `penaltyGram`, `vᵀMv = Σ_r w_r (Bv)_r² + penalty` and `objective = fullObj`; hence, by `NormalEq`, a
solution of the normal equations of a well-posed problem is the unique minimiser, and data generated by `c0` with a
penalty blind to `c0` make `c0` a solution.  The data enter only through `List` sums over the rows of summands that
vanish with the weight: order and rows of weight 0 do not matter.
-/
namespace PsV
open Finset NormalEq

section
variable {α : Type} [Field α] [LinearOrder α] [A : Arith α] [L : LawfulArith α]

/-- entry function of the normal matrix -/
def Mf (P : FitProblem α) : Nat → Nat → α := fun i j => (specM P).get i j
/-- entry function of the right-hand side -/
def rf (P : FitProblem α) : Nat → α := fun i => (specR P).getD i 0

/-- `(B v)_r` -/
def fitVal (P : FitProblem α) (v : Nat → α) (r : Nat) : α := ∑ i ∈ range P.ncoef, designEntry P r i * v i

omit [Field α] [LinearOrder α] L in
theorem designTab_get (P : FitProblem α) (r i : Nat) (hr : r < P.rows.size) (hi : i < P.ncoef) :
    (designTab P).get r i = designEntry P r i := tab2_get_ofFn _ hr hi

/-- number of rows of `K_d`: `outer · (n − p) · s` -/
def penaltyNK (d : Dim α) (p N : Nat) : Nat := (N / (d.naxes * d.stride)) * (d.naxes - p) * d.stride

/-- `Σ_d λ_d Σ_q K_d[q,i] K_d[q,j]` over the parallel lists dims / smooth / porder -/
def penaltyGram : List (Dim α) → List α → List Nat → Nat → Nat → Nat → α
  | d :: ds, l :: ls, p :: ps, N, i, j =>
    l * (∑ q ∈ range (penaltyNK d p N),
          penaltyRow d.knots d.order p d.naxes d.stride q i * penaltyRow d.knots d.order p d.naxes d.stride q j)
      + penaltyGram ds ls ps N i j
  | _, _, _, _, _, _ => 0

omit [LinearOrder α] L in
theorem penaltyGram_step (d : Dim α) (ds : List (Dim α)) (l : α) (ls : List α) (p : Nat) (ps : List Nat) (N i j : Nat) :
    penaltyGram (d :: ds) (l :: ls) (p :: ps) N i j
      = l * (∑ q ∈ range (penaltyNK d p N),
          penaltyRow d.knots d.order p d.naxes d.stride q i * penaltyRow d.knots d.order p d.naxes d.stride q j)
        + penaltyGram ds ls ps N i j := rfl

/- The penalty definitions walk `dims` / `smooth` / `porder` in parallel and stop where the shortest ends; the lemmas
about them recurse the same way, and where a list ends both sides are the empty sum. -/
theorem penaltyEntry_eq (N i j : Nat) (hi : i < N) (hj : j < N) :
    ∀ (ds : List (Dim α)) (ls : List α) (ps : List Nat),
      penaltyEntry (penaltyTabs ds ps N) ls i j = penaltyGram ds ls ps N i j
  | [], _, _ | _ :: _, [], [] | _ :: _, _ :: _, [] | _ :: _, [], _ :: _ => L.zero_eq
  | d :: ds, l :: ls, p :: ps => by
    simp only [penaltyTabs, penaltyEntry, penaltyGram]
    rw [L.add_eq, L.mul_eq, sumTo_eq_sum, penaltyEntry_eq N i j hi hj ds ls ps]
    congr 2
    refine sum_congr rfl (fun q hq => ?_)
    have hq' : q < (N / (d.naxes * d.stride)) * (d.naxes - p) * d.stride := mem_range.1 hq
    rw [L.mul_eq, tab2_get_ofFn _ hq' hi, tab2_get_ofFn _ hq' hj]

omit [LinearOrder α] L in
theorem penaltyGram_symm (N i j : Nat) : ∀ (ds : List (Dim α)) (ls : List α) (ps : List Nat),
    penaltyGram ds ls ps N i j = penaltyGram ds ls ps N j i
  | [], _, _ | _ :: _, [], _ | _ :: _, _ :: _, [] => rfl
  | d :: ds, l :: ls, p :: ps => by
    rw [penaltyGram_step, penaltyGram_step, penaltyGram_symm N i j ds ls ps]
    congr 2
    exact sum_congr rfl (fun q _ => mul_comm _ _)

theorem Mf_eq (P : FitProblem α) (i j : Nat) (hi : i < P.ncoef) (hj : j < P.ncoef) :
    Mf P i j = ∑ r ∈ range P.rows.size, rowW P r * designEntry P r i * designEntry P r j
        + penaltyGram P.dims P.smooth P.porder P.ncoef i j := by
  unfold Mf specM
  rw [tab2_get_ofFn _ hi hj, L.add_eq, sumTo_eq_sum, penaltyEntry_eq _ i j hi hj]
  congr 1
  refine sum_congr rfl (fun r hr => ?_)
  have hr' := mem_range.1 hr
  rw [L.mul_eq, L.mul_eq, designTab_get P r i hr' hi, designTab_get P r j hr' hj]

theorem rf_eq (P : FitProblem α) (i : Nat) (hi : i < P.ncoef) :
    rf P i = ∑ r ∈ range P.rows.size, rowW P r * rowZ P r * designEntry P r i := by
  unfold rf specR
  rw [Array.getD_ofFn _ hi, sumTo_eq_sum]
  refine sum_congr rfl (fun r hr => ?_)
  rw [L.mul_eq, L.mul_eq, designTab_get P r i (mem_range.1 hr) hi]

theorem specM_symm (P : FitProblem α) : Symm P.ncoef (Mf P) := by
  intro i hi j hj
  rw [Mf_eq P i j hi hj, Mf_eq P j i hj hi, penaltyGram_symm]
  congr 1
  exact sum_congr rfl (fun r _ => by ring)

/-- row `(a·(n−p) + k)·s + b` of `K_d` is derivative coefficient `k` of the line `(a, ·, b)`, read as a linear form: column
`i` holds the coefficient of the unit vector at `i` -/
theorem penaltyRow_line (t : Int → α) (order p n s a k b i : Nat) (hk : k < n - p) (hb : b < s) :
    penaltyRow t order p n s ((a * (n - p) + k) * s + b) i
      = derivCoef t order p (fun m => if a * n * s + m * s + b = i then 1 else 0) k := by
  unfold penaltyRow
  simp only [Nat.mul_add_mod_of_lt hb, Permute.block_mid a hk hb,
    (Nat.mul_comm s (n - p) ▸ Permute.block_div a hk hb : ((a * (n - p) + k) * s + b) / (s * (n - p)) = a), L.one_eq, L.zero_eq]

variable [IsStrictOrderedRing α]

theorem penaltyRow_apply (t : Int → α) (order p n s outer N : Nat) (c : Nat → α) (a k b : Nat)
    (ha : a < outer) (hk : k < n - p) (hb : b < s) (hN : outer * n * s ≤ N) :
    ∑ i ∈ range N, penaltyRow t order p n s ((a * (n - p) + k) * s + b) i * c i
      = derivCoef t order p (fun m => c (a * n * s + m * s + b)) k := by
  simp only [penaltyRow_line t order p n s a k b _ hk hb]
  exact derivCoef_line t order p N c (fun m => a * n * s + m * s + b) k
    (fun m _ h2 => Nat.lt_of_lt_of_le (Nat.add_mul .. ▸ Permute.block_lt ha (show m < n by omega) hb) hN)

theorem penaltyTerm_eq (t : Int → α) (order p n s outer N : Nat) (c : Nat → α)
    (hN : outer * n * s ≤ N) :
    penaltyTerm t order p n s outer c
      = ∑ q ∈ range (outer * (n - p) * s), (∑ i ∈ range N, penaltyRow t order p n s q i * c i) ^ 2 := by
  unfold penaltyTerm
  simp only [sumTo_eq_sum, L.mul_eq]
  rw [Permute.sum_range_mul, Permute.sum_range_mul]
  refine sum_congr rfl (fun a ha => sum_congr rfl (fun k hk => sum_congr rfl (fun b hb => ?_)))
  rw [penaltyRow_apply t order p n s outer N c a k b (mem_range.1 ha) (mem_range.1 hk)
    (mem_range.1 hb) hN, sq]

theorem outer_mul_le (N n s : Nat) : N / (n * s) * n * s ≤ N := by
  rw [Nat.mul_assoc]; exact Nat.div_mul_le_self _ _

theorem penaltySum_cons (d : Dim α) (ds : List (Dim α)) (l : α) (ls : List α) (p : Nat) (ps : List Nat)
    (N : Nat) (c : Nat → α) :
    penaltySum (d :: ds) (l :: ls) (p :: ps) N c
      = l * (∑ q ∈ range (penaltyNK d p N),
              (∑ i ∈ range N, penaltyRow d.knots d.order p d.naxes d.stride q i * c i) ^ 2)
        + penaltySum ds ls ps N c := by
  rw [penaltySum, L.add_eq, L.mul_eq, penaltyTerm_eq _ _ _ _ _ _ N c (outer_mul_le N _ _)]
  rfl

theorem penaltySum_eq_quad : ∀ (ds : List (Dim α)) (ls : List α) (ps : List Nat) (N : Nat) (c : Nat → α),
    penaltySum ds ls ps N c = quad N (penaltyGram ds ls ps N) c
  | [], _, _, N, c | _ :: _, [], _, N, c | _ :: _, _ :: _, [], N, c => L.zero_eq.trans (quad_zero_mat N c).symm
  | d :: ds, l :: ls, p :: ps, N, c => by
    rw [penaltySum_cons, penaltySum_eq_quad ds ls ps N c,
      ← quad_gram N _ _ (penaltyRow d.knots d.order p d.naxes d.stride) (fun i _ j _ => rfl) c,
      ← quad_smul, ← quad_add]
    rfl

/-- the constant `Σ_r w_r z_r²` -/
def objConst (P : FitProblem α) : α := ∑ r ∈ range P.rows.size, rowW P r * rowZ P r ^ 2

theorem quad_Mf (P : FitProblem α) (v : Nat → α) :
    quad P.ncoef (Mf P) v
      = ∑ r ∈ range P.rows.size, rowW P r * fitVal P v r ^ 2
        + penaltySum P.dims P.smooth P.porder P.ncoef v := by
  unfold fitVal
  rw [quad_congr_mat _ v (fun i hi j hj => Mf_eq P i j hi hj), quad_add, quad_weighted_gram,
    ← penaltySum_eq_quad]

theorem objective_eq_fullObj (P : FitProblem α) (c : Nat → α) :
    objective P c = fullObj P.ncoef (Mf P) (rf P) (objConst P) c := by
  have hr : dot P.ncoef (rf P) c
      = dot P.ncoef (fun i => ∑ r ∈ range P.rows.size, rowW P r * rowZ P r * designEntry P r i) c :=
    sum_congr rfl (fun i hi => by rw [rf_eq P i (mem_range.1 hi)])
  -- both sides are sums over the data rows plus the penalty; per row `w (z − s)² = w s² − 2 w z s + w z²`
  rw [fullObj, objConst, quad_Mf, hr, dot_weighted, objective, L.add_eq, sumTo_eq_sum, add_sub_right_comm,
    add_right_comm, mul_sum, ← sum_sub_distrib, ← sum_add_distrib]
  congr 1
  refine sum_congr rfl (fun r _ => ?_)
  rw [L.mul_eq, L.mul_eq, L.sub_eq, sumTo_eq_sum]
  simp only [L.mul_eq, fitVal]
  ring

theorem fit_is_minimiser (P : FitProblem α) (c : Nat → α) (hP : PosDef P.ncoef (Mf P)) :
    ((∀ i < P.ncoef, mulVec P.ncoef (Mf P) c i = rf P i) ↔ ∀ c' : Nat → α, objective P c ≤ objective P c')
    ∧ ((∀ i < P.ncoef, mulVec P.ncoef (Mf P) c i = rf P i) →
        ∀ c' : Nat → α, objective P c' ≤ objective P c → ∀ i < P.ncoef, c' i = c i) := by
  simp only [objective_eq_fullObj P, objective_shift]
  exact ⟨normal_eq_minimises (specM_symm P) hP, fun hN c' hle => minimiser_unique (specM_symm P) hP hN hle⟩

/-- the direction every "… is the unique minimiser" statement of C09 uses -/
theorem unique_minimiser_of_normal_eq (P : FitProblem α) (c : Nat → α) (hP : PosDef P.ncoef (Mf P))
    (hN : ∀ i < P.ncoef, mulVec P.ncoef (Mf P) c i = rf P i) :
    (∀ c' : Nat → α, objective P c ≤ objective P c')
      ∧ ∀ c' : Nat → α, objective P c' ≤ objective P c → ∀ i < P.ncoef, c' i = c i :=
  ⟨(fit_is_minimiser P c hP).1.1 hN, (fit_is_minimiser P c hP).2 hN⟩

/-- what an assembly routine has to deliver, entry for entry, for its exact solve to be the fit -/
theorem unique_minimiser_of_system (P : FitProblem α) (hP : PosDef P.ncoef (Mf P)) (M' : Nat → Nat → α) (r' c : Nat → α)
    (hM : ∀ i < P.ncoef, ∀ j < P.ncoef, M' i j = Mf P i j) (hr : ∀ i < P.ncoef, r' i = rf P i)
    (hc : ∀ i < P.ncoef, mulVec P.ncoef M' c i = r' i) :
    (∀ c' : Nat → α, objective P c ≤ objective P c')
      ∧ ∀ c' : Nat → α, objective P c' ≤ objective P c → ∀ i < P.ncoef, c' i = c i :=
  unique_minimiser_of_normal_eq P c hP fun i hi =>
    (mulVec_congr_mat P.ncoef c i hi hM).symm.trans ((hc i hi).trans (hr i hi))

/-- for every dimension: `λ_d = 0`, or every row of `K_d` vanishes on `c` -/
def PenaltyVanishes : List (Dim α) → List α → List Nat → Nat → (Nat → α) → Prop
  | d :: ds, l :: ls, p :: ps, N, c =>
    (l = 0 ∨ ∀ q < penaltyNK d p N,
        ∑ i ∈ range N, penaltyRow d.knots d.order p d.naxes d.stride q i * c i = 0)
      ∧ PenaltyVanishes ds ls ps N c
  | _, _, _, _, _ => True

/-- for every dimension: the `p_d`-th derivative coefficients of every line of `c` along `d` vanish -/
def DerivVanishes : List (Dim α) → List Nat → Nat → (Nat → α) → Prop
  | d :: ds, p :: ps, N, c =>
    (∀ a < N / (d.naxes * d.stride), ∀ k < d.naxes - p, ∀ b < d.stride,
        derivCoef d.knots d.order p (fun m => c (a * d.naxes * d.stride + m * d.stride + b)) k = 0)
      ∧ DerivVanishes ds ps N c
  | _, _, _, _ => True

omit [LinearOrder α] [IsStrictOrderedRing α] L in
theorem penaltyVanishes_of_all_zero (N : Nat) (c : Nat → α) :
    ∀ (ds : List (Dim α)) (ls : List α) (ps : List Nat), (∀ l ∈ ls, l = 0) → PenaltyVanishes ds ls ps N c
  | [], _, _, _ | _ :: _, [], _, _ | _ :: _, _ :: _, [], _ => trivial
  | _ :: ds, l :: ls, _ :: ps, h =>
    ⟨Or.inl (h l List.mem_cons_self),
      penaltyVanishes_of_all_zero N c ds ls ps (fun x hx => h x (List.mem_cons_of_mem _ hx))⟩

theorem penaltyVanishes_of_deriv (N : Nat) (c : Nat → α) :
    ∀ (ds : List (Dim α)) (ls : List α) (ps : List Nat), DerivVanishes ds ps N c → PenaltyVanishes ds ls ps N c
  | [], _, _, _ | _ :: _, [], _, _ | _ :: _, _ :: _, [], _ => trivial
  | d :: ds, l :: ls, p :: ps, ⟨h1, h2⟩ => by
    refine ⟨Or.inr (fun q hq => ?_), penaltyVanishes_of_deriv N c ds ls ps h2⟩
    obtain ⟨a, ha, k, hk, b, hb, rfl⟩ := Permute.exists_block hq
    rw [penaltyRow_apply _ _ _ _ _ _ N c a k b ha hk hb (outer_mul_le N _ _)]
    exact h1 a ha k hk b hb

omit [LinearOrder α] [IsStrictOrderedRing α] L in
theorem mulVec_penaltyGram_zero (N : Nat) (c : Nat → α) (i : Nat) :
    ∀ (ds : List (Dim α)) (ls : List α) (ps : List Nat), PenaltyVanishes ds ls ps N c →
      mulVec N (penaltyGram ds ls ps N) c i = 0
  | [], _, _, _ | _ :: _, [], _, _ | _ :: _, _ :: _, [], _ => sum_eq_zero (fun _ _ => zero_mul _)
  | d :: ds, l :: ls, p :: ps, ⟨h1, h2⟩ => by
    rw [show penaltyGram (d :: ds) (l :: ls) (p :: ps) N = _ from
        funext fun i => funext fun j => penaltyGram_step d ds l ls p ps N i j, mulVec_add_mat, mulVec_smul_mat, mulVec_penaltyGram_zero N c i ds ls ps h2, add_zero, mulVec_gram]
    rcases h1 with h0 | hv
    · rw [h0, zero_mul]
    · rw [sum_eq_zero (fun q hq => by rw [hv q (mem_range.1 hq), mul_zero]), mul_zero]

omit [IsStrictOrderedRing α] in
theorem normal_eq_of_generated (P : FitProblem α) (c0 : Nat → α)
    (hz : ∀ r < P.rows.size, rowW P r ≠ 0 →
      rowZ P r = fitVal P c0 r)
    (hpen : PenaltyVanishes P.dims P.smooth P.porder P.ncoef c0) :
    ∀ i < P.ncoef, mulVec P.ncoef (Mf P) c0 i = rf P i := by
  intro i hi
  rw [mulVec_congr_mat P.ncoef c0 i hi (fun i hi j hj => Mf_eq P i j hi hj), mulVec_add_mat,
    mulVec_penaltyGram_zero _ _ _ _ _ _ hpen, add_zero, mulVec_weighted_gram, rf_eq P i hi]
  refine sum_congr rfl (fun r hr => ?_)
  by_cases hw : rowW P r = 0
  · rw [hw, zero_mul, zero_mul, zero_mul, zero_mul]
  · rw [hz r (mem_range.1 hr) hw, fitVal]
    ring

/-- row of the design matrix belonging to a datum -/
def rowB (dims : List (Dim α)) (coords : List (List α)) (row : FitRow α) (i : Nat) : α :=
  match gridPoint coords row.idx with
  | none => 0
  | some xs => basisProd dims xs i

omit [LinearOrder α] [IsStrictOrderedRing α] A L in
theorem sum_range_eq_list_sum {β : Type} (l : List β) (g : β → α) (F : Nat → α)
    (h : ∀ r x, l[r]? = some x → F r = g x) : ∑ r ∈ range l.length, F r = (l.map g).sum := by
  induction l generalizing F with
  | nil => simp
  | cons x l ih =>
    rw [List.length_cons, sum_range_succ', List.map_cons, List.sum_cons,
      ih (fun r => F (r + 1)) (fun r y hy => h (r + 1) y (by simpa using hy)),
      h 0 x (by simp), add_comm]

omit [LinearOrder α] [IsStrictOrderedRing α] A L in
theorem sum_rows_eq {β : Type} (rows : Array β) (g : β → α) (F : Nat → α)
    (h : ∀ r x, rows[r]? = some x → F r = g x) :
    ∑ r ∈ range rows.size, F r = (rows.toList.map g).sum := by
  rw [← Array.length_toList]
  exact sum_range_eq_list_sum rows.toList g F (fun r x hx => h r x (by simpa using hx))

omit [Field α] [LinearOrder α] [IsStrictOrderedRing α] L in
theorem rowW_of (P : FitProblem α) (r : Nat) (row : FitRow α) (h : P.rows[r]? = some row) :
    rowW P r = row.w := by unfold rowW; rw [h]
omit [Field α] [LinearOrder α] [IsStrictOrderedRing α] L in
theorem rowZ_of (P : FitProblem α) (r : Nat) (row : FitRow α) (h : P.rows[r]? = some row) :
    rowZ P r = row.z := by unfold rowZ; rw [h]
omit [IsStrictOrderedRing α] in
theorem designEntry_of (P : FitProblem α) (r i : Nat) (row : FitRow α) (h : P.rows[r]? = some row) :
    designEntry P r i = rowB P.dims P.coords row i := by
  unfold designEntry rowB
  rw [h]
  cases hg : gridPoint P.coords row.idx <;> simp [hg, L.zero_eq]

omit [IsStrictOrderedRing α] in
theorem Mf_list (P : FitProblem α) (i j : Nat) (hi : i < P.ncoef) (hj : j < P.ncoef) :
    Mf P i j = (P.rows.toList.map fun row =>
        row.w * rowB P.dims P.coords row i * rowB P.dims P.coords row j).sum
      + penaltyGram P.dims P.smooth P.porder P.ncoef i j := by
  rw [Mf_eq P i j hi hj]
  congr 1
  exact sum_rows_eq P.rows _ _ (fun r x hx => by
    rw [rowW_of P r x hx, designEntry_of P r i x hx, designEntry_of P r j x hx])

omit [IsStrictOrderedRing α] in
theorem rf_list (P : FitProblem α) (i : Nat) (hi : i < P.ncoef) :
    rf P i = (P.rows.toList.map fun row => row.w * row.z * rowB P.dims P.coords row i).sum := by
  rw [rf_eq P i hi]
  exact sum_rows_eq P.rows _ _ (fun r x hx => by
    rw [rowW_of P r x hx, rowZ_of P r x hx, designEntry_of P r i x hx])

omit [IsStrictOrderedRing α] in
theorem objective_list (P : FitProblem α) (c : Nat → α) :
    objective P c = (P.rows.toList.map fun row =>
        row.w * (row.z - ∑ i ∈ range P.ncoef, rowB P.dims P.coords row i * c i) ^ 2).sum
      + penaltySum P.dims P.smooth P.porder P.ncoef c := by
  unfold objective
  rw [L.add_eq, sumTo_eq_sum]
  congr 1
  refine sum_rows_eq P.rows _ _ (fun r x hx => ?_)
  simp only [sumTo_eq_sum, L.mul_eq, L.sub_eq]
  rw [rowW_of P r x hx, rowZ_of P r x hx, sq]
  congr 3 <;> exact sum_congr rfl (fun i _ => by rw [designEntry_of P r i x hx])

/-- `P'` has the same spline space and penalty as `P`, and its data rows give the same sum for every
summand that vanishes with the weight -/
def RowsEquiv (P P' : FitProblem α) : Prop :=
  P'.dims = P.dims ∧ P'.coords = P.coords ∧ P'.smooth = P.smooth ∧ P'.porder = P.porder ∧
    ∀ g : FitRow α → α, (∀ row, row.w = 0 → g row = 0) →
      (P'.rows.toList.map g).sum = (P.rows.toList.map g).sum

omit [IsStrictOrderedRing α] in
theorem rowsEquiv_same (P P' : FitProblem α) (h : RowsEquiv P P') :
    P'.ncoef = P.ncoef ∧ (∀ i < P.ncoef, ∀ j < P.ncoef, Mf P' i j = Mf P i j)
      ∧ (∀ i < P.ncoef, rf P' i = rf P i) ∧ ∀ c, objective P' c = objective P c := by
  obtain ⟨hd, hc, hs, hp, hg⟩ := h
  have hn : P'.ncoef = P.ncoef := by unfold FitProblem.ncoef; rw [hd]
  refine ⟨hn, ?_, ?_, ?_⟩
  · intro i hi j hj
    rw [Mf_list P i j hi hj, Mf_list P' i j (hn ▸ hi) (hn ▸ hj), hd, hc, hs, hp, hn,
      hg _ (fun row h0 => by rw [h0, zero_mul, zero_mul])]
  · intro i hi
    rw [rf_list P i hi, rf_list P' i (hn ▸ hi), hd, hc,
      hg _ (fun row h0 => by rw [h0, zero_mul, zero_mul])]
  · intro c
    rw [objective_list P c, objective_list P' c, hd, hc, hs, hp, hn,
      hg _ (fun row h0 => by rw [h0, zero_mul])]

omit [LinearOrder α] [IsStrictOrderedRing α] A L in
theorem filter_map_sum {β : Type} (l : List β) (g : β → α) (pr : β → Bool)
    (h : ∀ x, pr x = false → g x = 0) : ((l.filter pr).map g).sum = (l.map g).sum := by
  induction l with
  | nil => rfl
  | cons x l ih =>
    cases hx : pr x
    · rw [List.filter_cons_of_neg (by simp [hx]), ih, List.map_cons, List.sum_cons, h x hx, zero_add]
    · rw [List.filter_cons_of_pos hx, List.map_cons, List.sum_cons, ih, List.map_cons, List.sum_cons]

omit [IsStrictOrderedRing α] in
theorem rowsEquiv_filter (P : FitProblem α) :
    RowsEquiv P { P with rows := P.rows.filter (fun row => !isZero row.w) } := by
  refine ⟨rfl, rfl, rfl, rfl, ?_⟩
  intro g hg
  show ((P.rows.filter (fun row => !isZero row.w)).toList.map g).sum = _
  rw [Array.toList_filter]
  refine filter_map_sum _ g _ (fun x hx => hg x ?_)
  have : isZero x.w = true := by simpa using hx
  exact (isZero_iff x.w).1 this

end

/-! ## a concrete problem over `Rat`

One dimension, order 1 (hat functions) on the knots `0,1,2,3`, two coefficients; data `z = 1` at
`x = 1` and `x = 2` with weight 1, one datum `z = 5` at `x = 3/2` with weight 0; `λ = 1`, penalty
order 1.  `B = [[1,0],[0,1],[½,½]]`, `K = [[−1,1]]`, `M = [[2,−1],[−1,2]]`, `r = (1,1)`, minimiser `(1,1)`. -/
section Example

def exDim : Dim Rat := ⟨1, 4, 2, 1, fun i => (i : Rat)⟩
def exP : FitProblem Rat :=
  { dims := [exDim], coords := [[1, 3/2, 2]],
    rows := #[⟨[0], 1, 1⟩, ⟨[2], 1, 1⟩, ⟨[1], 5, 0⟩],
    smooth := [1], porder := [1] }
/-- the same problem with the data rows in another order -/
def exPperm : FitProblem Rat := { exP with rows := #[⟨[2], 1, 1⟩, ⟨[0], 1, 1⟩, ⟨[1], 5, 0⟩] }
/-- the same problem without smoothing -/
def exP0 : FitProblem Rat := { exP with smooth := [0] }

theorem exP_ncoef : exP.ncoef = 2 := by decide
theorem exP_M00 : Mf exP 0 0 = 2 := by decide +kernel
theorem exP_M01 : Mf exP 0 1 = -1 := by decide +kernel
theorem exP_M10 : Mf exP 1 0 = -1 := by decide +kernel
theorem exP_M11 : Mf exP 1 1 = 2 := by decide +kernel
theorem exP_r0 : rf exP 0 = 1 := by decide +kernel
theorem exP_r1 : rf exP 1 = 1 := by decide +kernel

theorem exP_quad (v : Nat → Rat) : quad exP.ncoef (Mf exP) v = v 0 ^ 2 + v 1 ^ 2 + (v 1 - v 0) ^ 2 := by
  rw [exP_ncoef]
  simp only [quad, mulVec, sum_range_succ, sum_range_zero, exP_M00, exP_M01, exP_M10, exP_M11]
  ring

theorem exP_normal : ∀ i < exP.ncoef, mulVec exP.ncoef (Mf exP) (fun _ => 1) i = rf exP i := by
  rw [exP_ncoef]
  intro i hi
  have hi' : i = 0 ∨ i = 1 := by omega
  rcases hi' with rfl | rfl <;>
    simp only [mulVec, sum_range_succ, sum_range_zero, exP_M00, exP_M01, exP_M10, exP_M11,
      exP_r0, exP_r1] <;> norm_num

end Example
end PsV
