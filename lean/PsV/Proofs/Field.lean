import PsV.Model.Arith
import Mathlib.Algebra.Order.Field.Rat
import Mathlib.Tactic.Ring
import Mathlib.Tactic.FieldSimp
import Mathlib.Tactic.Linarith
/-!
The exact instance of the arithmetic bundle: any linearly ordered field, `rnd = id` (`Arith.ofField`).
The exact theorems (C01, C02, partition of unity) are stated for this instance; `instArithRat_eq` shows that
the `Rat` instance the driver executes *is* this instance.

`LawfulArith`: the `Arith` bundle of a model carrier is the arithmetic of an ordered field.  Theorems about the numerical
models of the fit are stated for any carrier with `[Field α] [LinearOrder α] [Arith α] [LawfulArith α]`; `Rat` with the
core instance of `PsV/Model/Arith.lean` is lawful, so is `Arith.ofField`, and a lawful bundle *is* `Arith.ofField`
(`LawfulArith.eq_ofField`).

Which to use: the theory of the specification's basis (`BasisTheory`, the first section of `BSpline`) and the fit and GLAM
modules are stated for the class, because their property theorems run on `Rat` with the core instance; the evaluation core
from `BSpline` on (`BasisSpec`, `SpecSum`, `EvalSpec`, `Bridge`, `PolyDerivK`) and the rounding modules are stated under
`attribute [local instance] Arith.ofField`, because their property theorems are, and unfold the model's routines with the
`of_*` equations below.  The class's lemmas apply there through the instance `lawfulOfField`.
-/
namespace PsV

@[reducible] def Arith.ofField (α : Type) [Field α] [LinearOrder α] : Arith α where
  add := (· + ·)
  sub := (· - ·)
  mul := (· * ·)
  div := (· / ·)
  neg := fun a => -a
  lt := fun a b => decide (a < b)
  le := fun a b => decide (a ≤ b)
  zero := 0
  one := 1
  ofNat := fun n => (n : α)
  rnd := id

section
variable {α : Type} [Field α] [LinearOrder α]
attribute [local instance] Arith.ofField
@[simp] theorem of_add (a b : α) : Arith.add a b = a + b := rfl
@[simp] theorem of_sub (a b : α) : Arith.sub a b = a - b := rfl
@[simp] theorem of_mul (a b : α) : Arith.mul a b = a * b := rfl
@[simp] theorem of_div (a b : α) : Arith.div a b = a / b := rfl
@[simp] theorem of_neg (a : α) : Arith.neg a = -a := rfl
@[simp] theorem of_rnd (a : α) : Arith.rnd a = a := rfl
@[simp] theorem of_zero : (Arith.zero : α) = 0 := rfl
@[simp] theorem of_one : (Arith.one : α) = 1 := rfl
@[simp] theorem of_ofNat (n : Nat) : (Arith.ofNat n : α) = (n : α) := rfl
@[simp] theorem of_lt (a b : α) : Arith.lt a b = decide (a < b) := rfl
@[simp] theorem of_le (a b : α) : Arith.le a b = decide (a ≤ b) := rfl
@[simp] theorem of_smul (a b : α) : Arith.smul a b = a * b := rfl
@[simp] theorem of_sadd (a b : α) : Arith.sadd a b = a + b := rfl
end

theorem instArithRat_eq : (inferInstance : Arith Rat) = Arith.ofField Rat := by
  unfold Arith.ofField; rfl

class LawfulArith (α : Type) [Field α] [LinearOrder α] [A : Arith α] : Prop where
  add_eq : ∀ a b : α, A.add a b = a + b
  sub_eq : ∀ a b : α, A.sub a b = a - b
  mul_eq : ∀ a b : α, A.mul a b = a * b
  div_eq : ∀ a b : α, A.div a b = a / b
  neg_eq : ∀ a : α, A.neg a = -a
  lt_iff : ∀ a b : α, A.lt a b = true ↔ a < b
  le_iff : ∀ a b : α, A.le a b = true ↔ a ≤ b
  zero_eq : (A.zero : α) = 0
  one_eq : (A.one : α) = 1
  ofNat_eq : ∀ n : Nat, (A.ofNat n : α) = (n : α)
  rnd_eq : ∀ a : α, A.rnd a = a

instance : LawfulArith Rat where
  add_eq _ _ := rfl
  sub_eq _ _ := rfl
  mul_eq _ _ := rfl
  div_eq _ _ := rfl
  neg_eq _ := rfl
  lt_iff a b := by simp [Arith.lt]
  le_iff a b := by simp [Arith.le]
  zero_eq := rfl
  one_eq := rfl
  ofNat_eq _ := rfl
  rnd_eq _ := rfl

section
variable {α : Type} [Field α] [LinearOrder α]
attribute [local instance] Arith.ofField

instance lawfulOfField : LawfulArith α where
  add_eq _ _ := rfl
  sub_eq _ _ := rfl
  mul_eq _ _ := rfl
  div_eq _ _ := rfl
  neg_eq _ := rfl
  lt_iff a b := by simp [Arith.lt]
  le_iff a b := by simp [Arith.le]
  zero_eq := rfl
  one_eq := rfl
  ofNat_eq _ := rfl
  rnd_eq _ := rfl

end

theorem LawfulArith.eq_ofField {α : Type} [Field α] [LinearOrder α] [A : Arith α] [L : LawfulArith α] :
    A = Arith.ofField α := by
  obtain ⟨add, sub, mul, div, neg, lt, le, zero, one, ofNat, rnd⟩ := A
  have h1 : add = (· + ·) := by funext a b; exact L.add_eq a b
  have h2 : sub = (· - ·) := by funext a b; exact L.sub_eq a b
  have h3 : mul = (· * ·) := by funext a b; exact L.mul_eq a b
  have h4 : div = (· / ·) := by funext a b; exact L.div_eq a b
  have h5 : neg = fun a => -a := by funext a; exact L.neg_eq a
  have h6 : lt = fun a b => decide (a < b) := by
    funext a b; rw [Bool.eq_iff_iff, decide_eq_true_iff]; exact L.lt_iff a b
  have h7 : le = fun a b => decide (a ≤ b) := by
    funext a b; rw [Bool.eq_iff_iff, decide_eq_true_iff]; exact L.le_iff a b
  have h8 : zero = 0 := L.zero_eq
  have h9 : one = 1 := L.one_eq
  have h10 : ofNat = fun n : Nat => (n : α) := by funext n; exact L.ofNat_eq n
  have h11 : rnd = id := by funext a; exact L.rnd_eq a
  subst h1 h2 h3 h4 h5 h6 h7 h8 h9 h10 h11
  rfl

end PsV
