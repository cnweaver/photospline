import PsV.Model.SyncData
import PsV.Proofs.Sync
/-! The data layer of C12: the records of the data model are the images of the index model's fields under the trial
map (`DInv`), and every trial index of a processed block is evaluated exactly once (`CntInv`). -/
namespace PsV.Sync

variable {D R : Type}

theorem stepC_frame (c : Cfg) (s s' : State) (hs : stepC c s = some s') (hp : s.cpc ≠ .unlockB) :
    s'.base = s.base ∧ s'.chosen = s.chosen ∧ s'.val = s.val := by
  cases stepC_cases hs with
  | unlockB hp' => exact absurd hp' hp
  | _ => exact ⟨rfl, rfl, rfl⟩

theorem stepC_aidx (c : Cfg) (s s' : State) (hs : stepC c s = some s') (hp : s.cpc ≠ .lockA) :
    s'.aidx = s.aidx := by
  cases stepC_cases hs with
  | lockA hp' => exact absurd hp' hp
  | _ => rfl

theorem stepC_lock2 (c : Cfg) (s s' : State) (hs : stepC c s = some s') (w : Nat) (hw : s'.wpc w = .lock2) :
    s.wpc w = .lock2 := by
  cases stepC_cases hs with
  | @create k =>
    have hne : w ≠ k := fun e => by subst e; exact nomatch (upd_self s.wpc w WPc.lock1).symm.trans hw
    exact (upd_ne _ _ hne).symm.trans hw
  | bcastA | bcastT => exact (wakeAll_eq_iff _ _ .lock2 nofun nofun).mp hw
  | _ => exact hw

theorem stepC_unlockB (c : Cfg) (s s' : State) (hs : stepC c s = some s') (hp : s.cpc = .unlockB) :
    (s'.base, s'.chosen) = scan c s.val s.blk (s.base, s.chosen) ∧ s'.val = s.val ∧ s'.aidx = s.aidx ∧
      s'.wpc = s.wpc ∧ s'.cpc = loopHead c (s.blk + 1) (scan c s.val s.blk (s.base, s.chosen)).2.isSome := by
  simp only [stepC, hp] at hs
  cases hs
  exact ⟨rfl, rfl, rfl, rfl, rfl⟩

theorem stepW_frame (s s' : State) (w : Nat) (hs : stepW s w = some s') :
    s'.base = s.base ∧ s'.chosen = s.chosen ∧ s'.aidx = s.aidx ∧
      s'.val = (if s.wpc w = .lock2 then upd s.val w (some (s.aidx w)) else s.val) := by
  cases stepW_cases hs with
  | lock2 hp => exact ⟨rfl, rfl, rfl, (if_pos hp).symm⟩
  | _ => exact ⟨rfl, rfl, rfl, (if_neg (by rw [‹s.wpc w = _›]; nofun)).symm⟩

theorem stepW_lock2 (s s' : State) (w : Nat) (hs : stepW s w = some s') (k : Nat) (hk : s'.wpc k = .lock2) :
    (k = w ∧ s.wpc w = .hold ∧ s.st w = .run) ∨ (k ≠ w ∧ s.wpc k = .lock2) := by
  have hstep := stepW_cases hs
  by_cases e : k = w
  · subst e
    cases hstep with
    | holdRun hp hst => exact Or.inl ⟨rfl, hp, hst⟩
    | _ => exact nomatch (upd_self ..).symm.trans hk
  · refine Or.inr ⟨e, ?_⟩
    cases hstep with
    | bcast => exact (wakeAll_eq_iff _ _ .lock2 nofun nofun).mp ((upd_ne _ _ e).symm.trans hk)
    | _ => exact (upd_ne _ _ e).symm.trans hk

structure SpurFrame (s s' : State) : Prop where
  base : s'.base = s.base
  chosen : s'.chosen = s.chosen
  aidx : s'.aidx = s.aidx
  val : s'.val = s.val
  blk : s'.blk = s.blk
  st : s'.st = s.st
  inBlock : inBlock s'.cpc = inBlock s.cpc
  lock2 : ∀ k, s'.wpc k = .lock2 → s.wpc k = .lock2

theorem spur_frame (c : Cfg) (s s' : State) (t : Nat) (hs : spur? c s t = some s') : SpurFrame s s' := by
  cases spur_cases hs with
  | coord hp => exact ⟨rfl, rfl, rfl, rfl, rfl, rfl, by rw [hp]; rfl, fun _ h => h⟩
  | @worker w _ _ =>
    refine ⟨rfl, rfl, rfl, rfl, rfl, rfl, rfl, fun k hk => ?_⟩
    have hne : k ≠ w := fun e => by subst e; exact nomatch (upd_self s.wpc k WPc.woken).symm.trans hk
    exact (upd_ne _ _ hne).symm.trans hk

theorem stepW_cntframe (s s' : State) (w : Nat) (hs : stepW s w = some s') (hp : s.wpc w ≠ .lock2) :
    s'.blk = s.blk ∧ s'.st = s.st ∧ inBlock s'.cpc = inBlock s.cpc := by
  cases stepW_cases hs with
  | lock2 h => exact absurd h hp
  | bcast => exact ⟨rfl, rfl, inBlock_wakeC _⟩
  | _ => exact ⟨rfl, rfl, rfl⟩

theorem stepW_lock2_eq (s s' : State) (w : Nat) (hs : stepW s w = some s') (hp : s.wpc w = .lock2) :
    s'.blk = s.blk ∧ s'.st = upd s.st w .wait ∧ s'.cpc = s.cpc := by
  simp only [stepW, hp] at hs
  split at hs
  · cases hs; exact ⟨rfl, rfl, rfl⟩
  · cases hs

def mapAcc (f : Nat → R) (acc : Acc) : AccD R := (acc.1.map f, acc.2.map fun p => (p.1.map f, p.2))

@[simp] theorem mapAcc_isSome (f : Nat → R) (acc : Acc) : (mapAcc f acc).2.isSome = acc.2.isSome := by
  cases h : acc.2 <;> simp [mapAcc, h]

theorem selStepD_map (lt : R → R → Bool) (f : Nat → R) (m : Nat) (acc : Acc) (k : Nat) (v : Option Nat) :
    selStepD lt m (mapAcc f acc) k (v.map f) = mapAcc f (selStep (fun a b => lt (f a) (f b)) m acc k v) := by
  obtain ⟨b, ch⟩ := acc
  cases ch with
  | some p => simp [selStepD, selStep, mapAcc]
  | none =>
    by_cases hk : k = 0
    · simp [selStepD, selStep, mapAcc, hk]
    · cases v <;> cases b <;> simp [selStepD, selStep, mapAcc, hk] <;> split <;> simp

theorem foldl_selStepD_map (lt : R → R → Bool) (f : Nat → R) (m : Nat) (idx : Nat → Nat) (out : Nat → Option R)
    (val : Nat → Option Nat) (l : List Nat) (h : ∀ j, j ∈ l → out j = (val j).map f) :
    ∀ acc, l.foldl (fun a j => selStepD lt m a (idx j) (out j)) (mapAcc f acc)
      = mapAcc f (l.foldl (fun a j => selStep (fun a b => lt (f a) (f b)) m a (idx j) (val j)) acc) := by
  induction l with
  | nil => intro acc; rfl
  | cons j rest ih =>
    intro acc
    simp only [List.foldl_cons]
    rw [h j (List.mem_cons_self ..), selStepD_map]
    exact ih (fun j' hj' => h j' (List.mem_cons_of_mem _ hj')) _

theorem scanD_map (P : DProb D R) (out : Nat → Option R) (val : Nat → Option Nat) (i : Nat) (acc : Acc)
    (h : ∀ j, out j = (val j).map (P.num.trial P.x0)) :
    scanD P out i (mapAcc (P.num.trial P.x0) acc) = mapAcc (P.num.trial P.x0) (scan P.cfg val i acc) :=
  foldl_selStepD_map P.num.lt (P.num.trial P.x0) P.m (fun j => i * P.n + j) out val _ (fun j _ => h j) acc

theorem flatD_map (P : DProb D R) (K : Nat) :
    flatD P K = mapAcc (P.num.trial P.x0) (flat P.cfg.less P.m K) := by
  have := foldl_selStepD_map P.num.lt (P.num.trial P.x0) P.m (fun k => k)
    (fun k => some (P.num.trial P.x0 k)) (fun k => some k) (List.range K) (fun j _ => rfl) (none, none)
  exact this

/-- The data state is the image of the control state under the trial map.  What a worker read matters only while it is
    inside its compute region (`rdRel` at `lock2`; outside, `rdx`/`rda` hold stale values); `x` keeps its entry value until
    the one copy that goes with setting `success` (`xRel`). -/
structure DInv (P : DProb D R) (d : DState D R) : Prop where
  accRel : (d.res, d.pick) = mapAcc (P.num.trial P.x0) (d.ctl.base, d.ctl.chosen)
  outRel : ∀ w, d.out w = (d.ctl.val w).map (P.num.trial P.x0)
  rdRel : ∀ w, d.ctl.wpc w = .lock2 → d.rdx w = P.x0 ∧ d.rda w = d.ctl.aidx w
  xRel : d.x = copyOut P P.x0 none d.pick

theorem dinv_init (P : DProb D R) : DInv P (initD P) := by
  constructor <;> simp [initD, init, mapAcc, copyOut]

/-- inside a block nothing has been chosen yet, so `x` still has its entry value -/
theorem DInv.in_block {P : DProb D R} {d : DState D R} (h : DInv P d) (hi : Inv P.cfg d.ctl)
    (hb : inBlock d.ctl.cpc = true) : d.pick = none ∧ d.x = P.x0 := by
  have h1 := h.accRel
  rw [(hi.accLoop (Or.inr hb)).2.1] at h1
  have h2 : d.pick = none := by simpa [mapAcc] using congrArg Prod.snd h1
  refine ⟨h2, ?_⟩
  rw [h.xRel, h2]; rfl

/-- from the moment the control part holds the sequential choice (the whole teardown, `Inv.accDone`) the data outputs are
    those of the single-threaded program -/
theorem DInv.outputs_eq {P : DProb D R} {d : DState D R} (h : DInv P d)
    (hseq : (d.ctl.base, d.ctl.chosen) = selectSeq P.cfg.less P.cfg.m) : d.outputs = seqD P := by
  have hacc : (d.res, d.pick) = flatD P P.m := by
    rw [h.accRel, hseq, flatD_map]; rfl
  have hpick : d.pick = (flatD P P.m).2 := congrArg Prod.snd hacc
  simp only [DState.outputs, seqD]
  rw [h.xRel, hpick, ← hacc, hpick]

theorem DInv.compute_inputs {P : DProb D R} {d : DState D R} (h : DInv P d) (hi : Inv P.cfg d.ctl) {w : Nat}
    (hp : d.ctl.wpc w = .lock2) :
    d.rdx w = d.x ∧ d.x = P.x0 ∧ d.rda w = d.ctl.aidx w ∧ d.ctl.aidx w = d.ctl.blk * P.n + w := by
  obtain ⟨_, hblk, _, hai⟩ := hi.lock2_active hp
  obtain ⟨_, hx0⟩ := h.in_block hi hblk
  obtain ⟨h1, h2⟩ := h.rdRel w hp
  exact ⟨h1.trans hx0.symm, hx0, h2, hai⟩

theorem DInv.of_frame {P : DProb D R} {d : DState D R} (h : DInv P d) (s' : State) (hb : s'.base = d.ctl.base)
    (hc : s'.chosen = d.ctl.chosen) (rdx' : Nat → D) (rda' : Nat → Nat) (out' : Nat → Option R) (cnt' : Nat → Nat)
    (hout : ∀ w, out' w = (s'.val w).map (P.num.trial P.x0))
    (hrd : ∀ w, s'.wpc w = .lock2 → rdx' w = P.x0 ∧ rda' w = s'.aidx w) :
    DInv P { d with ctl := s', rdx := rdx', rda := rda', out := out', cnt := cnt' } :=
  ⟨by show (d.res, d.pick) = mapAcc _ (s'.base, s'.chosen); rw [hb, hc]; exact h.accRel, hout, hrd, h.xRel⟩

theorem stepCD_cases {P : DProb D R} {d d' : DState D R} (hs : stepCD P d = some d') :
    ∃ s', stepC P.cfg d.ctl = some s' ∧
      ((d.ctl.cpc = .unlockB ∧
          d' = { d with
                 ctl := { s' with cpc := loopHead P.cfg (d.ctl.blk + 1) (scanD P d.out d.ctl.blk (d.res, d.pick)).2.isSome },
                 x := copyOut P d.x d.pick (scanD P d.out d.ctl.blk (d.res, d.pick)).2,
                 res := (scanD P d.out d.ctl.blk (d.res, d.pick)).1,
                 pick := (scanD P d.out d.ctl.blk (d.res, d.pick)).2 }) ∨
        (d.ctl.cpc ≠ .unlockB ∧ d' = { d with ctl := s' })) := by
  unfold stepCD at hs
  cases hsc : stepC P.cfg d.ctl with
  | none => rw [hsc] at hs; cases hs
  | some s' =>
    rw [hsc] at hs
    dsimp only at hs
    split at hs
    · cases hs; exact ⟨s', rfl, Or.inl ⟨‹_›, rfl⟩⟩
    · rename_i hne
      cases hs; exact ⟨s', rfl, Or.inr ⟨fun e => hne e, rfl⟩⟩

theorem stepWD_cases {P : DProb D R} {d d' : DState D R} {w : Nat} (hs : stepWD P d w = some d') :
    ∃ s', stepW d.ctl w = some s' ∧
      ((d.ctl.wpc w = .hold ∧ d.ctl.st w = .run ∧
          d' = { d with ctl := s', rdx := upd d.rdx w d.x, rda := upd d.rda w (d.ctl.aidx w) }) ∨
        (d.ctl.wpc w = .lock2 ∧
          d' = { d with ctl := s', out := upd d.out w (some (P.num.trial (d.rdx w) (d.rda w))),
                        cnt := upd d.cnt (d.rda w) (d.cnt (d.rda w) + 1) }) ∨
        (d.ctl.wpc w ≠ .lock2 ∧ ¬ (d.ctl.wpc w = .hold ∧ d.ctl.st w = .run) ∧ d' = { d with ctl := s' })) := by
  unfold stepWD at hs
  cases hsw : stepW d.ctl w with
  | none => rw [hsw] at hs; cases hs
  | some s' =>
    rw [hsw] at hs
    dsimp only at hs
    split at hs
    · cases hs; exact ⟨s', rfl, Or.inl ⟨‹_›, ‹_›, rfl⟩⟩
    · cases hs; exact ⟨s', rfl, Or.inr (Or.inl ⟨‹_›, rfl⟩)⟩
    · rename_i hclose hopen
      cases hs; exact ⟨s', rfl, Or.inr (Or.inr ⟨fun e => hclose e, fun e => hopen e.1 e.2, rfl⟩)⟩

theorem dinv_stepCD (P : DProb D R) (d d' : DState D R) (hi : Inv P.cfg d.ctl) (h : DInv P d)
    (hs : stepCD P d = some d') : stepC P.cfg d.ctl = some d'.ctl ∧ DInv P d' := by
  obtain ⟨s', hsc, ⟨hp, hs⟩ | ⟨hne, rfl⟩⟩ := stepCD_cases hs
  · obtain ⟨hacc, hval, haidx, hwpc, hcpc⟩ := stepC_unlockB P.cfg d.ctl s' hsc hp
    have hscan : scanD P d.out d.ctl.blk (d.res, d.pick)
        = mapAcc (P.num.trial P.x0) (scan P.cfg d.ctl.val d.ctl.blk (d.ctl.base, d.ctl.chosen)) := by
      rw [h.accRel]; exact scanD_map P d.out d.ctl.val d.ctl.blk _ h.outRel
    obtain ⟨hpn, hx0⟩ := h.in_block hi (by rw [hp]; rfl)
    -- `success` computed from the data is the one computed from the indices
    have hctl : ({ s' with cpc := (loopHead P.cfg (d.ctl.blk + 1) (scanD P d.out d.ctl.blk (d.res, d.pick)).2.isSome) } : State) = s' := by
      rw [hscan, mapAcc_isSome, ← hcpc]
    rw [hctl] at hs
    subst hs
    refine ⟨hsc, ?_, ?_, ?_, ?_⟩
    · show ((scanD P d.out d.ctl.blk (d.res, d.pick)).1, (scanD P d.out d.ctl.blk (d.res, d.pick)).2) = _
      rw [hscan, hacc]
    · intro w; show d.out w = _; rw [hval]; exact h.outRel w
    · intro w hw
      show d.rdx w = P.x0 ∧ d.rda w = s'.aidx w
      rw [haidx]; rw [hwpc] at hw; exact h.rdRel w hw
    · show copyOut P d.x d.pick _ = copyOut P P.x0 none _
      rw [hpn, hx0]
  · obtain ⟨hb, hc, hv⟩ := stepC_frame P.cfg d.ctl s' hsc hne
    refine ⟨hsc, h.of_frame s' hb hc d.rdx d.rda d.out d.cnt (fun w => by rw [hv]; exact h.outRel w) fun w hw => ?_⟩
    have hw0 := stepC_lock2 P.cfg d.ctl s' hsc w hw
    by_cases hA : d.ctl.cpc = .lockA
    · -- no worker is inside its compute region when the coordinator re-assigns the α pointers
      exact absurd hw0 (hi.no_lock2 (Or.inl (by rw [hA]; rfl)) w)
    · rw [stepC_aidx P.cfg d.ctl s' hsc hA]; exact h.rdRel w hw0

theorem dinv_stepWD (P : DProb D R) (d d' : DState D R) (w : Nat) (hi : Inv P.cfg d.ctl) (h : DInv P d)
    (hs : stepWD P d w = some d') : stepW d.ctl w = some d'.ctl ∧ DInv P d' := by
  obtain ⟨s', hsw, hcase⟩ := stepWD_cases hs
  obtain ⟨hb, hc, ha, hv⟩ := stepW_frame d.ctl s' w hsw
  -- the snapshots of the workers other than `w` that are inside their compute regions
  have hrd : ∀ k, k ≠ w → s'.wpc k = .lock2 → d.rdx k = P.x0 ∧ d.rda k = s'.aidx k := fun k hk hl =>
    (stepW_lock2 d.ctl s' w hsw k hl).elim (fun hh => absurd hh.1 hk) fun hh => ha ▸ h.rdRel k hh.2
  rcases hcase with ⟨hp, hst, rfl⟩ | ⟨hp, rfl⟩ | ⟨hne, hopen, rfl⟩
  · -- the compute region opens: `x` still has its entry value
    obtain ⟨_, hx0⟩ := h.in_block hi (hi.runBlock w hst).1
    have hne : d.ctl.wpc w ≠ .lock2 := by rw [hp]; nofun
    refine ⟨hsw, h.of_frame s' hb hc _ _ d.out d.cnt (fun k => by rw [hv, if_neg hne]; exact h.outRel k) fun k hk => ?_⟩
    by_cases hkw : k = w
    · subst hkw; rw [upd_self, upd_self, ha]; exact ⟨hx0, rfl⟩
    · rw [upd_ne _ _ hkw, upd_ne _ _ hkw]; exact hrd k hkw hk
  · -- the compute region closes
    obtain ⟨hrx, hra⟩ := h.rdRel w hp
    refine ⟨hsw, h.of_frame s' hb hc d.rdx d.rda _ _ (fun k => ?_) fun k hk => hrd k (fun e => ?_) hk⟩
    · rw [hv, if_pos hp, hrx, hra]
      by_cases hk : k = w
      · subst hk; rw [upd_self, upd_self]; rfl
      · rw [upd_ne _ _ hk, upd_ne _ _ hk]; exact h.outRel k
    · subst e
      rcases stepW_lock2 d.ctl s' k hsw k hk with ⟨_, hh, _⟩ | ⟨hh, _⟩
      · rw [hp] at hh; cases hh
      · exact hh rfl
  · refine ⟨hsw, h.of_frame s' hb hc d.rdx d.rda d.out d.cnt (fun k => by rw [hv, if_neg hne]; exact h.outRel k)
      fun k hk => hrd k (fun e => ?_) hk⟩
    subst e
    rcases stepW_lock2 d.ctl s' k hsw k hk with ⟨_, h1, h2⟩ | ⟨hh, _⟩
    · exact hopen ⟨h1, h2⟩
    · exact hh rfl

theorem spurD_cases {P : DProb D R} {d d' : DState D R} {t : Nat} (hs : spurD? P d t = some d') :
    ∃ s', spur? P.cfg d.ctl t = some s' ∧ d' = { d with ctl := s' } := by
  unfold spurD? at hs
  cases hsp : spur? P.cfg d.ctl t with
  | none => rw [hsp] at hs; cases hs
  | some s' => rw [hsp] at hs; cases hs; exact ⟨s', rfl, rfl⟩

theorem dinv_spurD (P : DProb D R) (d d' : DState D R) (t : Nat) (h : DInv P d)
    (hs : spurD? P d t = some d') : spur? P.cfg d.ctl t = some d'.ctl ∧ DInv P d' := by
  obtain ⟨s', hsp, rfl⟩ := spurD_cases hs
  have hf := spur_frame P.cfg d.ctl s' t hsp
  exact ⟨hsp, h.of_frame s' hf.base hf.chosen d.rdx d.rda d.out d.cnt (fun k => by rw [hf.val]; exact h.outRel k)
    fun k hk => hf.aidx ▸ h.rdRel k (hf.lock2 k hk)⟩

theorem stepD_succ {P : DProb D R} {d d' : DState D R} {w : Nat} (hs : stepD? P d (w+1) = some d') :
    w < P.n ∧ stepWD P d w = some d' := by
  simp only [stepD?] at hs
  split at hs
  · exact ⟨‹_›, hs⟩
  · cases hs

theorem dinv_stepD (P : DProb D R) (d d' : DState D R) (t : Nat) (hi : Inv P.cfg d.ctl)
    (h : DInv P d) (hs : stepD? P d t = some d') : step? P.cfg d.ctl t = some d'.ctl ∧ DInv P d' := by
  cases t with
  | zero => exact dinv_stepCD P d d' hi h hs
  | succ w =>
    obtain ⟨hw, hs⟩ := stepD_succ hs
    have := dinv_stepWD P d d' w hi h hs
    exact ⟨by rw [step?, if_pos (show w < P.cfg.n from hw)]; exact this.1, this.2⟩

inductive DReach (P : DProb D R) : DState D R → Prop
  | init : DReach P (initD P)
  | step {d d' : DState D R} (t : Nat) : DReach P d → stepD? P d t = some d' → DReach P d'
  | spur {d d' : DState D R} (t : Nat) : DReach P d → spurD? P d t = some d' → DReach P d'

theorem dreach_runSchedD (P : DProb D R) : ∀ (sched : List (Nat × Bool)) (d d' : DState D R),
    DReach P d → runSchedD P d sched = some d' → DReach P d' := by
  intro sched
  induction sched with
  | nil => intro d d' h hs; cases hs; exact h
  | cons a rest ih =>
    intro d d' h hs
    obtain ⟨t, sp⟩ := a
    simp only [runSchedD] at hs
    split at hs
    · rename_i d1 h1
      cases sp with
      | true => exact ih d1 d' (DReach.spur t h h1) hs
      | false => exact ih d1 d' (DReach.step t h h1) hs
    · cases hs

/-- trial index `k` has been evaluated (its result is published): it belongs to a finished block, or to the current
    block and its worker is back in state WAIT -/
def doneIdx (c : Cfg) (s : State) (k : Nat) : Prop :=
  k < c.m ∧ (k < s.blk * c.n ∨
    (inBlock s.cpc = true ∧ s.blk * c.n ≤ k ∧ k < s.blk * c.n + c.n ∧ s.st (k - s.blk * c.n) = .wait))

theorem doneIdx_of_frame (c : Cfg) (s s' : State) (k : Nat) (hb : s'.blk = s.blk) (hst : s'.st = s.st)
    (hc : inBlock s'.cpc = inBlock s.cpc) : doneIdx c s' k ↔ doneIdx c s k := by
  simp only [doneIdx, hb, hst, hc]

theorem doneIdx_outside {c : Cfg} {s : State} (h : inBlock s.cpc = false) (k : Nat) :
    doneIdx c s k ↔ k < c.m ∧ k < s.blk * c.n := by
  simp only [doneIdx, h, Bool.false_eq_true, false_and, or_false]

theorem doneIdx_stepC (c : Cfg) (s s' : State) (hi : Inv c s) (hs : stepC c s = some s') (k : Nat) :
    doneIdx c s' k ↔ doneIdx c s k := by
  cases stepC_cases hs with
  | lockA hA =>
    -- the workers of the new block are set to RUN
    rw [doneIdx_outside (s := s) (by rw [hA]; rfl)]
    unfold doneIdx
    dsimp only
    constructor
    · rintro ⟨h1, h2 | ⟨_, h3, h4, h5⟩⟩
      · exact ⟨h1, h2⟩
      · rw [if_pos ((active_spec c _ _).mpr ⟨by omega, by omega⟩)] at h5; cases h5
    · exact fun ⟨h1, h2⟩ => ⟨h1, Or.inl h2⟩
  | unlockB hB =>
    -- the block is left when all its workers are back in state WAIT
    have hall := hi.unlockBAll hB
    rw [doneIdx_outside (inBlock_loopHead ..)]
    show k < c.m ∧ k < (s.blk + 1) * c.n ↔ _
    unfold doneIdx
    rw [hB, Nat.succ_mul]
    constructor
    · rintro ⟨h1, h2⟩
      refine ⟨h1, ?_⟩
      by_cases hk : k < s.blk * c.n
      · exact Or.inl hk
      · exact Or.inr ⟨rfl, by omega, h2, hall _ ((active_spec c _ _).mpr ⟨by omega, by omega⟩)⟩
    · rintro ⟨h1, h2 | ⟨_, h3, h4, _⟩⟩
      · exact ⟨h1, by omega⟩
      · exact ⟨h1, h4⟩
  | lockT hT => rw [doneIdx_outside (s := s) (by rw [hT]; rfl), doneIdx_outside (by rfl)]
  | create h =>
    refine doneIdx_of_frame c s _ k rfl rfl ?_
    rw [h]; dsimp only
    split
    · rfl
    · exact inBlock_loopHead ..
  | lockB h | woken h | join h => exact doneIdx_of_frame c s _ k rfl rfl (by rw [h]; dsimp only; split <;> rfl)
  | bcastA h | unlockA h | condWait h | bcastT h | unlockT h => exact doneIdx_of_frame c s _ k rfl rfl (by rw [h]; rfl)

theorem doneIdx_lock2 (c : Cfg) (s s' : State) (w : Nat) (hi : Inv c s) (hs : stepW s w = some s')
    (hp : s.wpc w = .lock2) :
    ¬ doneIdx c s (s.blk * c.n + w) ∧ ∀ k, (doneIdx c s' k ↔ (doneIdx c s k ∨ k = s.blk * c.n + w)) := by
  obtain ⟨hrun, hblk, hact, _⟩ := hi.lock2_active hp
  obtain ⟨hwn, hwm⟩ := (active_spec c _ _).mp hact
  obtain ⟨h1, h2, h3⟩ := stepW_lock2_eq s s' w hs hp
  refine ⟨?_, ?_⟩
  · simp only [doneIdx, Nat.add_sub_cancel_left, hrun]
    rintro ⟨_, h | ⟨_, _, _, h⟩⟩
    · omega
    · cases h
  · intro k
    unfold doneIdx
    rw [h1, h2, h3, hblk]
    constructor
    · rintro ⟨a, b | ⟨_, b1, b2, b3⟩⟩
      · exact Or.inl ⟨a, Or.inl b⟩
      · by_cases hk : k - s.blk * c.n = w
        · exact Or.inr (by omega)
        · simp only [upd, hk, if_false] at b3
          exact Or.inl ⟨a, Or.inr ⟨rfl, b1, b2, b3⟩⟩
    · rintro (⟨a, b | ⟨_, b1, b2, b3⟩⟩ | hk)
      · exact ⟨a, Or.inl b⟩
      · refine ⟨a, Or.inr ⟨rfl, b1, b2, ?_⟩⟩
        simp only [upd]; split
        · rfl
        · exact b3
      · subst hk
        refine ⟨hwm, Or.inr ⟨rfl, by omega, by omega, ?_⟩⟩
        simp [upd]

/-- counters: evaluated indices have count 1, all others 0 -/
def CntInv (P : DProb D R) (d : DState D R) : Prop :=
  ∀ k, (doneIdx P.cfg d.ctl k → d.cnt k = 1) ∧ (¬ doneIdx P.cfg d.ctl k → d.cnt k = 0)

theorem cntInv_init (P : DProb D R) : CntInv P (initD P) := by
  intro k
  simp [initD, doneIdx, init, inBlock]

theorem CntInv.le_one {P : DProb D R} {d : DState D R} (h : CntInv P d) (k : Nat) : d.cnt k ≤ 1 :=
  Classical.byCases (fun hk => Nat.le_of_eq ((h k).1 hk)) fun hk => (h k).2 hk ▸ Nat.zero_le 1

theorem CntInv.cnt_eq {P : DProb D R} {d : DState D R} (h : CntInv P d) {k : Nat} {p : Prop} [Decidable p]
    (hp : doneIdx P.cfg d.ctl k ↔ p) : d.cnt k = if p then 1 else 0 := by
  split
  · exact (h k).1 (hp.mpr ‹_›)
  · exact (h k).2 fun hd => ‹¬ p› (hp.mp hd)

theorem stepCD_cnt {P : DProb D R} {d d' : DState D R} (hs : stepCD P d = some d') : d'.cnt = d.cnt := by
  obtain ⟨_, _, ⟨_, rfl⟩ | ⟨_, rfl⟩⟩ := stepCD_cases hs <;> rfl

theorem stepWD_cnt {P : DProb D R} {d d' : DState D R} {w : Nat} (hs : stepWD P d w = some d') :
    d'.cnt = if d.ctl.wpc w = .lock2 then upd d.cnt (d.rda w) (d.cnt (d.rda w) + 1) else d.cnt := by
  obtain ⟨_, _, ⟨hp, _, rfl⟩ | ⟨hp, rfl⟩ | ⟨hne, _, rfl⟩⟩ := stepWD_cases hs
  · exact (if_neg (by rw [hp]; nofun)).symm
  · exact (if_pos hp).symm
  · exact (if_neg hne).symm

theorem cntInv_stepD (P : DProb D R) (d d' : DState D R) (t : Nat) (hi : Inv P.cfg d.ctl)
    (hd : DInv P d) (h : CntInv P d) (hs : stepD? P d t = some d') (hctl : step? P.cfg d.ctl t = some d'.ctl) :
    CntInv P d' := by
  cases t with
  | zero =>
    intro k
    rw [stepCD_cnt hs, doneIdx_stepC P.cfg d.ctl d'.ctl hi hctl k]
    exact h k
  | succ w =>
    have hs := (stepD_succ hs).2
    have hctl := (step_succ hctl).2
    have hcnt := stepWD_cnt hs
    by_cases hp : d.ctl.wpc w = .lock2
    · obtain ⟨hnd, hiff⟩ := doneIdx_lock2 P.cfg d.ctl d'.ctl w hi hctl hp
      obtain ⟨_, _, hrda, (hai : d.ctl.aidx w = d.ctl.blk * P.cfg.n + w)⟩ := hd.compute_inputs hi hp
      rw [if_pos hp, hrda, hai] at hcnt
      intro k
      rw [hcnt, hiff k]
      by_cases hk : k = d.ctl.blk * P.cfg.n + w
      · subst hk
        simp only [upd, if_true]
        have := (h (d.ctl.blk * P.cfg.n + w)).2 hnd
        constructor
        · intro _; omega
        · intro hno; exact absurd (Or.inr trivial) hno
      · simp only [upd, hk, if_false, or_false]
        exact h k
    · rw [if_neg hp] at hcnt
      obtain ⟨h1, h2, h3⟩ := stepW_cntframe d.ctl d'.ctl w hctl hp
      intro k
      rw [hcnt, doneIdx_of_frame P.cfg d.ctl d'.ctl k h1 h2 h3]
      exact h k

theorem cntInv_spurD (P : DProb D R) (d d' : DState D R) (t : Nat) (h : CntInv P d)
    (hs : spurD? P d t = some d') : CntInv P d' := by
  obtain ⟨s', hsp, rfl⟩ := spurD_cases hs
  have hf := spur_frame P.cfg d.ctl s' t hsp
  intro k
  show (doneIdx P.cfg s' k → d.cnt k = 1) ∧ (¬ doneIdx P.cfg s' k → d.cnt k = 0)
  rw [doneIdx_of_frame P.cfg d.ctl s' k hf.blk hf.st hf.inBlock]
  exact h k

theorem dreach_inv (P : DProb D R) (hn : 0 < P.n) {d : DState D R} (h : DReach P d) :
    Reach P.cfg d.ctl ∧ DInv P d ∧ CntInv P d := by
  induction h with
  | init => exact ⟨Reach.init, dinv_init P, cntInv_init P⟩
  | step t _ hs ih =>
    have hi := reach_inv P.cfg hn ih.1
    have := dinv_stepD P _ _ t hi ih.2.1 hs
    exact ⟨Reach.step t ih.1 this.1, this.2, cntInv_stepD P _ _ t hi ih.2.1 ih.2.2 hs this.1⟩
  | spur t _ hs ih =>
    have := dinv_spurD P _ _ t ih.2.1 hs
    exact ⟨Reach.spur t ih.1 this.1, this.2, cntInv_spurD P _ _ t ih.2.2 hs⟩

end PsV.Sync
