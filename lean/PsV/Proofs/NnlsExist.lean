import PsV.Proofs.NnlsSolve
/-!
# Existence of the constrained minimiser (a KKT point) for an SPD system, and completeness of `refNnls`

Existence is proved on the trailing blocks `[c,k)` of an augmented entry function by induction on the block size,
with the same Schur-complement step as the elimination (`elim`): solve the problem with `x_c = 0`; if the multiplier of
`x_c` is negative, solve the problem of the Schur complement and recover `x_c` from row `c`; monotonicity of the
positive-definite form excludes `x_c < 0`.
-/
namespace PsV.Nnls
open Finset

/-- gradient of the block problem: `Σ_{j∈[c,k)} F i j x_j − F i k` -/
def gradOn (c k : ℕ) (F : FM) (x : ℕ → ℚ) (i : ℕ) : ℚ := ∑ j ∈ Ico c k, F i j * x j - F i k

/-- exact KKT conditions of the block problem -/
def KKTOn (c k : ℕ) (F : FM) (x : ℕ → ℚ) : Prop :=
  ∀ i, c ≤ i → i < k → 0 ≤ x i ∧ 0 ≤ gradOn c k F x i ∧ x i * gradOn c k F x i = 0

theorem symOn_tail {c k : ℕ} {F : FM} (hS : SymOn c k F) : SymOn (c+1) k F :=
  fun i j hi hik hj hjk => hS i j (by omega) hik (by omega) hjk

theorem gradOn_split {c k : ℕ} (hc : c < k) (F : FM) (x : ℕ → ℚ) (i : ℕ) :
    gradOn c k F x i = F i c * x c + gradOn (c+1) k F x i := by
  unfold gradOn
  rw [sum_eq_sum_Ico_succ_bot hc]; ring

theorem gradOn_congr {c k : ℕ} {F : FM} {x y : ℕ → ℚ} (h : ∀ j, c ≤ j → j < k → x j = y j) (i : ℕ) :
    gradOn c k F x i = gradOn c k F y i := by
  unfold gradOn
  congr 1
  apply sum_congr rfl; intro j hj
  rw [mem_Ico] at hj
  rw [h j hj.1 hj.2]

theorem gradOn_elim {c k : ℕ} {F : FM} (hc : c < k) (hp : F c c ≠ 0) (x : ℕ → ℚ) (i : ℕ) (hi : c + 1 ≤ i)
    (h0 : gradOn c k F x c = 0) : gradOn (c+1) k (elim F c) x i = gradOn c k F x i := by
  have hx : x c = -(gradOn (c+1) k F x c) / F c c := by
    rw [gradOn_split hc] at h0
    rw [eq_div_iff hp, eq_neg_iff_add_eq_zero, mul_comm]
    exact h0
  rw [gradOn_split hc F x i, hx]
  unfold gradOn
  rw [elim_sum (Nat.ne_of_gt hi), elim_off (Nat.ne_of_gt hi)]
  field_simp
  ring

theorem Qf_eq_grad_diff {c k : ℕ} (F : FM) (u w : ℕ → ℚ) :
    Qf c k F (fun i => u i - w i) = ∑ i ∈ Ico c k, (u i - w i) * (gradOn c k F u i - gradOn c k F w i) := by
  unfold Qf gradOn
  apply sum_congr rfl; intro i _
  have e : ∑ j ∈ Ico c k, F i j * u j - F i k - (∑ j ∈ Ico c k, F i j * w j - F i k)
      = ∑ j ∈ Ico c k, F i j * (u j - w j) := by
    rw [sub_sub_sub_cancel_right, ← sum_sub_distrib]
    apply sum_congr rfl; intros; ring
  rw [e, Finset.mul_sum]
  apply sum_congr rfl; intros; ring

theorem compl_pairs {a b ga gb : ℚ} (ha : 0 ≤ a) (hga : 0 ≤ ga) (hc : a * ga = 0) (hb : 0 ≤ b) (hgb : 0 ≤ gb)
    (hd : b * gb = 0) : (a - b) * (ga - gb) ≤ 0 := by
  have e : (a - b) * (ga - gb) = a * ga + b * gb - a * gb - b * ga := by ring
  rw [e, hc, hd, zero_add, zero_sub]
  exact sub_nonpos.mpr ((neg_nonpos.mpr (mul_nonneg ha hgb)).trans (mul_nonneg hb hga))

theorem kktOn_update {c k : ℕ} {F F' : FM} {x : ℕ → ℚ} {a : ℚ} (hx : KKTOn (c+1) k F' x)
    (hG : ∀ i, c + 1 ≤ i → gradOn c k F (Function.update x c a) i = gradOn (c+1) k F' x i)
    (ha : 0 ≤ a) (hga : 0 ≤ gradOn c k F (Function.update x c a) c) (hz : a * gradOn c k F (Function.update x c a) c = 0) :
    KKTOn c k F (Function.update x c a) := by
  intro i hi hik
  rcases Nat.eq_or_lt_of_le hi with rfl | h
  · rw [Function.update_self]; exact ⟨ha, hga, hz⟩
  · rw [hG i h, Function.update_of_ne (Nat.ne_of_gt h)]; exact hx i h hik

theorem kktOn_exists {k : ℕ} : ∀ (m c : ℕ) (F : FM), c + m = k → SymOn c k F → PDOn c k F →
    ∃ x, KKTOn c k F x := by
  intro m
  induction m with
  | zero =>
    exact fun c F hk _ _ => ⟨fun _ => 0, fun i hi hik => absurd (Nat.lt_of_lt_of_le hik hk.ge) (Nat.not_lt.mpr hi)⟩
  | succ m ih =>
    intro c F hk hS hP
    have hc : c < k := hk ▸ Nat.lt_add_of_pos_right m.succ_pos
    have hk' : c + 1 + m = k := (Nat.add_right_comm c 1 m).trans hk
    obtain ⟨hp, hP'⟩ := (pdOn_step_iff hc hS).mp hP
    have htail : ∀ (x : ℕ → ℚ) (a : ℚ) j, c + 1 ≤ j → j < k → Function.update x c a j = x j :=
      fun x a j hj _ => Function.update_of_ne (Nat.ne_of_gt hj) _ _
    -- first candidate: the solution with `x_c = 0`
    obtain ⟨x1, h1⟩ := ih (c+1) F hk' (symOn_tail hS) (posDefFrom_succ hc hP)
    have hgu : ∀ i, gradOn c k F (Function.update x1 c 0) i = gradOn (c+1) k F x1 i := fun i => by
      rw [gradOn_split hc, Function.update_self, mul_zero, zero_add]
      exact gradOn_congr (htail x1 0) i
    by_cases hg : 0 ≤ gradOn c k F (Function.update x1 c 0) c
    · exact ⟨_, kktOn_update h1 (fun i _ => hgu i) le_rfl hg (zero_mul _)⟩
    · -- its multiplier at `c` is negative: solve the Schur-complement problem and recover `x_c` from row `c`
      obtain ⟨x2, h2⟩ := ih (c+1) (elim F c) hk' (sym_step hS) hP'
      obtain ⟨wc, hwc⟩ : ∃ wc, wc = -(gradOn (c+1) k F x2 c) / F c c := ⟨_, rfl⟩
      have hgwc : gradOn c k F (Function.update x2 c wc) c = 0 := by
        rw [gradOn_split hc, Function.update_self, gradOn_congr (htail x2 wc) c, hwc, mul_div_cancel₀ _ hp.ne',
          neg_add_cancel]
      have hgw : ∀ i, c + 1 ≤ i →
          gradOn c k F (Function.update x2 c wc) i = gradOn (c+1) k (elim F c) x2 i := fun i hi => by
        rw [← gradOn_elim hc hp.ne' _ i hi hgwc]
        exact gradOn_congr (htail x2 wc) i
      refine ⟨_, kktOn_update h2 hgw ?_ hgwc.ge (by rw [hgwc, mul_zero])⟩
      -- `x_c < 0` would contradict the monotonicity of the positive-definite form between the two candidates
      by_contra hneg
      have hq := hP (fun i => Function.update x1 c 0 i - Function.update x2 c wc i) ⟨c, le_refl _, hc, by
        show Function.update x1 c 0 c - Function.update x2 c wc c ≠ 0
        rw [Function.update_self, Function.update_self, zero_sub]
        exact neg_ne_zero.mpr (not_le.mp hneg).ne⟩
      rw [Qf_eq_grad_diff, sum_eq_sum_Ico_succ_bot hc, hgwc, sub_zero, Function.update_self, Function.update_self,
        zero_sub] at hq
      refine absurd hq (not_lt.mpr (add_nonpos
        (mul_nonpos_of_nonneg_of_nonpos (neg_pos.mpr (not_le.mp hneg)).le (not_le.mp hg).le)
        (sum_nonpos fun i hi => ?_)))
      obtain ⟨hi1, hi2⟩ := mem_Ico.mp hi
      obtain ⟨a1, a2, a3⟩ := h1 i hi1 hi2
      obtain ⟨b1, b2, b3⟩ := h2 i hi1 hi2
      rw [hgu i, hgw i hi1, htail x1 0 i hi1 hi2, htail x2 wc i hi1 hi2]
      exact compl_pairs a1 a2 a3 b1 b2 b3

/-- the augmented entries `[A | b]` on `[0,n)` -/
def augF (n : ℕ) (A : Mat) (b : Vec) : FM := fun i j => if j < n then A i j else b i

theorem gradOn_aug (n : ℕ) (A : Mat) (b : Vec) (x : ℕ → ℚ) (i : ℕ) :
    gradOn 0 n (augF n A b) x i = grad n A b x i := by
  unfold gradOn augF grad Nnls.mulVec
  rw [sumTo_range, Nat.Ico_zero_eq_range, if_neg (lt_irrefl n)]
  congr 1
  apply sum_congr rfl; intro j hj
  rw [if_pos (mem_range.mp hj)]

theorem kkt_point_exists (n : ℕ) (A : Mat) (b : Vec) (hA : SPD (toMat n A)) :
    ∃ x : ℕ → ℚ, kktCheck n A b x (fun _ => 0) = true := by
  obtain ⟨hsym, hpd⟩ := (spd_toMat_iff_window n A).mp hA
  have hS : SymOn 0 n (augF n A b) := by
    intro i j _ hi _ hj; unfold augF; rw [if_pos hi, if_pos hj]; exact hsym i j (Nat.zero_le _) hi (Nat.zero_le _) hj
  have hP : PDOn 0 n (augF n A b) :=
    posDefFrom_congr (fun i _ _ j _ hj => by unfold augF; rw [if_pos hj]) hpd
  obtain ⟨x, hx⟩ := kktOn_exists (k := n) n 0 (augF n A b) (Nat.zero_add n) hS hP
  refine ⟨x, kktCheck_zero_iff.mpr fun i hi => ?_⟩
  obtain ⟨h1, h2, h3⟩ := hx i (Nat.zero_le _) hi
  rw [gradOn_aug] at h2 h3
  exact ⟨h1, h2, fun hpos => (mul_eq_zero.mp h3).resolve_left hpos.ne'⟩

/-- every subset of `[0,n)` is the support of a mask below `2ⁿ` (`Nat.ofBits`, see `Nat.ofBits_lt_two_pow`) -/
theorem maskSet_ofBits (p : ℕ → Bool) (n : ℕ) :
    maskSet n (Nat.ofBits fun i : Fin n => p i) = (List.range n).filter p :=
  List.filter_congr fun i hi => Nat.testBit_ofBits_lt _ i (List.mem_range.mp hi)

theorem refSearch_complete (n : ℕ) (A : Mat) (b : Vec) : ∀ (fuel m0 m : ℕ) (y : Array ℚ), m0 ≤ m → m < m0 + fuel →
    tryMask n A b m = some y → ∃ xa, refSearch n A b fuel m0 = some xa := by
  intro fuel
  induction fuel with
  | zero => exact fun m0 m y h1 h2 _ => absurd h2 (Nat.not_lt.mpr h1)
  | succ f ih =>
    intro m0 m y h1 h2 hs
    unfold refSearch
    cases ht : tryMask n A b m0 with
    | some z => exact ⟨z, rfl⟩
    | none =>
      have hne : m0 ≠ m := fun h => by rw [h, hs] at ht; cases ht
      exact ih (m0+1) m y (Nat.lt_of_le_of_ne h1 hne) (by omega) hs

theorem solve_unique {n : ℕ} {A : Mat} {b : Vec} (hA : SPD (toMat n A)) (p : ℕ → Bool) (u v : ℕ → ℚ)
    (hu0 : ∀ i, i < n → p i = false → u i = 0) (hv0 : ∀ i, i < n → p i = false → v i = 0)
    (hu : ∀ i, i < n → p i = true → grad n A b u i = 0) (hv : ∀ i, i < n → p i = true → grad n A b v i = 0) :
    ∀ i, i < n → u i = v i := by
  by_contra hne
  have hd : toVec n u - toVec n v ≠ 0 := fun h0 => hne fun i hi =>
    sub_eq_zero.mp (show u i - v i = 0 from congrFun h0 ⟨i, hi⟩)
  -- `dᵀAd = 0` for the difference `d`: off `p` it vanishes, on `p` `Ad` is the difference of the gradients
  refine (hA.2 _ hd).ne' (dotProduct_eq_zero_of_compl fun i => ?_)
  rw [← gradM_sub _ (toVec n b)]
  cases hi : p i with
  | true => exact Or.inr (by rw [Pi.sub_apply, ← grad_eq, ← grad_eq, hu i i.2 hi, hv i i.2 hi, sub_zero])
  | false => exact Or.inl (by rw [Pi.sub_apply, toVec, toVec, hu0 i i.2 hi, hv0 i i.2 hi, sub_zero])

/-- the support of the KKT point is one of the `2ⁿ` candidates, the solve on it succeeds and reproduces the point -/
theorem refNnls_complete (n : ℕ) (A : Mat) (b : Vec) (hA : SPD (toMat n A)) : ∃ xa, refNnls n A b = some xa := by
  obtain ⟨x, hx⟩ := kkt_point_exists n A b hA
  have key := kktCheck_zero_iff.mp hx
  obtain ⟨y, hy, hoff, hon⟩ := solveOn_filter b hA fun i => decide (0 < x i)
  have hxy : ∀ i, i < n → x i = at0 y i :=
    solve_unique hA (fun i => decide (0 < x i)) x (at0 y)
      (fun i hi h => le_antisymm (not_lt.mp (of_decide_eq_false h)) (key i hi).1) (fun i _ h => hoff i fun _ => h)
      (fun i hi h => (key i hi).2.2 (of_decide_eq_true h)) hon
  have htry : tryMask n A b (Nat.ofBits fun i : Fin n => decide (0 < x i)) = some y := by
    refine tryMask_eq_some.mpr ⟨by rw [maskSet_ofBits fun i => decide (0 < x i)]; exact hy, Array.all_eq_true.mpr fun i hi => ?_,
      kktCheck_congr hxy hx⟩
    have : 0 ≤ at0 y i := by
      by_cases hin : i < n
      · rw [← hxy i hin]; exact (key i hin).1
      · rw [hoff i fun h => absurd h hin]
    rw [at0, Array.getD_eq_getD_getElem?, Array.getElem?_eq_getElem hi] at this
    exact decide_eq_true this
  exact refSearch_complete n A b (2^n) 0 _ y (Nat.zero_le _) (by rw [Nat.zero_add]; exact Nat.ofBits_lt_two_pow _) htry

end PsV.Nnls
