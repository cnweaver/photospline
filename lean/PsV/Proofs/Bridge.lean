import PsV.Proofs.EvalSpec
import PsV.Proofs.Search
/-! Bridge from the specification of the lookup (`searchAxis_ok`) to the hypotheses of the evaluation theorems. -/
namespace PsV
variable {α : Type} [Field α] [LinearOrder α]

/-- Well-formed table, as far as evaluation is concerned. -/
structure Table.WF (T : Table α) : Prop where
  dims : ∀ d ∈ T.dims, d.WF
  stride : lastStrideOne T.dims

def AllNonDegenerate : List (Dim α) → List α → Prop
  | d :: ds, x :: xs => NonDegenerate d x ∧ AllNonDegenerate ds xs
  | _, _ => True

theorem Dim.axis_WF (d : Dim α) (h : d.WF) : (Dim.axis d).WF := by
  refine ⟨h.len, ?_⟩
  intro i j hij hj
  exact h.mono i j (by omega) (by exact_mod_cast hij) (by exact_mod_cast hj)

theorem centerOK_of_spec (d : Dim α) (h : d.WF) (x : α) (c : Nat)
    (hr : InRange (Dim.axis d) x) (hc : CenterSpec (Dim.axis d) x c) :
    CenterOK d.knots d.nknots d.order x c := by
  have hin : d.order ≤ c ∧ c + d.order + 2 ≤ d.nknots := hc.inRange (Dim.axis_WF d h)
  obtain ⟨h1, h2, h3, h4, h5⟩ := hc
  obtain ⟨r1, r2⟩ := hr
  have hlen := h.len
  simp only [Dim.axis] at h1 h2 h3 h4 h5 r1 r2
  have e1 : ((d.nknots - 1 : Nat) : Int) = (d.nknots : Int) - 1 := by omega
  have e2 : ((d.nknots - d.order - 1 : Nat) : Int) = (d.nknots : Int) - d.order - 1 := by omega
  rw [e1] at r2
  rw [e2] at h4 h5
  rw [Int.natCast_succ] at h5
  exact ⟨hlen, h1, hin.2, r1, r2, h3, fun hx => by have := h4 hx; omega, h5, h.mono⟩

theorem allOK_of_search (ds : List (Dim α)) (xs : List α) (cs : List Nat) (hwf : ∀ d ∈ ds, d.WF)
    (hl : ds.length = xs.length) (hnd : AllNonDegenerate ds xs)
    (hs : @searchCenters α (cmpLO α) (ds.map Dim.axis) xs = .ok cs) : AllOK ds xs cs := by
  revert hwf hl hnd
  refine @searchCenters_ok_induct α (Dim α) (cmpLO α) Dim.axis
    (fun ds xs cs => (∀ d ∈ ds, d.WF) → ds.length = xs.length → AllNonDegenerate ds xs → AllOK ds xs cs)
    (fun xs _ hl _ => ?_) (fun d ds x xs c cs ha _ ih hwf hl hnd => ?_) ds xs cs hs
  · cases xs with
    | nil => trivial
    | cons _ _ => cases hl
  · have hd : d.WF := hwf d List.mem_cons_self
    obtain ⟨hr, hc⟩ := searchAxis_ok (Dim.axis d) (Dim.axis_WF d hd) ha
    exact ⟨⟨hd, centerOK_of_spec d hd x c hr hc, hnd.1⟩,
      ih (fun e he => hwf e (List.mem_cons_of_mem _ he)) (Nat.succ.inj hl) hnd.2⟩

theorem searchCenters_ne_nonterm_of_wf (T : Table α) (hwf : T.WF) (xs : List α) :
    @searchCenters α (cmpLO α) (T.dims.map Dim.axis) xs ≠ .nonterm :=
  @searchCenters_ne_nonterm α (Dim α) (cmpLO α) Dim.axis T.dims xs fun d hd x =>
    searchAxis_ne_nonterm (Dim.axis d) (Dim.axis_WF d (hwf.dims d hd)) x

end PsV
