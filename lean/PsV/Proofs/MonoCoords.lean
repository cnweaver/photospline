import PsV.Model.Monotone
import PsV.Proofs.MixedRadix
import Mathlib.Data.Matrix.Mul
/-!
The back-transform of the monotonic fit (C10) as a map on tables `s1 × n × s2`, without any spline.

The in-place loop of `glamfit_complex` has a closed form for every addition (`cumsumLoop_spec`: the running sum `csum` of
each fibre, by an invariant over the flat positions in the order the loop visits them; the index `idx3` is the three-digit
case of `Permute.flat`), and is monotone under any addition that does not decrease the sums it has produced
(`cumsumLoop_mono_of_inv`: exact, inflationary and rounded additions are instances).  In exact arithmetic it is the
cumulative sum "`L`" (`cumsum_exact`); the increment operator `diffAlong` is its inverse; `cumMat` is the matrix of `L`, built
column by column with the loop itself.
-/
namespace PsV
open Finset

theorem idx3_eq (n s2 i j k : Nat) : idx3 n s2 i j k = (i * n + j) * s2 + k := by
  unfold idx3
  rw [Nat.add_mul, Nat.mul_assoc, Nat.mul_assoc, Nat.mul_comm s2 n]

theorem idx3_succ (n s2 i j k : Nat) : idx3 n s2 i (j+1) k = idx3 n s2 i j k + s2 := by
  unfold idx3
  rw [Nat.add_mul, Nat.one_mul]; omega

theorem idx3_blk (n s2 i : Nat) : idx3 n s2 i 0 0 = i * n * s2 := by
  unfold idx3
  rw [Nat.zero_mul, Nat.mul_right_comm]; rfl

theorem idx3_row (n s2 i : Nat) : idx3 n s2 i n 0 = idx3 n s2 (i+1) 0 0 := by
  rw [idx3_eq, idx3_eq, Nat.succ_mul]; rfl

theorem mul_add_lt {a L S off : Nat} (ha : a < L) (ho : off < S) : a * S + off < L * S := Permute.mul_add_lt ha ho

theorem idx3_inj {n s2 i j k i' j' k' : Nat} (hj : j < n) (hk : k < s2) (hj' : j' < n) (hk' : k' < s2)
    (h : idx3 n s2 i j k = idx3 n s2 i' j' k') : i = i' ∧ j = j' ∧ k = k' := by
  rw [idx3_eq, idx3_eq] at h
  obtain ⟨h1, hk2⟩ := Permute.mul_add_inj hk hk' h
  exact ⟨(Permute.mul_add_inj hj hj' h1).1, (Permute.mul_add_inj hj hj' h1).2, hk2⟩

theorem idx3_lt {s1 n s2 i j k : Nat} (hi : i < s1) (hj : j < n) (hk : k < s2) :
    idx3 n s2 i j k < s1 * n * s2 := by
  rw [idx3_eq]
  exact Permute.block_lt hi hj hk

theorem idx3_eq_flat (s1 n s2 i j k : Nat) : idx3 n s2 i j k = Permute.flat [s1, n, s2] [i, j, k] := by
  simp only [Permute.flat, Permute.prodL, idx3, Nat.mul_one, Nat.add_zero]
  rw [Nat.mul_assoc, Nat.mul_comm s2 n, Nat.add_assoc]

theorem box_decomp {s1 n s2 p : Nat} (hp : p < s1 * n * s2) :
    ∃ i j k, i < s1 ∧ j < n ∧ k < s2 ∧ p = idx3 n s2 i j k := by
  have hP : Permute.prodL [s1, n, s2] = s1 * n * s2 := by simp only [Permute.prodL, Nat.mul_one, Nat.mul_assoc]
  have hb := Permute.digits_inBox [s1, n, s2] p (by omega)
  obtain ⟨hi, hb⟩ := Permute.inBox_cons.1 hb
  obtain ⟨hj, hb⟩ := Permute.inBox_cons.1 hb
  obtain ⟨hk, _⟩ := Permute.inBox_cons.1 hb
  exact ⟨_, _, _, hi, hj, hk, by rw [idx3_eq_flat s1]; exact (Permute.flat_digits [s1, n, s2] p (by omega)).symm⟩

theorem idx3_mid {n s2 i j k : Nat} (hj : j < n) (hk : k < s2) : idx3 n s2 i j k / s2 % n = j := by
  rw [idx3_eq]; exact Permute.block_mid i hj hk

theorem foldl_mul_eq (l : List Nat) (a : Nat) : l.foldl (· * ·) a = a * l.foldl (· * ·) 1 := by
  have := List.foldl_assoc (α := Nat) (op := (· * ·)) (l := l) (a₁ := a) (a₂ := 1)
  rwa [Nat.mul_one] at this

theorem foldl_mul_cons (x : Nat) (l : List Nat) :
    (x :: l).foldl (· * ·) 1 = x * l.foldl (· * ·) 1 := by
  rw [← List.prod_eq_foldl_nat, ← List.prod_eq_foldl_nat, List.prod_cons]

theorem strides_total_aux (naxes : List Nat) (m : Nat) (h : m < naxes.length) :
    stride1 naxes m * naxes[m] * stride2 naxes m = naxes.foldl (· * ·) 1 := by
  unfold stride1 stride2
  rw [← List.prod_eq_foldl_nat, ← List.prod_eq_foldl_nat, ← List.prod_eq_foldl_nat, Nat.mul_assoc,
    ← Permute.prod_split naxes h]

theorem forUp_induction {σ : Type} (P : Nat → σ → Prop) (body : Nat → σ → σ) :
    ∀ (cnt lo : Nat) (st : σ), P lo st →
      (∀ v s, lo ≤ v → v < lo + cnt → P v s → P (v+1) (body v s)) →
      P (lo + cnt) (forUp cnt lo body st) := by
  intro cnt
  induction cnt with
  | zero => exact fun lo st h _ => h
  | succ c ih =>
    intro lo st h hstep
    have h1 : P (lo+1) (body lo st) := hstep lo st (Nat.le_refl _) (by omega) h
    have := ih (lo+1) (body lo st) h1 (fun v s hv hv' hp => hstep v s (by omega) (by omega) hp)
    have e : lo + (c+1) = lo + 1 + c := by omega
    rw [e]
    exact this

/-- the running sum along the middle index of fibre `(i, k)`, in the operation order of the loop -/
def csum {α : Type} (add : α → α → α) (out : Nat → α) (n s2 i k : Nat) : Nat → α
  | 0 => out (idx3 n s2 i 0 k)
  | j+1 => add (out (idx3 n s2 i (j+1) k)) (csum add out n s2 i k j)

/-- loop invariant: the loop visits the cells in the order of their flat positions; the cells before position `pos` hold
the running sum of their fibre, the others their initial value -/
def CInv {α : Type} (add : α → α → α) (out : Nat → α) (n s2 : Nat) (pos : Nat) (st : Nat → α) : Prop :=
  ∀ i j k, j < n → k < s2 →
    st (idx3 n s2 i j k) = if idx3 n s2 i j k < pos then csum add out n s2 i k j else out (idx3 n s2 i j k)

section Loop
variable {α : Type} (add : α → α → α) (out : Nat → α) (n s2 : Nat)

theorem CInv_advance (I J K : Nat) (hJ : J < n) (hK : K < s2) (st st' : Nat → α)
    (h : CInv add out n s2 (idx3 n s2 I J K) st) (hat : st' (idx3 n s2 I J K) = csum add out n s2 I K J)
    (hoff : ∀ p, p ≠ idx3 n s2 I J K → st' p = st p) : CInv add out n s2 (idx3 n s2 I J K + 1) st' := by
  intro i j k hj hk
  by_cases heq : idx3 n s2 i j k = idx3 n s2 I J K
  · obtain ⟨rfl, rfl, rfl⟩ := idx3_inj hj hk hJ hK heq
    rw [hat, if_pos (Nat.lt_succ_self _)]
  · rw [hoff _ heq, h i j k hj hk]
    exact if_congr ⟨Nat.lt_succ_of_lt, fun hlt => lt_of_le_of_ne (Nat.lt_succ_iff.mp hlt) heq⟩ rfl rfl

theorem CInv_step (I J K : Nat) (hJ : J + 1 < n) (hK : K < s2) (st : Nat → α)
    (h : CInv add out n s2 (idx3 n s2 I (J+1) K) st) :
    CInv add out n s2 (idx3 n s2 I (J+1) K + 1) (cumStep add n s2 I (J+1) K st) := by
  refine CInv_advance add out n s2 I (J+1) K hJ hK st _ h ?_ (fun p hp => if_neg hp)
  show (if _ = _ then add (st (idx3 n s2 I (J+1) K)) (st (idx3 n s2 I J K)) else _) = add _ _
  rw [if_pos rfl, h I (J+1) K hJ hK, if_neg (lt_irrefl _), h I J K (by omega) hK,
    if_pos (by rw [idx3_succ]; omega)]

theorem CInv_k (I J : Nat) (hJ : J + 1 < n) (st : Nat → α) (h : CInv add out n s2 (idx3 n s2 I (J+1) 0) st) :
    CInv add out n s2 (idx3 n s2 I (J+1+1) 0) (forUp s2 0 (fun k st => cumStep add n s2 I (J+1) k st) st) := by
  have := forUp_induction (fun K s => CInv add out n s2 (idx3 n s2 I (J+1) K) s)
    (fun k st => cumStep add n s2 I (J+1) k st) s2 0 st h
    (fun v s _ hv hp => CInv_step add out n s2 I J v hJ (by omega) s hp)
  rw [Nat.zero_add] at this
  rw [idx3_succ]
  exact this

theorem CInv_j (I : Nat) (st : Nat → α) (h : CInv add out n s2 (idx3 n s2 I 0 0) st) :
    CInv add out n s2 (idx3 n s2 (I+1) 0 0)
      (forUp (n - 1) 1 (fun j st => forUp s2 0 (fun k st => cumStep add n s2 I j k st) st) st) := by
  rcases n with _ | n
  · intro i j k hj; omega
  -- the cells of row 0 already hold their running sum, which is their initial value
  have h0 : ∀ K, K ≤ s2 → CInv add out (n+1) s2 (idx3 (n+1) s2 I 0 K) st := by
    intro K
    induction K with
    | zero => exact fun _ => h
    | succ K ih =>
      intro hK
      have hK' := ih (by omega)
      refine CInv_advance add out (n+1) s2 I 0 K (Nat.succ_pos n) hK st st hK' ?_ (fun _ _ => rfl)
      rw [hK' I 0 K (Nat.succ_pos n) hK, if_neg (lt_irrefl _)]; rfl
  have h1 : CInv add out (n+1) s2 (idx3 (n+1) s2 I (0+1) 0) st := by
    rw [idx3_succ]; exact h0 s2 (le_refl _)
  have := forUp_induction (fun J s => CInv add out (n+1) s2 (idx3 (n+1) s2 I J 0) s)
    (fun j st => forUp s2 0 (fun k st => cumStep add (n+1) s2 I j k st) st) n 1 st h1
    (fun v s hv hv' hp => by
      obtain ⟨J, rfl⟩ : ∃ J, v = J + 1 := ⟨v - 1, by omega⟩
      exact CInv_k add out (n+1) s2 I J (by omega) s hp)
  rw [Nat.add_comm 1 n, idx3_row] at this
  exact this

theorem cumsumLoop_spec (s1 : Nat) {i j k : Nat} (hi : i < s1) (hj : j < n) (hk : k < s2) :
    cumsumLoop add s1 n s2 out (idx3 n s2 i j k) = csum add out n s2 i k j := by
  have := forUp_induction (fun I s => CInv add out n s2 (idx3 n s2 I 0 0) s)
    (fun i st => forUp (n - 1) 1 (fun j st =>
      forUp s2 0 (fun k st => cumStep add n s2 i j k st) st) st) s1 0 out
    (fun i j k _ _ => (if_neg (by rw [idx3_blk, Nat.zero_mul, Nat.zero_mul]; exact Nat.not_lt_zero _)).symm)
    (fun v s _ _ hp => CInv_j add out n s2 v s hp)
  rw [Nat.zero_add] at this
  exact (this i j k hj hk).trans (if_pos (by rw [idx3_blk]; exact idx3_lt hi hj hk))

end Loop

theorem csum_mono_step {α : Type} [LinearOrder α] (z : α) (add : α → α → α)
    (hadd : ∀ a s, z ≤ a → s ≤ add a s) (out : Nat → α) (n s2 i k j : Nat)
    (h : z ≤ out (idx3 n s2 i (j+1) k)) :
    csum add out n s2 i k j ≤ csum add out n s2 i k (j+1) :=
  hadd _ _ h

/-- the proposition the model's executable `monoAlongB` decides (`monoAlongB_iff`) -/
def MonoAlong {α : Type} [LE α] (s1 n s2 : Nat) (c : Nat → α) : Prop :=
  ∀ i, i < s1 → ∀ j, j + 1 < n → ∀ k, k < s2 → c (idx3 n s2 i j k) ≤ c (idx3 n s2 i (j+1) k)

/-- `R` always true: any addition with `s ≤ add a s` for `a ≥ z`; `R` = representable and `add = rnd ∘ plus`: a rounded
addition, which fixes the running sum before it adds -/
theorem cumsumLoop_mono_of_inv {α : Type} [LE α] (z : α) (add : α → α → α) (R : α → Prop)
    (hadd : ∀ a s, z ≤ a → R s → s ≤ add a s) (hR : ∀ a s, R (add a s)) (s1 n s2 : Nat) (out : Nat → α)
    (hR0 : ∀ p, p < s1 * n * s2 → R (out p)) (hout : ∀ p, p < s1 * n * s2 → z ≤ out p) :
    MonoAlong s1 n s2 (cumsumLoop add s1 n s2 out) := by
  intro i hi j hj k hk
  rw [cumsumLoop_spec add out n s2 s1 hi (Nat.lt_of_succ_lt hj) hk, cumsumLoop_spec add out n s2 s1 hi hj hk]
  refine hadd _ _ (hout _ (idx3_lt hi hj hk)) ?_
  cases j with
  | zero => exact hR0 _ (idx3_lt hi (Nat.lt_of_succ_lt hj) hk)
  | succ j => exact hR _ _

theorem cumsumLoop_ge_of_inv {α : Type} [Preorder α] (z : α) (add : α → α → α) (R : α → Prop)
    (hadd : ∀ a s, z ≤ a → R s → s ≤ add a s) (hR : ∀ a s, R (add a s)) (s1 n s2 : Nat) (out : Nat → α)
    (hR0 : ∀ p, p < s1 * n * s2 → R (out p)) (hout : ∀ p, p < s1 * n * s2 → z ≤ out p)
    {i j k : Nat} (hi : i < s1) (hj : j < n) (hk : k < s2) : z ≤ cumsumLoop add s1 n s2 out (idx3 n s2 i j k) := by
  induction j with
  | zero => rw [cumsumLoop_spec add out n s2 s1 hi hj hk]; exact hout _ (idx3_lt hi hj hk)
  | succ j ih =>
    exact (ih (Nat.lt_of_succ_lt hj)).trans (cumsumLoop_mono_of_inv z add R hadd hR s1 n s2 out hR0 hout i hi j hj k hk)

theorem monoAlongB_iff {α : Type} [LinearOrder α] (s1 n s2 : Nat) (c : Nat → α) :
    monoAlongB (fun a b => decide (a ≤ b)) s1 n s2 c = true ↔ MonoAlong s1 n s2 c := by
  unfold monoAlongB MonoAlong
  simp only [List.all_eq_true, List.mem_range, decide_eq_true_eq]
  exact ⟨fun h i hi j hj k hk => h i hi j (by omega) k hk, fun h i hi j hj k hk => h i hi j (by omega) k hk⟩

theorem monoAlongB_of_le {α : Type} [LinearOrder α] (s1 n s2 : Nat) (c : Nat → α)
    (h : ∀ i, i < s1 → ∀ j, j + 1 < n → ∀ k, k < s2 → c (idx3 n s2 i j k) ≤ c (idx3 n s2 i (j+1) k)) :
    monoAlongB (fun a b => decide (a ≤ b)) s1 n s2 c = true :=
  (monoAlongB_iff s1 n s2 c).mpr h

theorem le_of_monoAlongB {α : Type} [LinearOrder α] (s1 n s2 : Nat) (c : Nat → α)
    (h : monoAlongB (fun a b => decide (a ≤ b)) s1 n s2 c = true) :
    ∀ i, i < s1 → ∀ j, j + 1 < n → ∀ k, k < s2 → c (idx3 n s2 i j k) ≤ c (idx3 n s2 i (j+1) k) :=
  (monoAlongB_iff s1 n s2 c).mp h

theorem csum_add_eq_sum {α : Type} [AddCommMonoid α] (t : Nat → α) (n s2 i k j : Nat) :
    csum (· + ·) t n s2 i k j = ∑ l ∈ range (j+1), t (idx3 n s2 i l k) := by
  induction j with
  | zero => simp [csum]
  | succ j ih =>
    rw [Finset.sum_range_succ, ← ih]
    exact add_comm _ _

theorem sum_range_ite_le {α : Type} [AddCommMonoid α] (f : Nat → α) (n j : Nat) (h : j < n) :
    ∑ l ∈ range n, (if l ≤ j then f l else 0) = ∑ l ∈ range (j+1), f l := by
  rw [← Finset.sum_filter]
  congr 1
  ext a
  simp only [mem_filter, mem_range]
  omega

/-- one fibre of the change of basis: `Σ_j (B·L)_j t_j = Σ_j B_j (Σ_{l ≤ j} t_l)` -/
theorem fibre_BL {α : Type} [CommRing α] (B t : Nat → α) (n : Nat) :
    ∑ j ∈ range n, (∑ l ∈ range n, if j ≤ l then B l else 0) * t j
      = ∑ j ∈ range n, B j * ∑ l ∈ range (j+1), t l := by
  have h1 : ∀ j ∈ range n, B j * ∑ l ∈ range (j+1), t l
      = ∑ l ∈ range n, (if l ≤ j then B j * t l else 0) := by
    intro j hj
    rw [sum_range_ite_le (fun l => B j * t l) n j (mem_range.mp hj), Finset.mul_sum]
  rw [Finset.sum_congr rfl h1, Finset.sum_comm]
  apply Finset.sum_congr rfl
  intro j _
  rw [Finset.sum_mul]
  apply Finset.sum_congr rfl
  intro l _
  split <;> simp

open Matrix

theorem cumsum_exact {α : Type} [AddCommMonoid α] (s1 n s2 : Nat) (t : Nat → α)
    {i j k : Nat} (hi : i < s1) (hj : j < n) (hk : k < s2) :
    cumsumLoop (· + ·) s1 n s2 t (idx3 n s2 i j k) = ∑ l ∈ range (j+1), t (idx3 n s2 i l k) := by
  rw [cumsumLoop_spec _ t n s2 s1 hi hj hk]
  exact csum_add_eq_sum t n s2 i k j

theorem diffAlong_first {α : Type} (sub : α → α → α) (n s2 : Nat) (c : Nat → α) {i k : Nat}
    (hn : 0 < n) (hk : k < s2) : diffAlong sub n s2 c (idx3 n s2 i 0 k) = c (idx3 n s2 i 0 k) := by
  unfold diffAlong
  rw [idx3_mid hn hk, if_pos rfl]

theorem diffAlong_succ {α : Type} (sub : α → α → α) (n s2 : Nat) (c : Nat → α) {i j k : Nat}
    (hj : j + 1 < n) (hk : k < s2) :
    diffAlong sub n s2 c (idx3 n s2 i (j+1) k) = sub (c (idx3 n s2 i (j+1) k)) (c (idx3 n s2 i j k)) := by
  unfold diffAlong
  rw [idx3_mid hj hk, if_neg (by omega), idx3_succ, Nat.add_sub_cancel]

theorem cumsum_congr {α : Type} [AddCommMonoid α] (s1 n s2 : Nat) (t t' : Nat → α)
    (h : ∀ p, p < s1 * n * s2 → t p = t' p) {p : Nat} (hp : p < s1 * n * s2) :
    cumsumLoop (· + ·) s1 n s2 t p = cumsumLoop (· + ·) s1 n s2 t' p := by
  obtain ⟨i, j, k, hi, hj, hk, rfl⟩ := box_decomp hp
  rw [cumsum_exact s1 n s2 _ hi hj hk, cumsum_exact s1 n s2 _ hi hj hk]
  apply Finset.sum_congr rfl
  intro l hl
  exact h _ (idx3_lt hi (by have := mem_range.mp hl; omega) hk)

theorem cumsum_diffAlong {α : Type} [AddCommGroup α] (s1 n s2 : Nat) (c : Nat → α) {p : Nat}
    (hp : p < s1 * n * s2) :
    cumsumLoop (· + ·) s1 n s2 (diffAlong (· - ·) n s2 c) p = c p := by
  obtain ⟨i, j, k, hi, hj, hk, rfl⟩ := box_decomp hp
  rw [cumsum_exact s1 n s2 _ hi hj hk]
  clear hp
  induction j with
  | zero =>
    rw [Finset.sum_range_one, diffAlong_first _ _ _ _ hj hk]
  | succ j ih =>
    rw [Finset.sum_range_succ, ih (by omega), diffAlong_succ _ _ _ _ hj hk]
    exact add_sub_cancel _ _

theorem diffAlong_cumsum {α : Type} [AddCommGroup α] (s1 n s2 : Nat) (t : Nat → α) {p : Nat}
    (hp : p < s1 * n * s2) :
    diffAlong (· - ·) n s2 (cumsumLoop (· + ·) s1 n s2 t) p = t p := by
  obtain ⟨i, j, k, hi, hj, hk, rfl⟩ := box_decomp hp
  cases j with
  | zero =>
    rw [diffAlong_first _ _ _ _ hj hk, cumsum_exact s1 n s2 _ hi hj hk, Finset.sum_range_one]
  | succ j =>
    rw [diffAlong_succ _ _ _ _ hj hk, cumsum_exact s1 n s2 _ hi hj hk,
      cumsum_exact s1 n s2 _ hi (by omega) hk, Finset.sum_range_succ _ (j+1)]
    exact add_sub_cancel_left _ _

theorem cumsum_injective {α : Type} [AddCommGroup α] (s1 n s2 : Nat) (t t' : Nat → α)
    (h : ∀ p, p < s1 * n * s2 → cumsumLoop (· + ·) s1 n s2 t p = cumsumLoop (· + ·) s1 n s2 t' p) :
    ∀ p, p < s1 * n * s2 → t p = t' p := by
  intro p hp
  rw [← diffAlong_cumsum s1 n s2 t hp, ← diffAlong_cumsum s1 n s2 t' hp]
  unfold diffAlong
  rw [h p hp, h (p - s2) (lt_of_le_of_lt (Nat.sub_le _ _) hp)]

theorem diffAlong_nonneg_iff {α : Type} [AddCommGroup α] [LinearOrder α] [IsOrderedAddMonoid α]
    (s1 n s2 : Nat) (c : Nat → α) :
    (∀ p, p < s1 * n * s2 → 0 ≤ diffAlong (· - ·) n s2 c p) ↔
      (∀ i, i < s1 → ∀ k, k < s2 → 0 < n → 0 ≤ c (idx3 n s2 i 0 k)) ∧
      (∀ i, i < s1 → ∀ j, j + 1 < n → ∀ k, k < s2 → c (idx3 n s2 i j k) ≤ c (idx3 n s2 i (j+1) k)) := by
  constructor
  · intro h
    refine ⟨fun i hi k hk hn => ?_, fun i hi j hj k hk => ?_⟩
    · have := h _ (idx3_lt hi hn hk)
      rwa [diffAlong_first _ _ _ _ hn hk] at this
    · have := h _ (idx3_lt hi hj hk)
      rw [diffAlong_succ _ _ _ _ hj hk] at this
      exact sub_nonneg.mp this
  · rintro ⟨h0, h1⟩ p hp
    obtain ⟨i, j, k, hi, hj, hk, rfl⟩ := box_decomp hp
    cases j with
    | zero => rw [diffAlong_first _ _ _ _ hj hk]; exact h0 i hi k hk hj
    | succ j => rw [diffAlong_succ _ _ _ _ hj hk]; exact sub_nonneg.mpr (h1 i hi j hj k hk)

theorem incNonnegB_iff {α : Type} [Zero α] [LE α] [DecidableLE α] (sub : α → α → α) (s1 n s2 : Nat) (c : Nat → α) :
    incNonnegB (fun a => decide (0 ≤ a)) sub s1 n s2 c = true ↔ ∀ p, p < s1 * n * s2 → 0 ≤ diffAlong sub n s2 c p := by
  unfold incNonnegB
  simp only [List.all_eq_true, List.mem_range, decide_eq_true_eq]

/-- a vector indexed by `Fin N` as a function on `Nat` (zero outside) -/
def extZ {α : Type} [Zero α] {N : Nat} (t : Fin N → α) : Nat → α := fun q => if h : q < N then t ⟨q, h⟩ else 0

theorem extZ_val {α : Type} [Zero α] {N : Nat} (t : Fin N → α) (q : Fin N) : extZ t q.val = t q := by
  unfold extZ
  rw [dif_pos q.isLt]

/-- `L = I_{s1} ⊗ (lower-triangular ones)_n ⊗ I_{s2}`: column `q` is the cumulative sum of the unit vector `e_q`,
computed by the loop of `glamfit_complex` itself -/
def cumMat (α : Type) [Semiring α] (s1 n s2 : Nat) : Matrix (Fin (s1 * n * s2)) (Fin (s1 * n * s2)) α :=
  fun p q => cumsumLoop (· + ·) s1 n s2 (fun r => if r = q.val then 1 else 0) p.val

theorem cumMat_mulVec {α : Type} [CommSemiring α] (s1 n s2 : Nat) (t : Fin (s1 * n * s2) → α)
    (p : Fin (s1 * n * s2)) :
    (cumMat α s1 n s2 *ᵥ t) p = cumsumLoop (· + ·) s1 n s2 (extZ t) p.val := by
  obtain ⟨i, j, k, hi, hj, hk, hp⟩ := box_decomp p.isLt
  rw [hp, cumsum_exact s1 n s2 _ hi hj hk]
  unfold Matrix.mulVec dotProduct cumMat
  have e : ∀ q : Fin (s1 * n * s2),
      cumsumLoop (· + ·) s1 n s2 (fun r => if r = q.val then (1 : α) else 0) p.val * t q
        = ∑ l ∈ range (j+1), (if idx3 n s2 i l k = q.val then t q else 0) := by
    intro q
    rw [hp, cumsum_exact s1 n s2 _ hi hj hk, Finset.sum_mul]
    apply Finset.sum_congr rfl
    intro l _
    split <;> simp
  rw [Finset.sum_congr rfl (fun q _ => e q), Finset.sum_comm]
  apply Finset.sum_congr rfl
  intro l hl
  have hl' : l < n := by have := mem_range.mp hl; omega
  have hlt : idx3 n s2 i l k < s1 * n * s2 := idx3_lt hi hl' hk
  rw [Finset.sum_eq_single (⟨idx3 n s2 i l k, hlt⟩ : Fin (s1 * n * s2))]
  · rw [if_pos rfl]
    exact (extZ_val t ⟨_, hlt⟩).symm
  · intro q _ hq
    rw [if_neg]
    intro hc
    exact hq (Fin.ext hc.symm)
  · intro h; exact absurd (Finset.mem_univ _) h

theorem cumMat_injective {α : Type} [CommRing α] (s1 n s2 : Nat) (t : Fin (s1 * n * s2) → α)
    (h : cumMat α s1 n s2 *ᵥ t = 0) : t = 0 := by
  funext q
  have h0 : ∀ p, p < s1 * n * s2 →
      cumsumLoop (· + ·) s1 n s2 (extZ t) p = cumsumLoop (· + ·) s1 n s2 (fun _ => (0 : α)) p := by
    intro p hp
    have := congrFun h ⟨p, hp⟩
    rw [cumMat_mulVec] at this
    rw [this]
    obtain ⟨i, j, k, hi, hj, hk, rfl⟩ := box_decomp hp
    rw [cumsum_exact s1 n s2 _ hi hj hk]
    simp
  have := cumsum_injective s1 n s2 _ _ h0 q.val q.isLt
  rw [extZ_val] at this
  exact this

theorem cumMat_mulVec_diffAlong {α : Type} [CommRing α] (s1 n s2 : Nat) (c : Fin (s1 * n * s2) → α) :
    cumMat α s1 n s2 *ᵥ (fun q => diffAlong (· - ·) n s2 (extZ c) q.val) = c := by
  funext q
  rw [cumMat_mulVec, cumsum_congr s1 n s2 _ (diffAlong (· - ·) n s2 (extZ c)) (fun r hr => extZ_val _ ⟨r, hr⟩) q.isLt,
    cumsum_diffAlong s1 n s2 (extZ c) q.isLt, extZ_val]

end PsV
