import PsV.Proofs.ConvBlossom
import PsV.Proofs.Convolve
/-!
# The transfer matrix against the new basis (list level)

`trafo_sum_closed`: for the sorted knot list `rho` containing every pairwise sum, every old basis function `j`,
and every non-empty interval `left` of `rho`: `Σ_{i < nNew} trafo[i,j] · B_{i,p+q}(u | rho)` (polynomial piece
`left`) is `norm · (τ_{j+p+1} − τ_j) · [τ_j..τ_{j+p+1}] [y_0..y_q] (τ_a + y_b − u)_+^{p+q}` with the truncated power cut
at the interval.  The stored range `i < nNew` is handled by extending `rho` by strictly smaller/larger knots:
the blossoms of the extra basis functions vanish.
-/
namespace PsV
open Finset

theorem _root_.List.Pairwise.strictBelow {l : List Rat} (h : l.Pairwise (· < ·)) : StrictBelow (getK l) l.length :=
  getK_strict l h

/-- `rho` extended to all integers by strictly smaller knots on the left and larger ones on the right:
the knot at the index clamped into the list, plus what the clamping cut off -/
def extKnots (rho : List Rat) (z : Int) : Rat :=
  getK rho (min z.toNat (rho.length - 1)) + ((min z 0 : Int) : Rat) + ((max (z - ((rho.length : Int) - 1)) 0 : Int) : Rat)

theorem extKnots_nat (rho : List Rat) (i : Nat) (h : i < rho.length) : extKnots rho (i : Int) = getK rho i := by
  rw [extKnots, Int.toNat_natCast, min_eq_left (by omega), min_eq_right (Int.natCast_nonneg i),
    max_eq_right (by omega), Int.cast_zero, add_zero, add_zero]

theorem extKnots_mono (rho : List Rat) (hs : rho.Pairwise (· ≤ ·)) (hpos : 0 < rho.length) :
    Monotone (extKnots rho) := fun a b hab =>
  add_le_add (add_le_add
    (getK_mono rho hs _ _ (min_le_min_right _ (Int.toNat_le_toNat hab)) (lt_of_le_of_lt (min_le_right _ _) (by omega)))
    (Int.cast_le.mpr (min_le_min_right 0 hab))) (Int.cast_le.mpr (max_le_max_right 0 (sub_le_sub_right hab _)))

theorem extKnots_neg_lt (rho : List Rat) (z : Int) (hz : z < 0) : extKnots rho z < getK rho 0 := by
  have : (z : Rat) < 0 := Int.cast_lt_zero.mpr hz
  rw [extKnots, Int.toNat_of_nonpos hz.le, Nat.zero_min, min_eq_left hz.le, max_eq_right (by omega), Int.cast_zero,
    add_zero]
  linarith

theorem node_index (rho : List Rat) (s : Rat) (h : s ∈ rho) : ∃ r : Nat, r < rho.length ∧ extKnots rho (r : Int) = s := by
  obtain ⟨r, hr, he⟩ := List.getElem_of_mem h
  exact ⟨r, hr, by rw [extKnots_nat rho r hr, getK_eq rho r hr, he]⟩

theorem node_side (rho : List Rat) (hs : rho.Pairwise (· ≤ ·)) (left : Nat) (hleft : left + 1 < rho.length)
    (s : Rat) (h : s ∈ rho) : s ≤ getK rho left ∨ getK rho (left+1) ≤ s := by
  obtain ⟨r, hr, he⟩ := List.getElem_of_mem h
  rw [← he, ← getK_eq rho r hr]
  rcases Nat.lt_or_ge left r with h | h
  · exact Or.inr (getK_mono rho hs _ _ h hr)
  · exact Or.inl (getK_mono rho hs _ _ h (by omega))

theorem knot_is_bag (rho : List Rat) (hs : rho.Pairwise (· ≤ ·)) (hpos : 0 < rho.length) (i : Int) (r n : Nat)
    (hz : extKnots rho i < extKnots rho r) (hup : (r : Int) ≤ i + n) :
    ∃ m : Nat, m < n ∧ extKnots rho r = extKnots rho (i + 1 + m) := by
  have h1 : i < r := (extKnots_mono rho hs hpos).reflect_lt hz
  exact ⟨((r : Int) - i - 1).toNat, by omega, by congr 1; omega⟩

section
variable (knots ck rho : List Rat) (p q : Nat)
  (hτ : ∀ a b, a < b → b < knots.length → getK knots a < getK knots b)
  (hy : ∀ a b, a < b → b < ck.length → getK ck a < getK ck b)
  (hsorted : rho.Pairwise (· ≤ ·))
  (hmem : ∀ a b, a < knots.length → b < ck.length → getK knots a + getK ck b ∈ rho)

/-- coefficient of the (possibly fictitious) basis function `i` of the extended knot vector -/
def extCoef (j : Nat) (i : Int) : Rat :=
  dd2 (getK knots) (getK ck)
    (fun a b => blossomG (extKnots rho i) (fun m => extKnots rho (i + 1 + m)) (p+q) (getK knots a + getK ck b))
    (p+2) j (q+1) 0

include hτ hy hsorted hmem in
theorem trafoEntry_closed (norm : Rat) (i j : Nat) (hck : ck.length = q + 1) (hj : j + p + 1 < knots.length)
    (hi : i + (p+q) + 1 < rho.length) :
    trafoEntry knots ck rho (p+1) q norm i j =
      norm * ((getK knots (j+p+1) - getK knots j) * extCoef knots ck rho p q j (i : Int)) := by
  have hpos : 0 < rho.length := by omega
  have hcast : ∀ m : Nat, (i : Int) + 1 + m = ((i + 1 + m : Nat) : Int) := fun m => by omega
  have hB := convolutedBlossom_eq (fun a => getK knots (j + a)) (p+1+1) (getK ck) (q+1) (getK rho i)
    (fun a => getK rho (i + 1 + a)) (p+q) (by omega) (by omega) (by omega)
    (fun a b hab hb => hτ (j+a) (j+b) (by omega) (by omega))
    (fun a b hab hb => hy a b hab (by omega))
    (by
      -- nodes strictly between `z = ρ_i` and the last bag are bags
      intro a b ha hb hz hlt
      obtain ⟨r, hr, he⟩ := node_index rho _ (hmem (j+a) b (by omega) (by omega))
      have hup : r < i + 1 + (p + q - 1) := by
        by_contra hcon
        have := getK_mono rho hsorted (i + 1 + (p+q-1)) r (by omega) hr
        rw [← extKnots_nat rho r hr, he] at this
        exact absurd hlt (not_lt.mpr this)
      obtain ⟨m, hm, hem⟩ := knot_is_bag rho hsorted hpos i r (p+q)
        (by rw [extKnots_nat rho i (by omega), he]; exact hz) (by omega)
      exact ⟨m, hm, by rw [← he, hem, hcast, extKnots_nat rho _ (by omega)]⟩)
  have hG : ∀ s, blossomG (getK rho i) (fun a => getK rho (i + 1 + a)) (p+q) s =
      blossomG (extKnots rho i) (fun m => extKnots rho ((i : Int) + 1 + m)) (p+q) s := fun s =>
    blossomG_congr s (extKnots_nat rho i (by omega)).symm
      (fun m hm => by rw [hcast, extKnots_nat rho _ (by omega)])
  unfold trafoEntry
  rw [show p + 1 + q - 1 = p + q by omega, hck, hB]
  simp only [hG]
  rw [dd2_shift (getK knots) (getK ck) (fun a b => blossomG (extKnots rho i) (fun m => extKnots rho ((i : Int) + 1 + m))
    (p+q) (getK knots a + getK ck b)) j (p+1+1) 0 (q+1) 0]
  rfl

include hτ hy hsorted hmem in
theorem extCoef_neg (j : Nat) (i : Int) (hi : i < 0) (hpos : 0 < rho.length)
    (hck : ck.length = q + 1) (hj : j + p + 1 < knots.length) :
    extCoef knots ck rho p q j i = 0 :=
  dd2_blossomG_above _ _ _ _ (p+q) (p+2) j (q+1) 0
    (StrictBelow.distinctOn hτ (by omega)) (StrictBelow.distinctOn hy (by omega)) (by omega)
    (fun a b _ _ _ _ => by
      obtain ⟨r, hr, he⟩ := node_index rho _ (hmem a b (by omega) (by omega))
      rw [← he]
      calc extKnots rho i < getK rho 0 := extKnots_neg_lt rho i hi
        _ = extKnots rho (0 : Nat) := (extKnots_nat rho 0 hpos).symm
        _ ≤ extKnots rho r := extKnots_mono rho hsorted hpos (by omega))

include hsorted hmem in
/-- basis functions that would need knots beyond the end of `rho` get coefficient 0 -/
theorem extCoef_high (j : Nat) (i : Int) (hlo : (rho.length : Int) - (p+q) - 1 ≤ i) (hpos : 0 < rho.length)
    (hck : ck.length = q + 1) (hj : j + p + 1 < knots.length) :
    extCoef knots ck rho p q j i = 0 :=
  dd2_blossomG_bags _ _ _ _ (p+q) (p+2) j (q+1) 0 (fun a b _ _ _ _ hz => by
    obtain ⟨r, hr, he⟩ := node_index rho _ (hmem a b (by omega) (by omega))
    rw [← he] at hz ⊢
    exact knot_is_bag rho hsorted hpos i r (p+q) hz (by omega))

end

theorem trafo_sum_closed (knots ck rho : List Rat) (p q : Nat) (norm : Rat) (j left : Nat) (t : Int → Rat) (u : Rat)
    (hck : ck.length = q + 1) (hj : j + p + 1 < knots.length)
    (hτ : ∀ a b, a < b → b < knots.length → getK knots a < getK knots b)
    (hy : ∀ a b, a < b → b < ck.length → getK ck a < getK ck b)
    (hsorted : rho.Pairwise (· ≤ ·))
    (hmem : ∀ a b, a < knots.length → b < ck.length → getK knots a + getK ck b ∈ rho)
    (hleft : left + 1 < rho.length) (hne : getK rho left < getK rho (left+1))
    (ht : ∀ i : Nat, i < rho.length → t (i : Int) = getK rho i) :
    ∑ i ∈ range (rho.length - (p+q) - 1), trafoEntry knots ck rho (p+1) q norm i j * Bp t u (left : Int) (p+q) (i : Int)
      = norm * ((getK knots (j+p+1) - getK knots j) *
          dd2 (getK knots) (getK ck)
            (fun a b => if getK rho (left+1) ≤ getK knots a + getK ck b then (getK knots a + getK ck b - u)^(p+q) else 0)
            (p+2) j (q+1) 0) := by
  have hpos : 0 < rho.length := by omega
  set n := p + q with hn
  -- 1. rewrite every stored term over the extended knots
  have hterm : ∀ i ∈ range (rho.length - n - 1),
      trafoEntry knots ck rho (p+1) q norm i j * Bp t u (left : Int) n (i : Int) =
      norm * ((getK knots (j+p+1) - getK knots j) *
        (extCoef knots ck rho p q j (i : Int) * Bp (extKnots rho) u (left : Int) n (i : Int))) := by
    intro i hi
    rw [mem_range] at hi
    rw [trafoEntry_closed knots ck rho p q hτ hy hsorted hmem norm i j hck hj (by omega), mul_assoc, mul_assoc,
      Bp_congr_knots t (extKnots rho) u left n i (fun z hz1 hz2 => by
        lift z to Nat using (Int.natCast_nonneg i).trans hz1
        rw [ht z (by omega), extKnots_nat rho z (by omega)])]
  rw [Finset.sum_congr rfl hterm, ← Finset.mul_sum, ← Finset.mul_sum]
  -- 2. only the window `left-n … left` contributes
  rw [window_reindex (fun i => extCoef knots ck rho p q j i * Bp (extKnots rho) u (left : Int) n i) (rho.length - n - 1) left n
    (fun i hi => mul_eq_zero_of_left (extCoef_neg knots ck rho p q hτ hy hsorted hmem j i hi hpos hck hj) _)
    (fun i hi => mul_eq_zero_of_right _ (Bp_zero_of_not_mem (extKnots rho) u left n i (Or.inr hi)))
    (fun i hi => mul_eq_zero_of_right _ (Bp_zero_of_not_mem (extKnots rho) u left n i (Or.inl hi)))
    (fun i hi1 hi2 => mul_eq_zero_of_left (extCoef_high knots ck rho p q hsorted hmem j i (by omega) hpos hck hj) _)]
  -- 3. Marsden
  have hTl : (extKnots rho) (left : Int) = getK rho left := extKnots_nat rho left (by omega)
  have hTl1 : (extKnots rho) ((left : Int) + 1) = getK rho (left+1) := extKnots_nat rho (left+1) hleft
  have key := blossom_sum (getK knots) (getK ck) (p+2) j (q+1) 0 (extKnots rho) u (left : Int) n
    (by rw [hTl, hTl1]; exact hne)
    (fun a b _ hab _ => extKnots_mono rho hsorted hpos hab)
    (fun a b ha1 ha2 hb1 hb2 => by
      rw [hTl, hTl1]
      exact node_side rho hsorted left hleft _ (hmem a b (by omega) (by omega)))
    (fun a b ha1 ha2 hb1 hb2 hle i hi1 hi2 hlt => by
      obtain ⟨r, hr, he⟩ := node_index rho _ (hmem a b (by omega) (by omega))
      -- an index `r' ≤ left` carrying the same value
      obtain ⟨r', hr', he'⟩ : ∃ r' : Nat, r' ≤ left ∧ extKnots rho (r' : Int) = getK knots a + getK ck b := by
        rcases Nat.lt_or_ge left r with h | h
        · refine ⟨left, le_refl _, le_antisymm ?_ hle⟩
          rw [← he]
          exact extKnots_mono rho hsorted hpos (by omega)
        · exact ⟨r, h, he⟩
      rw [← he'] at hlt ⊢
      exact knot_is_bag rho hsorted hpos i r' n hlt (by omega))
  unfold extCoef
  rw [key, hTl1]

end PsV
