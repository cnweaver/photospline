import PsV.Proofs.FitsEvalBridge
import Mathlib.Tactic.Linarith
import Mathlib.Tactic.Ring
/-! The real value of a finite double is monotone in the integer key `dkey`.  `valQ b` is the rational a finite binary64
    bit pattern denotes (`± (m [+ 2⁵²]) · 2^(e-1) · 2⁻¹⁰⁷⁴`).  The validation block of the reader compares knots as
    doubles, which the model does on `dkey`; `valQ_keyMono` shows that this is the order of the denoted reals, so a
    table the reader accepts is well-formed for the exact-arithmetic evaluation theorems (`Dim.WF.mono` over `Rat`)
    when its knots are read as the numbers they are. -/
namespace PsV
open PsV.Fits

/-- magnitude of a finite double in units of 2⁻¹⁰⁷⁴, from the 63 magnitude bits `n = e·2⁵² + m` -/
def magUnits (n : Nat) : Nat :=
  if n / 4503599627370496 = 0 then n % 4503599627370496
  else (n % 4503599627370496 + 4503599627370496) * 2 ^ (n / 4503599627370496 - 1)

theorem magUnits_mono (x y : Nat) (h : x ≤ y) : magUnits x ≤ magUnits y := by
  unfold magUnits
  have hx := Nat.div_add_mod x 4503599627370496
  have hy := Nat.div_add_mod y 4503599627370496
  have mx := Nat.mod_lt x (show 4503599627370496 > 0 by decide)
  have my := Nat.mod_lt y (show 4503599627370496 > 0 by decide)
  have hexy : x / 4503599627370496 ≤ y / 4503599627370496 := Nat.div_le_div_right h
  generalize x / 4503599627370496 = ex at *
  generalize y / 4503599627370496 = ey at *
  generalize x % 4503599627370496 = a at *
  generalize y % 4503599627370496 = b at *
  rcases Nat.eq_or_lt_of_le hexy with heq | hlt
  · subst heq
    have hab : a ≤ b := by omega
    split
    · exact hab
    · exact Nat.mul_le_mul_right _ (by omega)
  · have hey : ey ≠ 0 := by omega
    rw [if_neg hey]
    have hp1 : 1 ≤ 2 ^ (ey - 1) := Nat.one_le_two_pow
    split
    · calc a ≤ 4503599627370496 * 1 := by omega
        _ ≤ (b + 4503599627370496) * 2 ^ (ey - 1) := Nat.mul_le_mul (by omega) hp1
    · rename_i hex
      have hpow : 2 ^ (ex - 1) * 2 ≤ 2 ^ (ey - 1) := by
        rw [← Nat.pow_succ]
        exact Nat.pow_le_pow_right (by decide) (by omega)
      calc (a + 4503599627370496) * 2 ^ (ex - 1) ≤ (4503599627370496 * 2) * 2 ^ (ex - 1) :=
            Nat.mul_le_mul_right _ (by omega)
        _ = 4503599627370496 * (2 ^ (ex - 1) * 2) := by ring
        _ ≤ 4503599627370496 * 2 ^ (ey - 1) := Nat.mul_le_mul_left _ hpow
        _ ≤ (b + 4503599627370496) * 2 ^ (ey - 1) := Nat.mul_le_mul_right _ (by omega)

def twoPow1074 : Rat := 2 ^ 1074

/-- the real number a finite double denotes: `± magUnits · 2⁻¹⁰⁷⁴` -/
def valQ (b : UInt64) : Rat :=
  if b.toNat < 9223372036854775808 then (magUnits b.toNat : Rat) / twoPow1074
  else - ((magUnits (b.toNat - 9223372036854775808) : Nat) : Rat) / twoPow1074

theorem valQ_keyMono : KeyMono valQ := by
  intro a b _ _ hab
  unfold dkey at hab
  unfold valQ
  have hpos : 0 < twoPow1074 := pow_pos (by decide) _
  by_cases ha : a.toNat < 9223372036854775808 <;> by_cases hb : b.toNat < 9223372036854775808
  · simp only [ha, hb, if_true] at hab ⊢
    have : a.toNat ≤ b.toNat := by exact_mod_cast hab
    have := magUnits_mono _ _ this
    exact div_le_div_of_nonneg_right (by exact_mod_cast this) hpos.le
  · simp only [ha, hb, if_true, if_false] at hab ⊢
    have h0 : a.toNat = 0 ∧ b.toNat - 9223372036854775808 = 0 := by omega
    rw [h0.1, h0.2]
    simp [magUnits]
  · simp only [ha, hb, if_true, if_false] at hab ⊢
    have h1 : (0 : Rat) ≤ (magUnits b.toNat : Rat) / twoPow1074 := div_nonneg (Nat.cast_nonneg _) hpos.le
    have h2 : -((magUnits (a.toNat - 9223372036854775808) : Nat) : Rat) / twoPow1074 ≤ 0 := by
      rw [neg_div]; exact neg_nonpos.mpr (div_nonneg (Nat.cast_nonneg _) hpos.le)
    linarith
  · simp only [ha, hb, if_false] at hab ⊢
    have : b.toNat - 9223372036854775808 ≤ a.toNat - 9223372036854775808 := by omega
    have := magUnits_mono _ _ this
    rw [neg_div, neg_div]
    exact neg_le_neg (div_le_div_of_nonneg_right (by exact_mod_cast this) hpos.le)

end PsV
