import PsV.Proofs.FitDiffs
import PsV.Model.KnotScale
import PsV.Proofs.BasisTheory
/-!
# C10, knot-scale equivariance: helper lemmas

Multiplying the knot vector of a dimension by `h` divides the `p`-th derivative coefficients (`derivCoef`) by `h^p` (for
`h = 0` too, by the `a/0 = 0` convention), hence the weights `divided_diffs` returns (derivative coefficients of unit vectors)
and every entry of the finite-difference matrix of `calc_penalty` (with and without the T-spline factor `tril`); multiplying knots and abscissa by `h > 0`
leaves every Cox–de Boor value unchanged; so the objective of the problem on rescaled axes with smoothing `λ h^(2p)` is the
objective of the original problem.
-/
namespace PsV
open Finset

section
variable {α : Type} [A : Arith α]

/-- a point with coordinate `d` multiplied by `h_d` -/
def scalePoint : List α → List α → List α
  | h :: hs, x :: xs => A.mul h x :: scalePoint hs xs
  | _, xs => xs

theorem scaleDims_nil (ds : List (Dim α)) : scaleDims ([] : List α) ds = ds := by cases ds <;> rfl
theorem scaleCoords_nil (cs : List (List α)) : scaleCoords ([] : List α) cs = cs := by cases cs <;> rfl
theorem scaleSmooth_nil (ls : List α) (ps : List Nat) : scaleSmooth ([] : List α) ls ps = ls := by
  cases ls <;> rfl
theorem scalePoint_nil (xs : List α) : scalePoint ([] : List α) xs = xs := by cases xs <;> rfl

theorem knotScale_rows (hs : List α) (P : FitProblem α) : (P.knotScale hs).rows = P.rows := rfl
theorem knotScale_porder (hs : List α) (P : FitProblem α) : (P.knotScale hs).porder = P.porder := rfl

theorem scaleDims_naxes (hs : List α) (ds : List (Dim α)) :
    (scaleDims hs ds).map (·.naxes) = ds.map (·.naxes) := by
  induction ds generalizing hs with
  | nil => cases hs <;> rfl
  | cons d ds ih =>
    cases hs with
    | nil => rfl
    | cons h hs => simp only [scaleDims, List.map_cons, ih]; rfl

theorem knotScale_ncoef (hs : List α) (P : FitProblem α) : (P.knotScale hs).ncoef = P.ncoef := by
  unfold FitProblem.ncoef FitProblem.knotScale
  simp only [scaleDims_naxes]

theorem gridPoint_scale (hs : List α) (cs : List (List α)) (g : List Nat) :
    gridPoint (scaleCoords hs cs) g = (gridPoint cs g).map (scalePoint hs) := by
  induction hs generalizing cs g with
  | nil =>
    have : scalePoint ([] : List α) = id := funext scalePoint_nil
    rw [scaleCoords_nil, this, Option.map_id]; rfl
  | cons h hs ih =>
    cases cs with
    | nil => cases g <;> rfl
    | cons c cs =>
      cases g with
      | nil => rfl
      | cons g gs =>
        simp only [scaleCoords, gridPoint]
        rw [ih, List.getElem?_map]
        cases c[g]? <;> cases gridPoint cs gs <;> rfl

end

section
variable {α : Type} [Field α]

/-- the step shared by the recursions of `derivCoef` and `divided_diffs`: one more division, by a knot difference that is `h`
times larger (no hypothesis on `h`: with `a/0 = 0` both sides vanish together) -/
theorem div_pow_scale (z d h : α) (p : Nat) : z / h ^ p / (h * d) = z / d / h ^ (p + 1) := by
  rw [div_div, div_div, pow_succ, mul_comm d, mul_assoc]

theorem div_pow_mul_div_pow (x y h : α) (p : Nat) : x / h ^ p * (y / h ^ p) = x * y / h ^ (2 * p) := by
  rw [div_mul_div_comm, ← pow_add, two_mul]

/-- the rescaled smoothing `λ h^n` undoes a division by `h^n` -/
theorem mul_pow_mul_div_pow (h : α) (hh : h ≠ 0) (lam x : α) (n : Nat) : lam * h ^ n * (x / h ^ n) = lam * x := by
  rw [mul_assoc, mul_div_cancel₀ _ (pow_ne_zero n hh)]

end

section
variable {α : Type} [Field α] [LinearOrder α] [A : Arith α] [L : LawfulArith α]

theorem scaleKnots_apply (h : α) (t : Int → α) (i : Int) : scaleKnots h t i = h * t i := by
  unfold scaleKnots; rw [L.mul_eq]

theorem powN_eq (h : α) (n : Nat) : powN h n = h ^ n := by
  induction n with
  | zero => simp [powN, L.one_eq]
  | succ n ih => rw [powN, L.mul_eq, ih, pow_succ, mul_comm]

theorem dtd_get_eq_zero (D : Tab2 α) (h : ∀ r < D.n, ∀ c < D.m, D.get r c = 0) (i j : Nat) : (dtd D).get i j = 0 := by
  by_cases hin : i < D.m ∧ j < D.m
  · unfold dtd
    rw [tab2_get_ofFn _ hin.1 hin.2, sumTo_eq_sum]
    exact Finset.sum_eq_zero fun q hq => by rw [h q (mem_range.mp hq) i hin.1, L.mul_eq, zero_mul]
  · rw [tab2_get_out (dtd D) hin, L.zero_eq]

theorem derivCoef_scaleKnots (h : α) (t : Int → α) (order p : Nat) (c : Nat → α) (j : Nat) :
    derivCoef (scaleKnots h t) order p c j = derivCoef t order p c j / h ^ p := by
  induction p generalizing j with
  | zero => rw [pow_zero, div_one]; rfl
  | succ p ih =>
    rw [derivCoef, derivCoef]
    simp only [L.sub_eq, L.div_eq, L.mul_eq, L.ofNat_eq, scaleKnots_apply]
    rw [ih, ih, ← sub_div, ← mul_sub, ← mul_div_assoc, div_pow_scale]

theorem penaltyTerm_knot_scale (h : α) (t : Int → α) (order p n s outer : Nat) (c : Nat → α) :
    penaltyTerm (scaleKnots h t) order p n s outer c = penaltyTerm t order p n s outer c / h ^ (2 * p) := by
  unfold penaltyTerm
  simp only [sumTo_eq_sum, L.mul_eq, Finset.sum_div, derivCoef_scaleKnots, div_pow_mul_div_pow]

theorem penaltySum_knotScale (hs : List α) (hpos : ∀ h ∈ hs, 0 < h) (ds : List (Dim α)) (ls : List α) (ps : List Nat)
    (N : Nat) (c : Nat → α) :
    penaltySum (scaleDims hs ds) (scaleSmooth hs ls ps) ps N c = penaltySum ds ls ps N c := by
  induction hs generalizing ds ls ps with
  | nil => rw [scaleDims_nil, scaleSmooth_nil]
  | cons h hs ih =>
    cases ds with
    | nil => rfl
    | cons d ds =>
      cases ls with
      | nil => rfl
      | cons l ls =>
        cases ps with
        | nil => rfl
        | cons p ps =>
          simp only [scaleDims, scaleSmooth, penaltySum, Dim.knotScale]
          rw [ih (fun h' hm => hpos h' (List.mem_cons_of_mem _ hm)), penaltyTerm_knot_scale, L.mul_eq, L.mul_eq,
            L.mul_eq, powN_eq, mul_pow_mul_div_pow h (ne_of_gt (hpos h List.mem_cons_self))]

theorem Bind_scaleKnots_ind (ind : Int → Bool) (h : α) (hh : h ≠ 0) (t : Int → α) (x : α) (n : Nat) (i : Int) :
    Bind ind (scaleKnots h t) (h * x) n i = Bind ind t x n i := by
  induction n generalizing i with
  | zero => rfl
  | succ n ih =>
    rw [Bind_succ, Bind_succ, ih, ih]
    simp only [scaleKnots_apply]
    rw [ ← mul_sub, ← mul_sub, ← mul_sub, ← mul_sub, mul_div_mul_left _ _ hh, mul_div_mul_left _ _ hh]

/-- stated for `Tab2.ofFn` tables, the shape `finiteDiff` and `finiteDiffMono` unfold to, so that no caller owes an equation between
the dimensions of two tables. -/
theorem penalty_chunk_scale (h : α) (hh : h ≠ 0) (lam : α) (p n m : Nat) (f g : Nat → Nat → α)
    (he : ∀ r c, (Tab2.ofFn n m g).get r c = (Tab2.ofFn n m f).get r c / h ^ p) (i j : Nat) :
    lam * h ^ (2 * p) * (dtd (Tab2.ofFn n m g)).get i j = lam * (dtd (Tab2.ofFn n m f)).get i j := by
  have e : (dtd (Tab2.ofFn n m g)).get i j = (dtd (Tab2.ofFn n m f)).get i j / h ^ (2 * p) :=
    tab2_ofFn_get_div _ _ _ _ _ (fun i j => by
      simp only [sumTo_eq_sum, L.mul_eq, Finset.sum_div, he, div_pow_mul_div_pow, tab2_ofFn_n]) i j
  rw [e, mul_pow_mul_div_pow h hh]

end

variable {α : Type} [Field α] [LinearOrder α] [IsStrictOrderedRing α] [A : Arith α] [L : LawfulArith α]

theorem derivCoef_knot_scale' (h : α) (hh : h ≠ 0) (t : Int → α) (order p : Nat) (c : Nat → α) (j : Nat) :
    derivCoef (scaleKnots h t) order p c j = derivCoef t order p c j / h ^ p :=
  derivCoef_scaleKnots h t order p c j

theorem dividedDiffs_scaleKnots (h : α) (t : Int → α) (order p j i : Nat) :
    (dividedDiffs (scaleKnots h t) order p j).getD i 0 = (dividedDiffs t order p j).getD i 0 / h ^ p := by
  rcases Nat.lt_or_ge p i with hi | hi
  · rw [List.getD_eq_default _ _ (by rw [dividedDiffs_length]; omega),
      List.getD_eq_default _ _ (by rw [dividedDiffs_length]; omega), zero_div]
  · rw [dividedDiffs_getD_eq_derivCoef _ _ _ _ _ hi, dividedDiffs_getD_eq_derivCoef _ _ _ _ _ hi, derivCoef_scaleKnots]

theorem dividedDiffs_knot_scale' (h : α) (hh : h ≠ 0) (t : Int → α) (order p j i : Nat) :
    (dividedDiffs (scaleKnots h t) order p j).getD i 0 = (dividedDiffs t order p j).getD i 0 / h ^ p :=
  dividedDiffs_scaleKnots h t order p j i

theorem finiteDiff_scaleKnots (h : α) (t : Int → α) (order p n r c : Nat) :
    (finiteDiff (scaleKnots h t) order p n).get r c = (finiteDiff t order p n).get r c / h ^ p :=
  tab2_ofFn_get_div _ _ _ _ _ (fun r c => by
    split
    · rw [L.zero_eq]; exact dividedDiffs_scaleKnots h t order p r (c - r)
    · rw [L.zero_eq, zero_div]) r c

theorem finiteDiff_knot_scale' (h : α) (hh : h ≠ 0) (t : Int → α) (order p n r c : Nat) :
    (finiteDiff (scaleKnots h t) order p n).get r c = (finiteDiff t order p n).get r c / h ^ p :=
  finiteDiff_scaleKnots h t order p n r c

/-- … and so is every entry of `finitediff · tril`, the matrix of the monotonic dimension -/
theorem finiteDiffMono_scaleKnots (h : α) (t : Int → α) (order p n r c : Nat) :
    (finiteDiffMono (scaleKnots h t) order p n).get r c = (finiteDiffMono t order p n).get r c / h ^ p :=
  tab2_ofFn_get_div _ _ _ _ _ (fun r c => by
    rw [sumTo_eq_sum, sumTo_eq_sum, Finset.sum_div]
    refine Finset.sum_congr rfl (fun k _ => ?_)
    split
    · exact finiteDiff_scaleKnots h t order p n r k
    · rw [L.zero_eq, zero_div]) r c

theorem finiteDiffMono_knot_scale' (h : α) (hh : h ≠ 0) (t : Int → α) (order p n r c : Nat) :
    (finiteDiffMono (scaleKnots h t) order p n).get r c = (finiteDiffMono t order p n).get r c / h ^ p :=
  finiteDiffMono_scaleKnots h t order p n r c

theorem penalty_chunk_knot_scale (h : α) (hh : h ≠ 0) (lam : α) (t : Int → α) (order p n i j : Nat) :
    lam * h ^ (2 * p) * (dtd (finiteDiff (scaleKnots h t) order p n)).get i j = lam * (dtd (finiteDiff t order p n)).get i j
    ∧ lam * h ^ (2 * p) * (dtd (finiteDiffMono (scaleKnots h t) order p n)).get i j
        = lam * (dtd (finiteDiffMono t order p n)).get i j :=
  ⟨penalty_chunk_scale h hh lam p _ _ _ _ (finiteDiff_scaleKnots h t order p n) i j,
    penalty_chunk_scale h hh lam p _ _ _ _ (finiteDiffMono_scaleKnots h t order p n) i j⟩

theorem indR_knot_scale (h : α) (hpos : 0 < h) (t : Int → α) (x : α) (i : Int) :
    indR (scaleKnots h t) (h * x) i = indR t x i := by
  rw [Bool.eq_iff_iff, indR_iff, indR_iff, scaleKnots_apply, scaleKnots_apply, mul_le_mul_iff_of_pos_left hpos,
    mul_lt_mul_iff_of_pos_left hpos]

/-- the right-continuous indicator of the specification is invariant for `h > 0` -/
theorem Bind_knot_scale' (h : α) (hpos : 0 < h) (t : Int → α) (x : α) (n : Nat) (i : Int) :
    Bind (indR (scaleKnots h t) (h * x)) (scaleKnots h t) (h * x) n i = Bind (indR t x) t x n i := by
  have e : indR (scaleKnots h t) (h * x) = indR t x := funext (indR_knot_scale h hpos t x)
  rw [e]
  exact Bind_scaleKnots_ind _ h (ne_of_gt hpos) t x n i

theorem basisProd_scale (hs : List α) (hpos : ∀ h ∈ hs, 0 < h) (ds : List (Dim α)) (xs : List α) (i : Nat) :
    basisProd (scaleDims hs ds) (scalePoint hs xs) i = basisProd ds xs i := by
  induction hs generalizing ds xs with
  | nil => rw [scaleDims_nil, scalePoint_nil]
  | cons h hs ih =>
    cases ds with
    | nil => cases xs <;> rfl
    | cons d ds =>
      cases xs with
      | nil => rfl
      | cons x xs =>
        simp only [scaleDims, scalePoint, basisProd, Dim.knotScale]
        rw [L.mul_eq h x, Bind_knot_scale' h (hpos h List.mem_cons_self),
          ih (fun h' hm => hpos h' (List.mem_cons_of_mem _ hm))]

theorem designEntry_knotScale (hs : List α) (hpos : ∀ h ∈ hs, 0 < h) (P : FitProblem α) (r i : Nat) :
    designEntry (P.knotScale hs) r i = designEntry P r i := by
  unfold designEntry
  rw [knotScale_rows]
  cases P.rows[r]? with
  | none => rfl
  | some row =>
    show (match gridPoint (scaleCoords hs P.coords) row.idx with
          | none => A.zero | some xs => basisProd (scaleDims hs P.dims) xs i)
        = (match gridPoint P.coords row.idx with
          | none => A.zero | some xs => basisProd P.dims xs i)
    rw [gridPoint_scale]
    cases gridPoint P.coords row.idx with
    | none => rfl
    | some xs => exact basisProd_scale hs hpos P.dims xs i

theorem objective_knotScale (hs : List α) (hpos : ∀ h ∈ hs, 0 < h) (P : FitProblem α) (c : Nat → α) :
    objective (P.knotScale hs) c = objective P c := by
  have hd : designEntry (P.knotScale hs) = designEntry P :=
    funext fun r => funext fun i => designEntry_knotScale hs hpos P r i
  unfold objective
  rw [knotScale_ncoef, hd, knotScale_rows, knotScale_porder]
  exact congrArg _ (penaltySum_knotScale hs hpos P.dims P.smooth P.porder P.ncoef c)

end PsV
