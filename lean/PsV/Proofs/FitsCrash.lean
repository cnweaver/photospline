import PsV.Model.FitsCrash
/-! The writer's run and what it leaves on disk (C08).  `write_fits_core` stops at its first failing call (`runCore_eq`),
    so a run of `write_fits` goes one of four ways (`course`); after a successful create and calls that neither create nor
    delete, the file is everything that was written (`disk_created`).  The theorems on failure paths are cases on `course`. -/
namespace PsV.C08

/-- Everything below that speaks of `runCore` is read off this. -/
theorem runCore_eq (env : Env) : ∀ (steps : List Step) (i : Nat),
    ((∀ j, j < steps.length → env (i + j) = true) ∧ runCore env steps i = (true, steps.map fun s => (s, true))) ∨
    ∃ pre s post, steps = pre ++ s :: post ∧ runCore env steps i = (false, pre.map (fun s => (s, true)) ++ [(s, false)])
  | [], _ => .inl ⟨fun j hj => absurd hj (Nat.not_lt_zero _), rfl⟩
  | s :: rest, i => by
    unfold runCore
    by_cases he : env i = true
    · simp only [he, if_true]
      rcases runCore_eq env rest (i+1) with ⟨ha, e⟩ | ⟨pre, s', post, rfl, e⟩
      · refine .inl ⟨fun j hj => ?_, by rw [e]; rfl⟩
        cases j with
        | zero => exact he
        | succ k => rw [show i + (k + 1) = i + 1 + k by omega]; exact ha k (by simpa using hj)
      · exact .inr ⟨s :: pre, s', post, rfl, by rw [e]; rfl⟩
    · exact .inr ⟨[], s, rest, rfl, by simp only [he]; rfl⟩

theorem runCore_ok (env : Env) (steps : List Step) (i : Nat) (h : (runCore env steps i).1 = true) :
    (runCore env steps i).2 = steps.map (fun s => (s, true)) ∧ ∀ j, j < steps.length → env (i + j) = true := by
  rcases runCore_eq env steps i with ⟨ha, e⟩ | ⟨pre, s, post, _, e⟩
  · exact ⟨by rw [e], ha⟩
  · rw [e] at h; exact absurd h (by simp)

theorem runCore_length_le (env : Env) : ∀ (steps : List Step) (i : Nat), (runCore env steps i).2.length ≤ steps.length
  | steps, i => by
    rcases runCore_eq env steps i with ⟨_, e⟩ | ⟨pre, s, post, rfl, e⟩
    · rw [e, List.length_map]; exact Nat.le_refl _
    · rw [e]; simp

theorem trace_all_ok (env : Env) (first : Step) (steps : List Step) (h0 : env 0 = true) (hc : (runCore env steps 1).1 = true)
    (hn : env (1 + (runCore env steps 1).2.length) = true) :
    (first, true) :: (runCore env steps 1).2 ++ [(Step.clos, true)]
      = (first :: steps ++ [Step.clos]).map (fun s => (s, true)) ∧
    ∀ j, j < (first :: steps ++ [Step.clos]).length → env j = true := by
  obtain ⟨ht, ha⟩ := runCore_ok env steps 1 hc
  rw [ht, List.length_map] at hn
  refine ⟨by rw [ht, List.map_append, List.map_cons]; rfl, fun j hj => ?_⟩
  simp only [List.length_cons, List.length_append, List.length_nil] at hj
  by_cases h1 : j = 0
  · rw [h1]; exact h0
  · by_cases h2 : j - 1 < steps.length
    · have := ha (j - 1) h2
      rwa [show 1 + (j - 1) = j by omega] at this
    · rwa [show j = 1 + steps.length by omega]

theorem writeFitsOn_success (steps : List Step) (env : Env) (h : (writeFitsOn steps env).outcome = .success) :
    (writeFitsOn steps env).trace = (Step.init :: steps ++ [Step.clos]).map (fun s => (s, true)) ∧
    ∀ j, j < (Step.init :: steps ++ [Step.clos]).length → env j = true := by
  unfold writeFitsOn at h ⊢
  by_cases h0 : env 0 = true
  · by_cases hc : (runCore env steps 1).1 = true
    · by_cases hn : env (1 + (runCore env steps 1).2.length) = true
      · simp only [h0, hc, hn, Bool.not_true, Bool.false_eq_true, if_false, if_true]
        exact trace_all_ok env .init _ h0 hc hn
      · simp [h0, hc, hn] at h
    · simp [h0, hc] at h
  · simp [h0] at h

theorem writeFitsMemOn_success (steps : List Step) (env : Env) (h : (writeFitsMemOn steps env).outcome = .success) :
    (writeFitsMemOn steps env).trace = (Step.imem :: steps ++ [Step.clos]).map (fun s => (s, true)) ∧
    ∀ j, j < (Step.imem :: steps ++ [Step.clos]).length → env j = true := by
  unfold writeFitsMemOn at h ⊢
  by_cases h0 : env 0 = true
  · by_cases hc : (runCore env steps 1).1 = true
    · by_cases hn : env (1 + (runCore env steps 1).2.length) = true
      · simp only [h0, hc, hn, Bool.not_true, Bool.false_eq_true, if_false, if_true]
        exact trace_all_ok env .imem _ h0 hc hn
      · simp [h0, hc, hn] at h
    · simp [h0, hc] at h
  · simp [h0] at h

/-- the calls of the repaired `write_fits_core` fall into two parts: up to the last key of the primary header nothing
    writes pixels, from the coefficients on nothing is written with `fits_write_key` -/
theorem coreSteps_keys_first (sh : Shape) :
    ∃ pre post, coreSteps sh = pre ++ post ∧ Step.ppx ∉ pre ∧ Step.pky ∉ post := by
  refine ⟨[.crim, .pky] ++ List.replicate sh.ndim .pky ++ (if sh.hasPeriods then List.replicate sh.ndim .pky else [])
            ++ List.replicate sh.naux .pky,
          [.ppx] ++ (List.replicate sh.ndim [Step.crim, .uky, .ppx]).flatten
            ++ (if sh.hasExtents then [.crim, .uky, .ppx] else []), ?_, ?_, ?_⟩
  · simp only [coreSteps, List.append_assoc]
  · cases sh.hasPeriods <;> simp [List.mem_replicate]
  · cases sh.hasExtents <;> simp [List.mem_replicate]

theorem failures_map_true (steps : List Step) : failures (steps.map fun s => (s, true)) = 0 := by
  unfold failures; simp

theorem failures_append (a b : List (Step × Bool)) : failures (a ++ b) = failures a + failures b := by
  unfold failures; simp

theorem failures_cons (c : Step × Bool) (a : List (Step × Bool)) : failures (c :: a) = (if c.2 then 0 else 1) + failures a := by
  unfold failures
  cases h : c.2 <;> simp [List.filter, h] <;> omega

/-- The four ways a run of `write_fits` can go, each with the result it returns; `course` says that there are no others.
    The theorems about a run are proved by cases on it. -/
inductive Course (steps : List Step) (env : Env) : Prop
  /-- `fits_create_file` fails -/
  | create : env 0 = false → writeFitsOn steps env = ⟨.failure, [(.init, false)]⟩ → Course steps env
  /-- everything succeeds -/
  | done : env 0 = true → writeFitsOn steps env = ⟨.success, (.init, true) :: steps.map (fun s => (s, true)) ++ [(.clos, true)]⟩ →
      Course steps env
  /-- `write_fits_core` succeeds, the close fails, `remove` is called -/
  | close (e : Bool) : env 0 = true →
      writeFitsOn steps env = ⟨.failure, (.init, true) :: steps.map (fun s => (s, true)) ++ [(.clos, false), (.remove, e)]⟩ →
      Course steps env
  /-- a call of `write_fits_core` fails, the guard calls `fits_delete_file` -/
  | core (tr : List (Step × Bool)) (e : Bool) : env 0 = true → (∀ c ∈ tr, c.1 ∈ steps) → failures tr = 1 →
      writeFitsOn steps env = ⟨.failure, (.init, true) :: tr ++ [(.delt, e)]⟩ → Course steps env

theorem course (steps : List Step) (env : Env) : Course steps env := by
  by_cases h0 : env 0 = true
  · rcases runCore_eq env steps 1 with ⟨_, e⟩ | ⟨pre, s, post, rfl, e⟩
    · by_cases hn : env (1 + (steps.map fun s => (s, true)).length) = true
      · refine Course.done h0 ?_
        unfold writeFitsOn
        simp only [h0, e, Bool.not_true, Bool.false_eq_true, if_false, if_true, hn]
      · refine Course.close (env (1 + (steps.map fun s => (s, true)).length + 1)) h0 ?_
        unfold writeFitsOn
        simp only [h0, e, Bool.not_true, Bool.false_eq_true, if_false, if_true, hn]
    · -- the trace of the failing `write_fits_core`: calls of the sequence, one failure
      refine Course.core (pre.map (fun s => (s, true)) ++ [(s, false)])
        (env (1 + (pre.map (fun s => (s, true)) ++ [(s, false)]).length)) h0 (fun c hc => ?_)
        (by rw [failures_append, failures_map_true pre]; rfl) ?_
      · rcases List.mem_append.1 hc with hc | hc
        · obtain ⟨x, hx, rfl⟩ := List.mem_map.1 hc
          exact List.mem_append_left _ hx
        · rw [List.mem_singleton.1 hc]; exact List.mem_append_right _ List.mem_cons_self
      · unfold writeFitsOn
        simp only [h0, e, Bool.not_true, Bool.false_eq_true, if_false]
  · have h0' : env 0 = false := by simpa using h0
    refine Course.create h0' ?_
    unfold writeFitsOn
    simp only [h0', Bool.not_false, if_true]

/-- calls which neither create nor delete the file -/
def Plain (s : Step) : Prop := s ≠ .init ∧ s ≠ .delt ∧ s ≠ .remove

/-- all operations of calls `j … j+n-1` -/
def ioRange (w : World) (j n : Nat) : List IoOp := (List.range' j n).flatMap w.io

theorem diskOfTrace_append (w : World) (prev : Option Bytes) : ∀ (a b : List (Step × Bool)) (j : Nat) (d : Option Bytes),
    diskOfTrace w prev (a ++ b) j d = diskOfTrace w prev b (j + a.length) (diskOfTrace w prev a j d)
  | [], b, j, d => rfl
  | c :: a, b, j, d => by
    have e : j + (c :: a).length = j + 1 + a.length := by simp; omega
    rw [List.cons_append, e]
    show diskOfTrace w prev (a ++ b) (j+1) (stepDisk w prev d j c)
      = diskOfTrace w prev b (j+1+a.length) (diskOfTrace w prev a (j+1) (stepDisk w prev d j c))
    exact diskOfTrace_append w prev a b (j+1) _

theorem stepDisk_plain (w : World) (prev : Option Bytes) (f : Bytes) (j : Nat) (c : Step × Bool) (h : Plain c.1) :
    stepDisk w prev (some f) j c = some ((w.io j).foldl IoOp.apply f) := by
  obtain ⟨s, ok⟩ := c
  obtain ⟨h1, h2, h3⟩ := h
  cases s <;> first | rfl | exact absurd rfl h1 | exact absurd rfl h2 | exact absurd rfl h3

theorem diskOfTrace_plain (w : World) (prev : Option Bytes) : ∀ (tr : List (Step × Bool)) (j : Nat) (f : Bytes),
    (∀ c ∈ tr, Plain c.1) → diskOfTrace w prev tr j (some f) = some ((ioRange w j tr.length).foldl IoOp.apply f)
  | [], j, f, _ => by unfold diskOfTrace ioRange; rfl
  | c :: tr, j, f, h => by
    unfold diskOfTrace
    rw [stepDisk_plain w prev f j c (h c (List.mem_cons_self ..)),
      diskOfTrace_plain w prev tr (j+1) _ (fun c' hc' => h c' (List.mem_cons_of_mem _ hc'))]
    unfold ioRange
    rw [List.length_cons, List.range'_succ, List.flatMap_cons, List.foldl_append]

theorem coreSteps_plain (sh : Shape) : ∀ s ∈ coreSteps sh, Plain s := by
  have hc : Plain .crim := by unfold Plain; decide
  have hk : Plain .pky := by unfold Plain; decide
  have hx : Plain .ppx := by unfold Plain; decide
  have hu : Plain .uky := by unfold Plain; decide
  unfold coreSteps
  cases sh.hasPeriods <;> cases sh.hasExtents <;>
    simp only [List.forall_mem_append, List.forall_mem_cons, List.forall_mem_replicate, List.forall_mem_flatten,
      List.not_mem_nil, if_true, Bool.false_eq_true, if_false, false_imp_iff, implies_true, hc, hk, hx, hu, or_true,
      and_true]

theorem disk_created (w : World) (prev : Option Bytes) (mid : List (Step × Bool)) (hmid : ∀ c ∈ mid, Plain c.1) :
    diskOfTrace w prev ((.init, true) :: mid) 0 prev = some ((ioRange w 0 (1 + mid.length)).foldl IoOp.apply []) := by
  show diskOfTrace w prev mid 1 (some ((w.io 0).foldl IoOp.apply [])) = _
  rw [diskOfTrace_plain w prev mid 1 _ hmid]
  unfold ioRange
  rw [Nat.add_comm 1, List.range'_succ, List.flatMap_cons, List.foldl_append]

theorem disk_created_then (w : World) (prev : Option Bytes) (mid : List (Step × Bool)) (hmid : ∀ c ∈ mid, Plain c.1)
    (last : Step × Bool) :
    diskOfTrace w prev ((.init, true) :: mid ++ [last]) 0 prev =
      stepDisk w prev (some ((ioRange w 0 (1 + mid.length)).foldl IoOp.apply [])) (1 + mid.length) last := by
  rw [diskOfTrace_append, disk_created w prev mid hmid]
  have : 0 + ((Step.init, true) :: mid).length = 1 + mid.length := by simp; omega
  rw [this]
  rfl

theorem plain_then_clos {steps : List Step} (hp : ∀ s ∈ steps, Plain s) (b : Bool) :
    ∀ c ∈ steps.map (fun s => (s, true)) ++ [(Step.clos, b)], Plain c.1 := by
  intro c hc
  rcases List.mem_append.1 hc with hc | hc
  · obtain ⟨s, hs, rfl⟩ := List.mem_map.1 hc; exact hp s hs
  · rw [List.mem_singleton.1 hc]; unfold Plain; simp

/-- **Every failure path**: when `write_fits` reports a failure, no file of that name is left — or the file which was
    there before is untouched (only if creating failed) — unless the clean-up call itself failed as well. -/
theorem failure_disk (steps : List Step) (hp : ∀ s ∈ steps, Plain s) (w : World) (prev : Option Bytes)
    (h : (writeFitsOn steps w.env).outcome = .failure) :
    diskAfter steps w prev = none ∨
    ((writeFitsOn steps w.env).trace = [(.init, false)] ∧ diskAfter steps w prev = prev) ∨
    (Step.delt, false) ∈ (writeFitsOn steps w.env).trace ∨ (Step.remove, false) ∈ (writeFitsOn steps w.env).trace := by
  unfold diskAfter
  cases course steps w.env with
  | create h0 e =>
    rw [e]
    show (if w.clobbered then none else prev) = none ∨ (_ ∧ (if w.clobbered then none else prev) = prev) ∨ _
    cases w.clobbered
    · exact Or.inr (Or.inl ⟨rfl, rfl⟩)
    · exact Or.inl rfl
  | done h0 e => rw [e] at h; exact absurd h (by simp)
  | close r h0 e =>
    rw [e]
    simp only
    have eq : ((Step.init, true) :: steps.map (fun s => (s, true))) ++ [(Step.clos, false), (Step.remove, r)]
        = ((Step.init, true) :: (steps.map (fun s => (s, true)) ++ [(Step.clos, false)])) ++ [(Step.remove, r)] := by simp
    rw [eq, disk_created_then w prev _ (plain_then_clos hp false) (Step.remove, r)]
    cases r
    · exact Or.inr (Or.inr (Or.inr (by simp)))
    · exact Or.inl rfl
  | core tr r h0 hmem hf e =>
    rw [e]
    simp only
    have hmid : ∀ c ∈ tr, Plain c.1 := fun c hc => hp _ (hmem c hc)
    rw [disk_created_then w prev _ hmid (Step.delt, r)]
    cases r
    · exact Or.inr (Or.inr (Or.inl (by simp)))
    · exact Or.inl rfl

theorem single_failure (steps : List Step) (hp : ∀ s ∈ steps, Plain s) (env : Env) (h1 : failures (writeFitsOn steps env).trace ≤ 1) :
    (Step.delt, false) ∉ (writeFitsOn steps env).trace ∧ (Step.remove, false) ∉ (writeFitsOn steps env).trace := by
  cases course steps env with
  | create h0 e => rw [e]; simp
  | done h0 e => rw [e]; simp
  | close r h0 e =>
    rw [e] at h1 ⊢
    simp only [failures_cons, failures_append, failures_map_true] at h1
    cases r
    · simp [failures] at h1
    · simp
  | core tr r h0 hmem hf e =>
    rw [e] at h1 ⊢
    simp only [failures_cons, failures_append, hf] at h1
    cases r
    · simp [failures] at h1
    · have hd : ∀ b, (Step.delt, b) ∉ tr := fun b hc => (hp _ (hmem _ hc)).2.1 rfl
      have hr : ∀ b, (Step.remove, b) ∉ tr := fun b hc => (hp _ (hmem _ hc)).2.2 rfl
      simp [hd, hr]

theorem failing_call_reported (steps : List Step) (env : Env) (c : Step × Bool)
    (hc : c ∈ (writeFitsOn steps env).trace) (hf : c.2 = false) : (writeFitsOn steps env).outcome = .failure := by
  cases course steps env with
  | create h0 e => rw [e]
  | done h0 e =>
    rw [e] at hc
    simp only [List.mem_append, List.mem_cons, List.mem_map, List.not_mem_nil, or_false] at hc
    rcases hc with (rfl | ⟨s, _, rfl⟩) | rfl <;> exact absurd hf (by simp)
  | close r h0 e => rw [e]
  | core tr r h0 hmem hf' e => rw [e]

/-- with exactly one failing call the clean-up call it triggers succeeded (it would have been a second failure), so the
    file is gone, or creating it failed and the previous file may still be there -/
theorem single_fault_disk (steps : List Step) (hp : ∀ s ∈ steps, Plain s) (w : World) (prev : Option Bytes)
    (h1 : failures (writeFitsOn steps w.env).trace = 1) :
    (writeFitsOn steps w.env).outcome = .failure ∧ (diskAfter steps w prev = none ∨ diskAfter steps w prev = prev) := by
  have hfail : (writeFitsOn steps w.env).outcome = .failure := by
    obtain ⟨c, hc⟩ := List.exists_mem_of_length_pos (h1 ▸ Nat.one_pos : 0 < failures _)
    obtain ⟨hc1, hc2⟩ := List.mem_filter.1 hc
    exact failing_call_reported steps w.env c hc1 (by simpa using hc2)
  have hclean := single_failure steps hp w.env (Nat.le_of_eq h1)
  refine ⟨hfail, ?_⟩
  rcases failure_disk steps hp w prev hfail with h | ⟨_, h⟩ | h | h
  · exact Or.inl h
  · exact Or.inr h
  · exact absurd h hclean.1
  · exact absurd h hclean.2

theorem success_disk (steps : List Step) (hp : ∀ s ∈ steps, Plain s) (w : World) (prev : Option Bytes)
    (h : (writeFitsOn steps w.env).outcome = .success) :
    diskAfter steps w prev =
      some ((ioRange w 0 (writeFitsOn steps w.env).trace.length).foldl IoOp.apply []) := by
  unfold diskAfter
  cases course steps w.env with
  | create h0 e => rw [e] at h; exact absurd h (by simp)
  | close r h0 e => rw [e] at h; exact absurd h (by simp)
  | core tr r h0 hmem hf' e => rw [e] at h; exact absurd h (by simp)
  | done h0 e =>
    rw [e]
    simp only
    have eq : ((Step.init, true) :: steps.map (fun s => (s, true))) ++ [(Step.clos, true)]
        = (Step.init, true) :: (steps.map (fun s => (s, true)) ++ [(Step.clos, true)]) := by simp
    rw [eq, disk_created w prev _ (plain_then_clos hp true)]
    simp only [List.length_cons, Nat.add_comm 1]

theorem bad_op_reported (steps : List Step) (w : World) (hs : Surfaces w (writeFitsOn steps w.env).trace)
    (j : Nat) (hj : j < (writeFitsOn steps w.env).trace.length) (o : IoOp) (ho : o ∈ w.io j) (hbad : o.bad = true) :
    (writeFitsOn steps w.env).outcome = .failure := by
  obtain ⟨j', _, s, hs'⟩ := hs j hj ⟨o, ho, hbad⟩
  exact failing_call_reported steps w.env (s, false) (List.mem_of_getElem? hs') rfl

end PsV.C08
