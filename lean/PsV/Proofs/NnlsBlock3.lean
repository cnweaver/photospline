import PsV.Proofs.Nnls
/-!
# The two loops of the BLOCK3 state machine

The bodies of `innerLoop` and `outerLoop` are cut into named pieces, and `innerLoop_cases`, `outerLoop_succ` state the
loops in terms of them; every fact about a run is an induction over one of these two, with what it needs about a single
pass proved beforehand: non-negativity on every exit for every environment (`NN`), the invariant `B3Inv` that makes the
convergence exit a point the checker accepts when the solves are exact, and (in `NnlsTerm`) termination of the inner loop.
-/
namespace PsV

namespace Nnls

/-- `i ∈ F \ H1` (the set `F_` of the C code; `G_` is its complement) -/
def keep (s : B3State) (i : ℕ) : Bool := atF s.inF i && !atF s.h1 i

/-- the passive set after the next `modify_factor`: `keep s` and the additions `h2` -/
def nextF (s : B3State) (h2 : Array Bool) : ℕ → Bool := fun i => (atF s.inF i && !atF s.h1 i) || atF h2 i

theorem nextF_nil (s : B3State) : nextF s #[] = keep s := funext fun _ => Bool.or_false _

/-- … as the array the pass works with -/
def passF (E : B3Env) (s : B3State) (h2 : Array Bool) : Array Bool := tab E.n (nextF s h2)

/-- the unconstrained solution on it -/
def passX (E : B3Env) (s : B3State) (h2 : Array Bool) : Array ℚ := E.solve (atF (passF E s h2))

/-- its negative entries on the passive set -/
def passNeg (E : B3Env) (s : B3State) (h2 : Array Bool) : ℕ → Bool :=
  fun i => atF (passF E s h2) i && decide (at0 (passX E s h2) i < 0)

/-- "Solution entirely feasible" -/
def acceptSt (E : B3Env) (s : B3State) (h2 : Array Bool) : B3State :=
  { s with x := tab E.n fun i => if atF (passF E s h2) i then at0 (passX E s h2) i else at0 s.x i,
           inF := passF E s h2, h1 := #[], optF := true, nFull := s.nFull + 1 }

/-- "descent at boundary" -/
def bindSt (E : B3Env) (s : B3State) (h2 : Array Bool) : B3State :=
  { s with x := tab E.n fun i => if atF (tab E.n (passNeg E s h2)) i then 0 else at0 s.x i,
           inF := passF E s h2, h1 := tab E.n (passNeg E s h2), nBoundary := s.nBoundary + 1 }

def passWalk (E : B3Env) (s : B3State) (h2 : Array Bool) : ℚ × Bool :=
  walkDescents E (atF (passF E s h2)) (at0 s.x) (at0 (passX E s h2))

/-- the projected step of `walk_descents`, stored whether or not it was accepted -/
def walkSt (E : B3Env) (s : B3State) (h2 : Array Bool) : B3State :=
  { s with x := tab E.n (trialVal (atF (passF E s h2)) (at0 s.x) (at0 (passX E s h2)) (passWalk E s h2).1),
           inF := passF E s h2,
           h1 := tab E.n (trialClamp (atF (passF E s h2)) (at0 s.x) (at0 (passX E s h2)) (passWalk E s h2).1),
           optF := false, nWalk := s.nWalk + 1, nForced := s.nForced + (if (passWalk E s h2).2 then 0 else 1) }

/-- The test `nInf = nBnd` that sends a pass with negative entries to "bind" or to "walk" is left out of the case
hypotheses on purpose: nothing proved of a run depends on which of the two was taken. -/
theorem innerLoop_cases (E : B3Env) (fuel : ℕ) (s : B3State) (h2 : Array Bool) (motive : Option B3State → Prop)
    (accept : countB E.n (passNeg E s h2) = 0 → motive (some (acceptSt E s h2)))
    (bind : countB E.n (passNeg E s h2) ≠ 0 → motive (innerLoop E fuel (bindSt E s h2) #[]))
    (walk : countB E.n (passNeg E s h2) ≠ 0 → (passWalk E s h2).2 = true → motive (some (walkSt E s h2)))
    (forced : countB E.n (passNeg E s h2) ≠ 0 → (passWalk E s h2).2 = false →
      motive (innerLoop E fuel (walkSt E s h2) #[])) :
    motive (innerLoop E (fuel + 1) s h2) := by
  show motive (if countB E.n (passNeg E s h2) = 0 then some (acceptSt E s h2)
    else if countB E.n (passNeg E s h2) = countB E.n (fun i => passNeg E s h2 i && decide (at0 s.x i < E.tol)) then
      innerLoop E fuel (bindSt E s h2) #[]
    else if (passWalk E s h2).2 then some (walkSt E s h2) else innerLoop E fuel (walkSt E s h2) #[])
  split_ifs with c1 c2 c3
  exacts [accept c1, bind c1, walk c1 c3, forced c1 (Bool.not_eq_true _ ▸ c3)]

/-- `H2` of the outer loop: multipliers below `−tol` on `G_` -/
def pendH2 (E : B3Env) (s : B3State) : ℕ → Bool := fun i => !keep s i && decide (at0 s.y i < -E.tol)

/-- the state and the additions the inner loop is entered with (`H1` and `H2` made disjoint) -/
def enterSt (E : B3Env) (s : B3State) : B3State := { s with h1 := tab E.n fun i => atF s.h1 i && !pendH2 E s i }
def enterH2 (E : B3Env) (s : B3State) : Array Bool := tab E.n fun i => pendH2 E s i && !atF s.h1 i

/-- after the inner loop: `y` updated on `G_`, `x` zeroed on `G_` and `y` on `F_` -/
def dualSt (E : B3Env) (s : B3State) : B3State :=
  { s with y := tab E.n fun i => if atF (tab E.n (keep s)) i then 0 else E.dual (atF (tab E.n (keep s))) (at0 s.x) i,
           x := tab E.n fun i => if atF (tab E.n (keep s)) i then at0 s.x i else 0 }

theorem outerLoop_succ (E : B3Env) (fuel : ℕ) (s : B3State) :
    outerLoop E (fuel + 1) s =
      if countB E.n (atF (enterH2 E s)) = 0 && s.optF then (s, .converged) else
      match innerLoop E E.innerFuel (enterSt E s) (enterH2 E s) with
      | none => (s, .innerFuel)
      | some s1 => outerLoop E fuel (dualSt E s1) := rfl

theorem outerLoop_exit (E : B3Env) {P : B3State → Prop}
    (hP : ∀ s s1, P s → innerLoop E E.innerFuel (enterSt E s) (enterH2 E s) = some s1 → P (dualSt E s1)) :
    ∀ (fuel : ℕ) (s : B3State) (r : B3State × B3Exit), P s → outerLoop E fuel s = r → P r.1 ∧
      (r.2 = .converged → countB E.n (atF (enterH2 E r.1)) = 0 ∧ r.1.optF = true) ∧
      (r.2 = .innerFuel → innerLoop E E.innerFuel (enterSt E r.1) (enterH2 E r.1) = none) := by
  intro fuel
  induction fuel with
  | zero => rintro s _ hs rfl; exact ⟨hs, (by intro h; cases h), (by intro h; cases h)⟩
  | succ f ih =>
    intro s r hs hr
    rw [outerLoop_succ] at hr
    split_ifs at hr with c
    · subst hr; exact ⟨hs, fun _ => (by simpa using c), (by intro h; cases h)⟩
    · cases hin : innerLoop E E.innerFuel (enterSt E s) (enterH2 E s) with
      | none => rw [hin] at hr; subst hr; exact ⟨hs, (by intro h; cases h), fun _ => hin⟩
      | some s1 => rw [hin] at hr; exact ih _ r (hP s s1 hs hin) hr

/-- `x ≥ 0` componentwise: what BLOCK3 keeps on every exit, and what C10 needs of it -/
def NN (s : B3State) : Prop := ∀ i, 0 ≤ at0 s.x i

theorem trialVal_nonneg (inF : ℕ → Bool) (x xF : ℕ → ℚ) (a : ℚ) (i : ℕ) (hx : 0 ≤ x i) :
    0 ≤ trialVal inF x xF a i := by
  unfold trialVal
  split
  · split
    · exact le_refl _
    · rename_i h; exact not_lt.mp h
  · exact hx

theorem acceptSt_nn {E : B3Env} {s : B3State} {h2 : Array Bool} (hs : NN s) (hc : countB E.n (passNeg E s h2) = 0) :
    NN (acceptSt E s h2) :=
  at0_tab_nonneg fun i hi => by
    split
    · rename_i hF
      have hz := countB_eq_zero_iff.mp hc i hi
      rw [passNeg, hF, Bool.true_and, decide_eq_false_iff_not, not_lt] at hz
      exact hz
    · exact hs i

theorem bindSt_nn {E : B3Env} {s : B3State} (h2 : Array Bool) (hs : NN s) : NN (bindSt E s h2) :=
  at0_tab_nonneg fun i _ => by split; exacts [le_rfl, hs i]

theorem walkSt_nn {E : B3Env} {s : B3State} (h2 : Array Bool) (hs : NN s) : NN (walkSt E s h2) :=
  at0_tab_nonneg fun i _ => trialVal_nonneg _ _ _ _ _ (hs i)

theorem dualSt_nn {E : B3Env} {s : B3State} (hs : NN s) : NN (dualSt E s) :=
  at0_tab_nonneg fun i _ => by split; exacts [hs i, le_rfl]

theorem innerLoop_nn (E : B3Env) : ∀ (fuel : ℕ) (s : B3State) (h2 : Array Bool) (s' : B3State),
    NN s → innerLoop E fuel s h2 = some s' → NN s' := by
  intro fuel
  induction fuel with
  | zero => exact fun s h2 s' _ h => nomatch h
  | succ f ih =>
    intro s h2 s' hs
    exact innerLoop_cases E f s h2 (fun r => r = some s' → NN s')
      (fun c1 h => Option.some.inj h ▸ acceptSt_nn hs c1) (fun _ h => ih _ _ _ (bindSt_nn h2 hs) h)
      (fun _ _ h => Option.some.inj h ▸ walkSt_nn h2 hs) (fun _ _ h => ih _ _ _ (walkSt_nn h2 hs) h)

theorem pass_nn (E : B3Env) (s s1 : B3State) (hs : NN s)
    (hin : innerLoop E E.innerFuel (enterSt E s) (enterH2 E s) = some s1) : NN (dualSt E s1) :=
  dualSt_nn (innerLoop_nn E _ (enterSt E s) _ _ hs hin)

/-- What holds at the head of the outer loop (the convergence test), i.e. of the initial state and after every
`dualSt`: `x` vanishes and `y` is the gradient off `F_ = F \ H1`; and if `optimal_on_F` is set, `x` was last changed by an
accepted solve, so `H1 = ∅` (then `F_ = F`) and the gradient vanishes on all of `F`. -/
structure B3Inv (E : B3Env) (A : Mat) (b : Vec) (s : B3State) : Prop where
  nn : NN s
  zeroG : ∀ i, i < E.n → keep s i = false → at0 s.x i = 0
  yG : ∀ i, i < E.n → keep s i = false → at0 s.y i = grad E.n A b (at0 s.x) i
  opt : s.optF = true →
    (∀ i, i < E.n → atF s.h1 i = false) ∧ ∀ i, i < E.n → atF s.inF i = true → grad E.n A b (at0 s.x) i = 0

theorem b3Init_nn (n : ℕ) (y0 : ℕ → ℚ) : NN (b3Init n y0) := fun _ => le_rfl

theorem b3Init_inv (E : B3Env) (A : Mat) (b : Vec) : B3Inv E A b (b3Init E.n fun i => -(b i)) := by
  refine ⟨b3Init_nn _ _, fun _ _ _ => rfl, fun i hi _ => ?_, fun _ => ⟨fun _ _ => rfl, fun i _ h => nomatch h⟩⟩
  show at0 (tab E.n _) i = grad E.n A b (at0 #[]) i
  rw [at0_tab _ hi]
  exact (grad_zero E.n A b i).symm

theorem innerLoop_opt (E : B3Env) : ∀ (fuel : ℕ) (s : B3State) (h2 : Array Bool) (s' : B3State),
    innerLoop E fuel s h2 = some s' → s'.optF = true →
      (∀ i, atF s'.h1 i = false) ∧
      ∀ i, i < E.n → atF s'.inF i = true → at0 s'.x i = at0 (E.solve (atF s'.inF)) i := by
  intro fuel
  induction fuel with
  | zero => exact fun s h2 s' h => nomatch h
  | succ f ih =>
    intro s h2 s'
    refine innerLoop_cases E f s h2 (fun r => r = some s' → s'.optF = true → _) (fun _ h _ => ?_)
      (fun _ h => ih _ _ _ h) (fun _ _ h hopt => ?_) (fun _ _ h => ih _ _ _ h)
    · obtain rfl := Option.some.inj h
      refine ⟨fun _ => rfl, fun i hi hF => ?_⟩
      show at0 (tab E.n _) i = _
      rw [at0_tab _ hi]
      exact if_pos hF
    · obtain rfl := Option.some.inj h
      exact nomatch hopt

/-- the invariant at the convergence test `nH2 == 0 && optimal_on_F` is what the checker accepts -/
theorem B3Inv.kktCheck {E : B3Env} {A : Mat} {b : Vec} {s : B3State} (hE : ExactEnv E A b) (hs : B3Inv E A b s)
    (hcnt : countB E.n (atF (enterH2 E s)) = 0) (hopt : s.optF = true) :
    kktCheck E.n A b (at0 s.x) (fun _ => E.tol) = true := by
  obtain ⟨hh1, hgF⟩ := hs.opt hopt
  refine kktCheck_iff.mpr fun i hi => ⟨hs.nn i, ?_⟩
  by_cases hF : atF s.inF i = true
  · rw [hgF i hi hF]
    exact ⟨neg_nonpos.mpr hE.tol_nonneg, Or.inr hE.tol_nonneg⟩
  · have hG : keep s i = false := by rw [Bool.not_eq_true] at hF; rw [keep, hF]; rfl
    refine ⟨?_, Or.inl (hs.zeroG i hi hG).le⟩
    have hz := countB_eq_zero_iff.mp hcnt i hi
    rw [enterH2, atF_tab _ hi, pendH2, hG, hh1 i hi] at hz
    rw [← hs.yG i hi hG]
    simpa using hz

theorem dualSt_inv {E : B3Env} {A : Mat} {b : Vec} (hE : ExactEnv E A b) {s s1 : B3State} {h2 : Array Bool}
    {fuel : ℕ} (hin : innerLoop E fuel s h2 = some s1) (hs : NN s) : B3Inv E A b (dualSt E s1) := by
  have hx : ∀ j, j < E.n → at0 (dualSt E s1).x j = if keep s1 j then at0 s1.x j else 0 := fun j hj => by
    show at0 (tab E.n _) j = _
    rw [at0_tab _ hj, atF_tab _ hj]
  refine ⟨dualSt_nn (innerLoop_nn E _ _ _ _ hs hin), fun i hi (hG : keep s1 i = false) => ?_,
    fun i hi (hG : keep s1 i = false) => ?_, fun hopt => ?_⟩
  · rw [hx i hi]
    exact if_neg (Bool.eq_false_iff.mp hG)
  · show at0 (tab E.n _) i = _
    rw [at0_tab _ hi, atF_tab _ hi, if_neg (Bool.eq_false_iff.mp hG)]
    refine (hE.dual_exact _ _ i hi).trans (grad_congr _ _ _ _ _ (fun j hj => ?_) i)
    rw [hx j hj, atF_tab _ hj]
  · obtain ⟨hh1, hsol⟩ := innerLoop_opt E _ _ _ _ hin hopt
    refine ⟨fun i _ => hh1 i, fun i hi hF => ?_⟩
    refine Eq.trans (grad_congr _ _ _ _ _ (fun j hj => ?_) i) (hE.solve_exact (atF s1.inF) i hi hF)
    rw [hx j hj, keep, hh1 j, Bool.not_false, Bool.and_true]
    split
    · exact hsol j hj ‹_›
    · rfl

end Nnls

open Nnls

/-- a 5 × 5 Gram system (taken from the generator) on which the state machine takes a projected step of
`walk_descents` -/
def exA5 : Mat := fun i j =>
  ((([[3367, 529, 633, 1707, -144], [529, 1865, 139, 460, -1149], [633, 139, 1360, 589, -360],
      [1707, 460, 589, 2710, 342], [-144, -1149, -360, 342, 1155]] : List (List Int)).getD i []).getD j 0 : ℚ) / 256
def exb5 : Vec := fun i => ([55/16, 2, 0, 45/16, 15/4] : List ℚ).getD i 0

/-- the run of the exact state machine on it, evaluated once by the kernel -/
theorem ex5_run :
    let r := block3Run (exactEnv 5 exA5 exb5 (5 / 45035996273) 120 28) fun i => -(exb5 i)
    r.2 = B3Exit.converged ∧ r.1.nWalk = 1 ∧ r.1.nBoundary = 1 ∧ r.1.nFull = 2 ∧
      kktCheck 5 exA5 exb5 (at0 r.1.x) (fun _ => 5 / 45035996273) = true := by
  decide +kernel

end PsV
