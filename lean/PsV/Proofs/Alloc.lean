import PsV.Proofs.AllocRun
import PsV.Proofs.AllocEstimate
import PsV.Proofs.ListBasics
/-!
# C19 - the generated call sites in closed form, and their runs in any arena

Core Lean only.  The call sites of `read_fits_core`, `convolve` and `~splinetable` are evaluated to explicit sequences;
every statement about their level is proved for an arena that uses `c n` bytes for a request of `n` (`costEvents c`),
plain byte counting being `c = id` (`costEvents_id`, `footprintC_id`).  `footprintC c p ds` is what a table of shape `ds`
occupies: loading ends there, `convolve` goes from the footprint of the old shape to that of the new one without
exceeding the larger, the destructor releases exactly it (`destroy_after`).
-/
namespace PsV.C19
open PsV.Generated.C19

/-- bytes of the auxiliary entries that stay live: the pair of pointers, the key and the stored value of every entry -/
def auxBytes (as : List AuxEntry) : Nat := (as.map fun a => 16 + (a.keylen + a.storedlen)).sum

/-- What the reader requests for one auxiliary card: the pointer pair, the key, a block of the raw value length, and
    - when the stored string is shorter than the raw card value (the value was quoted) - a second block of the exact
    length, after which the first one is released. -/
def auxSeg (a : AuxEntry) : List Event :=
  [.alloc 16, .alloc a.keylen, .alloc a.vallen] ++
    (if a.storedlen != a.vallen then [.alloc a.storedlen, .free a.vallen] else [])

/-- What the reader requests after the auxiliary cards: only allocations. -/
def readTail (p : Params) : List Event :=
  [.alloc (p.dims.length * 4), .alloc (p.dims.length * 8), .alloc (p.dims.length * 8), .alloc (p.dims.length * 8),
   .alloc (p.dims.length * 8), .alloc (2 * p.dims.length * 8), .alloc (p.dims.length * 8), .alloc (p.dims.length * 8),
   .alloc (prodNaxes p.dims * 4)] ++ p.dims.flatMap (fun d => [.alloc ((d.nknots + 2 * d.order) * 8)])

/-- The generated call sites of `read_fits_core`, evaluated: the array of entries, one segment per card, the rest. -/
theorem readEvents_eq (p : Params) :
    readEvents p = .alloc (p.aux.length * 8) :: (p.aux.flatMap auxSeg ++ readTail p) := by
  simp [readEvents, readBlocks, interp, evalSites, evalSite, topEnv, readTail, List.filter]
  -- what is left is the per-card body, with the generated condition still undecided
  refine congrArg (List.flatMap · p.aux) (funext fun a => ?_)
  cases h : a.storedlen != a.vallen <;> simp [auxSeg, h, evalSite]

/-- `convolve` first releases the coefficients and every knot vector … -/
def convFrees (p : Params) : List Event :=
  .free (prodNaxes p.dims * 4) :: p.dims.flatMap (fun d => [.free ((d.nknots + 2 * d.order) * 8)])

/-- … and only then requests the new coefficient array and the new knot vectors. -/
def convAllocs (p : Params) : List Event :=
  .alloc (prodNaxes (convDims p) * 4) :: (convDims p).flatMap (fun d => [.alloc ((d.nknots + 2 * d.order) * 8)])

/-- The source order of the allocator calls of `convolve` (generated) is: all frees, then all allocations. -/
theorem convolveEvents_eq (p : Params) : convolveEvents p = convFrees p ++ convAllocs p := by
  simp [convolveEvents, convolveBlocks, interp, evalSites, evalSite, topEnv, convFrees, convAllocs]

/-- bytes live when `read_fits_core` returns: the footprint of the loaded table -/
def readBytes (p : Params) : Nat :=
  8 * p.aux.length + auxBytes p.aux + 68 * p.dims.length + 4 * prodNaxes p.dims + knotBytes p.dims

/-- bytes live when `convolve` returns: the footprint of the convolved table -/
def convolvedBytes (p : Params) : Nat :=
  8 * p.aux.length + auxBytes p.aux + 68 * p.dims.length + 4 * prodNaxes (convDims p) + knotBytes (convDims p)

theorem auxBytes_perm (as bs : List AuxEntry) (h : as.Perm bs) : auxBytes as = auxBytes bs :=
  (h.map _).sum_nat

theorem readBytes_le_convolvedBytes (p : Params) (hn : 1 ≤ p.n)
    (hcons : ∀ d, p.dims[p.cdim]? = some d → d.naxes + d.order + 1 = d.nknots) :
    readBytes p ≤ convolvedBytes p :=
  have hd := dimsLe_convDims p hn hcons
  Nat.add_le_add (Nat.add_le_add_left (Nat.mul_le_mul_left 4 (prodNaxes_mono hd)) _) (knotBytes_mono hd)

def auxBytesC (c : Nat → Nat) (as : List AuxEntry) : Nat := (as.map fun a => c 16 + (c a.keylen + c a.storedlen)).sum

def knotBytesC (c : Nat → Nat) (ds : List Dim) : Nat := (ds.map fun d => c ((d.nknots + 2 * d.order) * 8)).sum

/-- the eight per-dimension arrays: order, periods, knots, nknots, extents, extents[0], naxes, strides -/
def fixedBytesC (c : Nat → Nat) (nd : Nat) : Nat :=
  c (nd * 4) + c (nd * 8) + c (nd * 8) + c (nd * 8) + c (nd * 8) + c (2 * nd * 8) + c (nd * 8) + c (nd * 8)

/-- what a table of shape `ds` with the auxiliary entries of `p` occupies -/
def footprintC (c : Nat → Nat) (p : Params) (ds : List Dim) : Nat :=
  c (p.aux.length * 8) + auxBytesC c p.aux + fixedBytesC c ds.length + c (prodNaxes ds * 4) + knotBytesC c ds

theorem auxBytesC_replicate (c : Nat → Nat) (n : Nat) (a : AuxEntry) :
    auxBytesC c (List.replicate n a) = n * (c 16 + (c a.keylen + c a.storedlen)) := by
  rw [auxBytesC, List.map_replicate, List.sum_replicate_nat]

theorem footprintC_id (p : Params) (ds : List Dim) :
    footprintC (fun n => n) p ds =
      8 * p.aux.length + auxBytes p.aux + 68 * ds.length + 4 * prodNaxes ds + knotBytes ds := by
  have h : fixedBytesC (fun n => n) ds.length = 68 * ds.length := by simp only [fixedBytesC]; omega
  rw [footprintC, h, Nat.mul_comm, Nat.mul_comm (prodNaxes ds)]
  rfl

/-- One card: `16 + keylen + storedlen` bytes stay; while both value blocks exist `vallen` more are live. -/
theorem cost_auxSeg_run (c : Nat → Nat) (a : AuxEntry) (l : Nat) :
    Run l (costEvents c (auxSeg a)) (l + (c 16 + (c a.keylen + c a.storedlen)) + c a.vallen)
      (l + (c 16 + (c a.keylen + c a.storedlen))) := by
  simp only [← Nat.add_assoc]
  unfold auxSeg
  split
  · refine .alloc (c 16) (.alloc (c a.keylen) (.alloc (c a.vallen) (.alloc (c a.storedlen) ?_)))
    rw [Nat.add_right_comm _ (c a.vallen)]
    exact .free (c a.vallen) (Nat.le_refl _) (.mono (.nil _) (Nat.le_add_right _ _))
  · rename_i h
    rw [show a.storedlen = a.vallen by simpa using h]
    exact .alloc (c 16) (.alloc (c a.keylen) (.alloc (c a.vallen) (.mono (.nil _) (Nat.le_add_right _ _))))

theorem cost_readTail_bytes (c : Nat → Nat) (p : Params) :
    Bytes (costEvents c (readTail p)) (fixedBytesC c p.dims.length + c (prodNaxes p.dims * 4) + knotBytesC c p.dims) 0 := by
  simp only [fixedBytesC, Nat.add_assoc]
  exact .alloc _ (.alloc _ (.alloc _ (.alloc _ (.alloc _ (.alloc _ (.alloc _ (.alloc _ (.alloc _
    (.cost_flatMap_allocs c fun _ => ⟨rfl, rfl⟩)))))))))

/-- `C` bounds what the arena uses for the raw value of any card: the first block of a quoted value is still live when
    its exact-size replacement is requested. -/
theorem run_read (c : Nat → Nat) (p : Params) (C : Nat) (hC : ∀ a ∈ p.aux, c a.vallen ≤ C) :
    Run 0 (costEvents c (readEvents p)) (max (c (p.aux.length * 8) + auxBytesC c p.aux + C) (footprintC c p p.dims))
      (footprintC c p p.dims) := by
  have s : Run (c (p.aux.length * 8)) (p.aux.flatMap fun a => costEvents c (auxSeg a)) _ _ :=
    Run.flatMap (as := p.aux) (f := fun a => costEvents c (auxSeg a)) (net := fun a => c 16 + (c a.keylen + c a.storedlen))
      (C := C) (fun a ha l => (cost_auxSeg_run c a l).mono (Nat.add_le_add_left (hC a ha) _)) _
  have st := s.append ((cost_readTail_bytes c p).run _)
  have r := Run.alloc (l := 0) (c (p.aux.length * 8)) (by rwa [Nat.zero_add])
  rw [readEvents_eq, costEvents_alloc, costEvents_append, costEvents_flatMap]
  have e : c (p.aux.length * 8) + auxBytesC c p.aux +
      (fixedBytesC c p.dims.length + c (prodNaxes p.dims * 4) + knotBytesC c p.dims) = footprintC c p p.dims := by
    simp only [footprintC, Nat.add_assoc]
  exact e ▸ r

theorem cost_convFrees_bytes (c : Nat → Nat) (p : Params) :
    Bytes (costEvents c (convFrees p)) 0 (c (prodNaxes p.dims * 4) + knotBytesC c p.dims) :=
  .free _ (.cost_flatMap_frees c fun _ => ⟨rfl, rfl⟩)

theorem cost_convAllocs_bytes (c : Nat → Nat) (p : Params) :
    Bytes (costEvents c (convAllocs p)) (c (prodNaxes (convDims p) * 4) + knotBytesC c (convDims p)) 0 :=
  .alloc _ (.cost_flatMap_allocs c fun _ => ⟨rfl, rfl⟩)

/-- Nothing between the two footprints exceeds them because `convolve` frees before it allocates.  No assumption on `c`
    is needed: what is released is released with the size it was requested with. -/
theorem run_read_convolve (c : Nat → Nat) (p : Params) (C : Nat) (hC : ∀ a ∈ p.aux, c a.vallen ≤ C) :
    Run 0 (costEvents c (readEvents p ++ convolveEvents p))
      (max (c (p.aux.length * 8) + auxBytesC c p.aux + C) (max (footprintC c p p.dims) (footprintC c p (convDims p))))
      (footprintC c p (convDims p)) := by
  -- `b`: the part of the footprint that `convolve` leaves alone
  obtain ⟨b, e⟩ : ∃ b, ∀ ds : List Dim, ds.length = p.dims.length →
      footprintC c p ds = b + (c (prodNaxes ds * 4) + knotBytesC c ds) :=
    ⟨_, fun ds h => by rw [footprintC, h, Nat.add_assoc]⟩
  have f := (cost_convFrees_bytes c p).run b
  have a := (cost_convAllocs_bytes c p).run b
  rw [Nat.add_zero, Nat.add_zero, ← e _ rfl] at f
  rw [Nat.add_zero, ← e _ (convDims_length p)] at a
  have r := (run_read c p C hC).append (f.append a)
  rw [Nat.max_assoc, ← Nat.max_assoc (footprintC c p p.dims), Nat.max_self] at r
  rwa [convolveEvents_eq, costEvents_append, costEvents_append]

theorem cost_read_convolve_run (c : Nat → Nat) (p : Params) (C : Nat) (hC : ∀ a ∈ p.aux, c a.vallen ≤ C) :
    balanced 0 (costEvents c (readEvents p ++ convolveEvents p)) = true ∧
    peak (costEvents c (readEvents p ++ convolveEvents p)) ≤
      max (c (p.aux.length * 8) + auxBytesC c p.aux + C) (max (footprintC c p p.dims) (footprintC c p (convDims p))) ∧
    liveAfter 0 (costEvents c (readEvents p ++ convolveEvents p)) = footprintC c p (convDims p) :=
  have r := run_read_convolve c p C hC
  ⟨r.bal, r.peak, r.live⟩

/-- a bound as `run_read` asks for exists whatever the cards -/
theorem vallen_bound (c : Nat → Nat) (p : Params) : ∀ a ∈ p.aux, c a.vallen ≤ (p.aux.map fun a => c a.vallen).sum :=
  fun _ ha => le_sum_of_mem _ _ (List.mem_map_of_mem (f := fun a => c a.vallen) ha)

/-- level and balance of the two runs, for callers that do not ask how high the transient goes -/
theorem read_ends (c : Nat → Nat) (p : Params) :
    ∃ pk, Run 0 (costEvents c (readEvents p)) pk (footprintC c p p.dims) :=
  ⟨_, run_read c p _ (vallen_bound c p)⟩

theorem read_convolve_ends (c : Nat → Nat) (p : Params) :
    ∃ pk, Run 0 (costEvents c (readEvents p ++ convolveEvents p)) pk (footprintC c p (convDims p)) :=
  ⟨_, run_read_convolve c p _ (vallen_bound c p)⟩

theorem footprintC_le_peak (c : Nat → Nat) (p : Params) :
    footprintC c p (convDims p) ≤ peak (costEvents c (readEvents p ++ convolveEvents p)) :=
  have ⟨_, r⟩ := read_convolve_ends c p
  r.live ▸ liveAfter_le_peakFrom 0 _

theorem read_run (p : Params) (C : Nat) (hC : ∀ a ∈ p.aux, a.vallen ≤ C) :
    liveAfter 0 (readEvents p) = readBytes p ∧
    peakFrom 0 (readEvents p) ≤ max (8 * p.aux.length + auxBytes p.aux + C) (readBytes p) ∧
    balanced 0 (readEvents p) = true := by
  have h := run_read (fun n => n) p C hC
  rw [costEvents_id, Nat.mul_comm p.aux.length, footprintC_id] at h
  exact ⟨h.live, h.peak, h.bal⟩

theorem read_convolve_run (p : Params) (C : Nat) (hC : ∀ a ∈ p.aux, a.vallen ≤ C) :
    balanced 0 (readEvents p ++ convolveEvents p) = true ∧
    peak (readEvents p ++ convolveEvents p) ≤
      max (8 * p.aux.length + auxBytes p.aux + C) (max (readBytes p) (convolvedBytes p)) ∧
    liveAfter 0 (readEvents p ++ convolveEvents p) = convolvedBytes p := by
  have h := cost_read_convolve_run (fun n => n) p C hC
  rwa [costEvents_id, Nat.mul_comm p.aux.length, footprintC_id, footprintC_id, convDims_length] at h

theorem readBytes_assoc (p : Params) :
    8 * p.aux.length + auxBytes p.aux + (68 * p.dims.length + 4 * prodNaxes p.dims + knotBytes p.dims) = readBytes p := by
  simp only [readBytes, Nat.add_assoc]

/-- Loading alone: when no raw card value is longer than what is requested after the cards (the per-dimension arrays,
    the coefficients, the knot vectors), the highest level is the footprint of the loaded table. -/
theorem read_peak_exact (p : Params)
    (hC : ∀ a ∈ p.aux, a.vallen ≤ 68 * p.dims.length + 4 * prodNaxes p.dims + knotBytes p.dims) :
    peakFrom 0 (readEvents p) = readBytes p := by
  obtain ⟨r1, r2, _⟩ := read_run p _ hC
  rw [readBytes_assoc, Nat.max_self] at r2
  exact Nat.le_antisymm r2 (r1 ▸ liveAfter_le_peakFrom 0 _)

theorem read_convolve_peak_exact (p : Params)
    (hC : ∀ a ∈ p.aux, a.vallen ≤ 68 * p.dims.length + 4 * prodNaxes p.dims + knotBytes p.dims) :
    peak (readEvents p ++ convolveEvents p) = max (readBytes p) (convolvedBytes p) := by
  obtain ⟨_, h2, h3⟩ := read_convolve_run p _ hC
  rw [readBytes_assoc, ← Nat.max_assoc, Nat.max_self] at h2
  refine Nat.le_antisymm h2 (Nat.max_le.mpr ⟨?_, h3 ▸ liveAfter_le_peakFrom 0 _⟩)
  exact read_peak_exact p hC ▸ peakFrom_le_append (readEvents p) (convolveEvents p) 0

/-- what `~splinetable` releases for a table of shape `cur` -/
def destroyFrees (p : Params) (cur : List Dim) : List Event :=
  cur.flatMap (fun d => [.free ((d.nknots + 2 * d.order) * 8)]) ++
  [.free (cur.length * 8), .free (cur.length * 8), .free (cur.length * 4), .free (2 * cur.length * 8),
   .free (cur.length * 8), .free (cur.length * 8), .free (prodNaxes cur * 4), .free (cur.length * 8),
   .free (cur.length * 8)] ++
  p.aux.flatMap (fun a => [.free a.keylen, .free a.storedlen, .free 16]) ++ [.free (p.aux.length * 8)]

theorem destroyEvents_eq (p : Params) (cur : List Dim) : destroyEvents p cur = destroyFrees p cur := by
  simp [destroyEvents, destroyBlocks, interp, evalSites, evalSite, topEnv, destroyFrees]

theorem cost_destroyFrees (c : Nat → Nat) (p : Params) (cur : List Dim) :
    Bytes (costEvents c (destroyFrees p cur)) 0 (footprintC c p cur) := by
  rw [destroyFrees, costEvents_append, costEvents_append, costEvents_append]
  -- the four parts: knot vectors, the nine arrays, the cards (in the order of `auxBytesC`), the array of entries
  refine .of_eq ((((Bytes.cost_flatMap_frees c fun _ => ⟨rfl, rfl⟩).append ⟨rfl, rfl⟩).append
    (.cost_flatMap_frees c (y := fun a => c 16 + (c a.keylen + c a.storedlen)) fun a =>
      ⟨rfl, by exact (Nat.add_assoc _ _ (c 16)).symm.trans (Nat.add_comm _ _)⟩)).append ⟨rfl, rfl⟩) rfl ?_
  simp only [costEvents, List.map, freeBytes, footprintC, fixedBytesC, auxBytesC, knotBytesC, Nat.add_zero]
  omega

theorem cost_destroyFrees_bytes (c : Nat → Nat) (p : Params) (cur : List Dim) :
    freeBytes (costEvents c (destroyFrees p cur)) = footprintC c p cur :=
  (cost_destroyFrees c p cur).2

theorem cost_destroy_run (c : Nat → Nat) (p : Params) (cur : List Dim) :
    peakFrom (footprintC c p cur) (costEvents c (destroyEvents p cur)) = footprintC c p cur ∧
    liveAfter (footprintC c p cur) (costEvents c (destroyEvents p cur)) = 0 ∧
    balanced (footprintC c p cur) (costEvents c (destroyEvents p cur)) = true := by
  have r := (cost_destroyFrees c p cur).run 0
  rw [Nat.zero_add, Nat.add_zero] at r
  rw [destroyEvents_eq]
  exact ⟨Nat.le_antisymm r.peak (le_peakFrom _ _), r.live, r.bal⟩

theorem destroy_after (c : Nat → Nat) (p : Params) (cur : List Dim) {es : List Event} {pk : Nat}
    (h : Run 0 es pk (footprintC c p cur)) :
    balanced 0 (es ++ costEvents c (destroyEvents p cur)) = true ∧
    liveAfter 0 (es ++ costEvents c (destroyEvents p cur)) = 0 ∧
    peakFrom 0 (es ++ costEvents c (destroyEvents p cur)) = peakFrom 0 es := by
  obtain ⟨d1, d2, d3⟩ := cost_destroy_run c p cur
  rw [balanced_append, liveAfter_append, peakFrom_append, h.live, h.bal, d1, d2, d3]
  exact ⟨rfl, rfl, Nat.max_eq_left (h.live ▸ liveAfter_le_peakFrom 0 es)⟩

/-- construct, convolve, destroy / construct, destroy in any arena: every byte is given back and the destructor does not
    raise the peak -/
theorem life_run (c : Nat → Nat) (p : Params) :
    balanced 0 (costEvents c (lifeEvents p)) = true ∧ liveAfter 0 (costEvents c (lifeEvents p)) = 0 ∧
    peakFrom 0 (costEvents c (lifeEvents p)) = peakFrom 0 (costEvents c (readEvents p ++ convolveEvents p)) := by
  have ⟨_, r⟩ := read_convolve_ends c p
  rw [lifeEvents, costEvents_append]
  exact destroy_after c p (convDims p) r

theorem load_destroy_run (c : Nat → Nat) (p : Params) :
    balanced 0 (costEvents c (readEvents p ++ destroyEvents p p.dims)) = true ∧
    liveAfter 0 (costEvents c (readEvents p ++ destroyEvents p p.dims)) = 0 ∧
    peakFrom 0 (costEvents c (readEvents p ++ destroyEvents p p.dims)) = peakFrom 0 (costEvents c (readEvents p)) := by
  have ⟨_, r⟩ := read_ends c p
  rw [costEvents_append]
  exact destroy_after c p p.dims r

end PsV.C19
