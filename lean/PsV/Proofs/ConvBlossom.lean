import PsV.Proofs.BSpline
import PsV.Proofs.ConvDivDiff
/-!
`convoluted_blossom` in closed form, and its sum against the new basis.  At `Rat`, both early exits included, the model's
`convolutedBlossom` is `(x_{nx-1} − x_0) · [x_0..]_a [y_0..]_b g(x_a + y_b)` with `g(s) = (s − z)_+^0 · Π_m (s − bags_m)`
(`convolutedBlossom_eq`); summed against the pieces `Bp` of the new basis on a non-empty knot interval the blossoms give the
double divided difference of the truncated power `(x_a + y_b − u)_+^n` (`blossom_sum`), by Marsden's identity on one
polynomial piece (`Bp_marsden_trunc` of `Proofs/BSpline.lean`).
-/
namespace PsV
open Finset

/-- `(s − z)_+^0 · Π_{m<nbags} (s − bags m)` -/
def blossomG (z : Rat) (bags : Nat → Rat) (nbags : Nat) (s : Rat) : Rat :=
  if z < s then linProd bags nbags s else 0

theorem blossomG_eq_zero {z : Rat} {bags : Nat → Rat} {n : Nat} {s : Rat}
    (h : z < s → ∃ m, m < n ∧ s = bags m) : blossomG z bags n s = 0 := by
  unfold blossomG
  split
  · rename_i hz
    obtain ⟨m, hm, he⟩ := h hz
    exact Finset.prod_eq_zero (mem_range.mpr hm) (by rw [he, sub_self])
  · rfl

theorem blossomG_congr {z z' : Rat} {bags bags' : Nat → Rat} {n : Nat} (s : Rat) (hz : z = z')
    (hb : ∀ m, m < n → bags m = bags' m) : blossomG z bags n s = blossomG z' bags' n s := by
  unfold blossomG linProd
  rw [hz, Finset.prod_congr rfl fun m hm => by rw [hb m (mem_range.mp hm)]]

/-- every node lies above `z`: the double difference sees a polynomial of too low a degree -/
theorem dd2_blossomG_above (x y : Nat → Rat) (z : Rat) (bags : Nat → Rat) (nbags nx ox ny oy : Nat)
    (hx : DistinctOn x ox nx) (hy : DistinctOn y oy ny) (hdeg : nbags + 3 ≤ nx + ny)
    (h : ∀ a b, ox ≤ a → a < ox + nx → oy ≤ b → b < oy + ny → z < x a + y b) :
    dd2 x y (fun a b => blossomG z bags nbags (x a + y b)) nx ox ny oy = 0 := by
  rw [dd2_congr x y (fun a b => blossomG z bags nbags (x a + y b)) (fun a b => linProd bags nbags (x a + y b))
    nx ox ny oy (fun a b h1 h2 h3 h4 => if_pos (h a b h1 h2 h3 h4))]
  exact dd2_linProd_eq_zero x y bags ox oy nbags nx ny hx hy hdeg

/-- every node above `z` is one of the bags: all values vanish -/
theorem dd2_blossomG_bags (x y : Nat → Rat) (z : Rat) (bags : Nat → Rat) (nbags nx ox ny oy : Nat)
    (h : ∀ a b, ox ≤ a → a < ox + nx → oy ≤ b → b < oy + ny → z < x a + y b →
      ∃ m, m < nbags ∧ x a + y b = bags m) :
    dd2 x y (fun a b => blossomG z bags nbags (x a + y b)) nx ox ny oy = 0 := by
  rw [dd2_congr x y _ (fun _ _ => 0) nx ox ny oy (fun a b h1 h2 h3 h4 => blossomG_eq_zero (h a b h1 h2 h3 h4)),
    dd2_zero_fun]

theorem detLoop_eq (s : Rat) (bags : Nat → Rat) : ∀ nbags, detLoop s bags nbags = linProd bags nbags s
  | 0 => (linProd_zero bags s).symm
  | n+1 => by
    have ih := detLoop_eq s bags n
    unfold detLoop at ih ⊢
    rw [loopN, ih, linProd_succ]
    exact mul_comm _ _

theorem blossomEntry_eq (xi : Rat) (y : Nat → Rat) (z : Rat) (bags : Nat → Rat) (nbags j : Nat) :
    blossomEntry xi y z bags nbags j = blossomG z bags nbags (xi + y j) := by
  unfold blossomEntry blossomG
  simp only [detLoop_eq]
  show (if decide ((0:Rat) < xi + y j - z) = true then _ else (0:Rat)) = _
  simp only [decide_eq_true_eq, sub_pos]
  rfl

theorem rd_tab {α : Type} [Arith α] (n : Nat) (f : Nat → α) (i : Nat) (h : i < n) : rd (tab n f) i = f i := by
  unfold rd tab
  simp [Array.getD, h]

theorem convolutedBlossom_raw (x : Nat → Rat) (nx : Nat) (y : Nat → Rat) (ny : Nat) (z : Rat) (bags : Nat → Rat) (nbags : Nat) :
    convolutedBlossom x nx y ny z bags nbags =
      if blossomDisjoint x nx y ny z bags nbags then 0
      else (x (nx-1) - x 0) * dd2 x y (fun a b => blossomG z bags nbags (x a + y b)) nx 0 ny 0 := by
  unfold convolutedBlossom
  split
  · rfl
  · show (x (nx-1) - x 0) * _ = _
    congr 1
    unfold dd2
    apply dd_congr
    intro a _ ha
    rw [rd_tab _ _ a (by omega)]
    apply dd_congr
    intro b _ hb
    rw [rd_tab _ _ b (by omega)]
    exact blossomEntry_eq _ _ _ _ _ _

theorem blossomDisjoint_iff (x : Nat → Rat) (nx : Nat) (y : Nat → Rat) (ny : Nat) (z : Rat) (bags : Nat → Rat) (nbags : Nat) :
    blossomDisjoint x nx y ny z bags nbags = true ↔ (z < x 0 + y 0 ∨ x (nx-1) + y (ny-1) < bags (nbags-1)) := by
  unfold blossomDisjoint
  show (decide (z < x 0 + y 0) || decide (x (nx-1) + y (ny-1) < bags (nbags-1))) = true ↔ _
  simp

theorem convolutedBlossom_eq (x : Nat → Rat) (nx : Nat) (y : Nat → Rat) (ny : Nat) (z : Rat) (bags : Nat → Rat) (nbags : Nat)
    (hnx : 1 ≤ nx) (hny : 1 ≤ ny) (hdeg : nbags + 3 ≤ nx + ny)
    (hx : ∀ a b, a < b → b < nx → x a < x b) (hy : ∀ a b, a < b → b < ny → y a < y b)
    (hmem : ∀ a b, a < nx → b < ny → z < x a + y b → x a + y b < bags (nbags-1) → ∃ m, m < nbags ∧ x a + y b = bags m) :
    convolutedBlossom x nx y ny z bags nbags =
      (x (nx-1) - x 0) * dd2 x y (fun a b => blossomG z bags nbags (x a + y b)) nx 0 ny 0 := by
  rw [convolutedBlossom_raw]
  split
  · rename_i hdis
    rcases (blossomDisjoint_iff ..).mp hdis with h1 | h2
    · rw [dd2_blossomG_above x y z bags nbags nx 0 ny 0
        (StrictBelow.distinctOn hx (by omega)) (StrictBelow.distinctOn hy (by omega)) hdeg
        (fun a b _ ha _ hb => lt_of_lt_of_le h1 (add_le_add
          (StrictBelow.le hx (Nat.zero_le a) (by omega))
          (StrictBelow.le hy (Nat.zero_le b) (by omega)))), mul_zero]
    · rw [dd2_blossomG_bags x y z bags nbags nx 0 ny 0
        (fun a b _ ha _ hb hz => hmem a b (by omega) (by omega) hz (lt_of_le_of_lt (add_le_add
          (StrictBelow.le hx (by omega) (by omega))
          (StrictBelow.le hy (by omega) (by omega))) h2)), mul_zero]
  · rfl

/-- `dualPoly` of Marsden's identity is the product that `detLoop` builds -/
theorem dualPoly_eq_linProd (t : Int → Rat) (n : Nat) (i : Int) (c : Rat) :
    dualPoly t n i c = linProd (fun m => t (i + 1 + m)) n c := rfl

/-- `hside`, `hknot`: every node `x_a + y_b` is a knot value; the right side is the truncated power cut at the interval -/
theorem blossom_sum (x y : Nat → Rat) (nx ox ny oy : Nat) (t : Int → Rat) (u : Rat) (left : Int) (n : Nat)
    (hne : t left < t (left + 1))
    (hmono : ∀ a b : Int, left - n ≤ a → a ≤ b → b ≤ left + n + 1 → t a ≤ t b)
    (hside : ∀ a b, ox ≤ a → a < ox + nx → oy ≤ b → b < oy + ny → (x a + y b ≤ t left ∨ t (left+1) ≤ x a + y b))
    (hknot : ∀ a b, ox ≤ a → a < ox + nx → oy ≤ b → b < oy + ny → x a + y b ≤ t left →
      ∀ i : Int, left - n ≤ i → i ≤ left → t i < x a + y b → ∃ m : Nat, m < n ∧ x a + y b = t (i + 1 + m)) :
    ∑ k ∈ range (n+1),
        dd2 x y (fun a b => blossomG (t (left - n + k)) (fun m => t (left - n + k + 1 + m)) n (x a + y b)) nx ox ny oy
          * Bp t u left n (left - n + k)
      = dd2 x y (fun a b => if t (left+1) ≤ x a + y b then (x a + y b - u)^n else 0) nx ox ny oy := by
  have h1 : ∀ k, dd2 x y (fun a b => blossomG (t (left - n + k)) (fun m => t (left - n + k + 1 + m)) n (x a + y b)) nx ox ny oy
          * Bp t u left n (left - n + k) =
      dd2 x y (fun a b => Bp t u left n (left - n + k) *
        blossomG (t (left - n + k)) (fun m => t (left - n + k + 1 + m)) n (x a + y b)) nx ox ny oy := by
    intro k
    rw [dd2_smul]; ring
  simp only [h1]
  rw [← dd2_sum]
  apply dd2_congr
  intro a b ha1 ha2 hb1 hb2
  have := Bp_marsden_trunc t u (x a + y b) left hne n hmono (hside a b ha1 ha2 hb1 hb2)
    (hknot a b ha1 ha2 hb1 hb2)
  rw [← this]
  apply Finset.sum_congr rfl
  intro k _
  unfold blossomG
  rw [dualPoly_eq_linProd]
  ring

end PsV
