import PsV.Model.Permute
/-!
# Mixed-radix arithmetic over `Nat`

Axis lengths `ns`, their product `prodL ns`, the row-major strides `rowMajor ns`, the digit tuple `digits ns q` of a
flat position and the position `flat ns idx` of a tuple; the three coordinates of a position along one axis
(`mul_add_*`, `block_*`).  No Mathlib, so that core-only proof modules can stand on it.
-/
namespace PsV.Permute

theorem prodL_eq_prod (l : List Nat) : prodL l = l.prod := by
  induction l with
  | nil => rfl
  | cons x l ih => rw [prodL, ih, List.prod_cons]

theorem prodL_perm {a b : List Nat} (h : a.Perm b) : prodL a = prodL b := by
  rw [prodL_eq_prod, prodL_eq_prod, h.prod_nat]

theorem prodL_append (a b : List Nat) : prodL (a ++ b) = prodL a * prodL b := by
  simp only [prodL_eq_prod, List.prod_append_nat]

theorem prodL_reverse (a : List Nat) : prodL a.reverse = prodL a :=
  prodL_perm (List.reverse_perm a)

/-- row-major (C order) strides: the stride of an axis is the product of the later axis lengths -/
def rowMajor : List Nat → List Nat
  | [] => []
  | _ :: ns => prodL ns :: rowMajor ns

theorem rowMajor_length (ns : List Nat) : (rowMajor ns).length = ns.length := by
  induction ns with
  | nil => rfl
  | cons _ ns ih => rw [rowMajor, List.length_cons, List.length_cons, ih]


theorem prod_split (l : List Nat) {m : Nat} (h : m < l.length) :
    l.prod = (l.take m).prod * (l[m] * (l.drop (m+1)).prod) := by
  have h1 : l = l.take m ++ l[m] :: l.drop (m+1) := by rw [← List.drop_eq_getElem_cons h, List.take_append_drop]
  exact (congrArg List.prod h1).trans (by rw [List.prod_append_nat, List.prod_cons])

/-- `pos / stride_k % n_k` for every axis, strides row-major -/
def digits : List Nat → Nat → List Nat
  | [], _ => []
  | n :: ns, pos => (pos / prodL ns % n) :: digits ns pos

/-- `Σ idx_k * stride_k`, strides row-major -/
def flat : List Nat → List Nat → Nat
  | _ :: ns, i :: is => i * prodL ns + flat ns is
  | _, _ => 0

/-- a multi-index inside the coefficient grid -/
def InBox (idx ns : List Nat) : Prop := idx.length = ns.length ∧ ∀ k < ns.length, idx.getD k 0 < ns.getD k 0

theorem inBox_cons {i n : Nat} {is ns : List Nat} : InBox (i :: is) (n :: ns) ↔ i < n ∧ InBox is ns :=
  ⟨fun ⟨hl, h⟩ => ⟨h 0 (Nat.succ_pos _), Nat.succ.inj hl, fun k hk => h (k + 1) (Nat.succ_lt_succ hk)⟩,
   fun ⟨hi, hl, h⟩ => ⟨congrArg Nat.succ hl, fun
     | 0, _ => hi
     | k + 1, hk => h k (Nat.lt_of_succ_lt_succ hk)⟩⟩

theorem digits_length (ns : List Nat) (pos : Nat) : (digits ns pos).length = ns.length := by
  induction ns with
  | nil => rfl
  | cons _ ns ih => rw [digits, List.length_cons, List.length_cons, ih]

theorem digit_shift (s n M i r : Nat) (h : s * n ∣ M) : (M * i + r) / s % n = r / s % n := by
  obtain ⟨q, rfl⟩ := h
  rcases Nat.eq_zero_or_pos s with rfl | hs
  · rw [Nat.div_zero, Nat.div_zero]
  · rw [Nat.mul_assoc, Nat.mul_assoc, Nat.mul_add_div hs, Nat.mul_add_mod]

theorem digits_shift (ns : List Nat) (M i r : Nat) (h : prodL ns ∣ M) :
    digits ns (M * i + r) = digits ns r := by
  induction ns with
  | nil => rfl
  | cons n ns ih =>
    rw [prodL, Nat.mul_comm] at h
    rw [digits, digits, digit_shift _ _ _ _ _ h, ih (Nat.dvd_trans (Nat.dvd_mul_right _ _) h)]

theorem flat_lt (idx ns : List Nat) (h : InBox idx ns) : flat ns idx < prodL ns := by
  induction ns generalizing idx with
  | nil => exact Nat.one_pos
  | cons n ns ih =>
    cases idx with
    | nil => nomatch h.1
    | cons i is =>
      obtain ⟨hi, hr⟩ := inBox_cons.1 h
      have ih := ih is hr
      calc i * prodL ns + flat ns is < (i + 1) * prodL ns := by rw [Nat.add_mul, Nat.one_mul]; omega
        _ ≤ n * prodL ns := Nat.mul_le_mul_right _ hi

theorem digits_flat : ∀ (idx ns : List Nat), InBox idx ns → digits ns (flat ns idx) = idx := by
  intro idx ns h
  induction ns generalizing idx with
  | nil =>
    cases idx with
    | nil => rfl
    | cons _ _ => nomatch h.1
  | cons n ns ih =>
    cases idx with
    | nil => nomatch h.1
    | cons i is =>
      obtain ⟨hi, hr⟩ := inBox_cons.1 h
      have hlt := flat_lt is ns hr
      rw [flat, digits, Nat.mul_comm, digits_shift ns _ _ _ (Nat.dvd_refl _), ih is hr,
        Nat.mul_add_div (Nat.zero_lt_of_lt hlt), Nat.div_eq_of_lt hlt, Nat.add_zero, Nat.mod_eq_of_lt hi]

theorem flat_digits : ∀ (ns : List Nat) (pos : Nat), pos < prodL ns → flat ns (digits ns pos) = pos := by
  intro ns
  induction ns with
  | nil => exact fun pos h => (Nat.lt_one_iff.1 h).symm
  | cons n ns ih =>
    intro pos h
    have hP : 0 < prodL ns := Nat.pos_of_ne_zero fun h0 => by rw [prodL, h0, Nat.mul_zero] at h; cases h
    have h1 : pos / prodL ns < n := (Nat.div_lt_iff_lt_mul hP).2 h
    have h2 : digits ns pos = digits ns (pos % prodL ns) := by
      have := digits_shift ns _ (pos / prodL ns) (pos % prodL ns) (Nat.dvd_refl _)
      rwa [Nat.div_add_mod] at this
    rw [digits, flat, Nat.mod_eq_of_lt h1, h2, ih _ (Nat.mod_lt _ hP), Nat.mul_comm]
    exact Nat.div_add_mod _ _

theorem digits_inBox (ns : List Nat) (pos : Nat) (h : 0 < prodL ns) : InBox (digits ns pos) ns := by
  induction ns with
  | nil => exact ⟨rfl, nofun⟩
  | cons _ ns ih =>
    exact inBox_cons.2 ⟨Nat.mod_lt _ (Nat.pos_of_mul_pos_right h), ih (Nat.pos_of_mul_pos_left h)⟩

theorem digit_eq_digits (ns : List Nat) (pos k : Nat) (h : k < ns.length) :
    pos / (rowMajor ns).getD k 0 % ns.getD k 0 = (digits ns pos).getD k 0 := by
  induction ns generalizing k with
  | nil => nomatch h
  | cons _ ns ih => cases k with
    | zero => rfl
    | succ k => exact ih k (Nat.lt_of_succ_lt_succ h)

/-- `Σ d_i * w_i` -/
def wsum : List Nat → List Nat → Nat
  | a :: as, b :: bs => a * b + wsum as bs
  | _, _ => 0

theorem flat_eq_wsum (ns idx : List Nat) : flat ns idx = wsum idx (rowMajor ns) := by
  induction ns generalizing idx with
  | nil => cases idx <;> rfl
  | cons _ ns ih => cases idx with
    | nil => rfl
    | cons i is => rw [flat, rowMajor, wsum, ih]

theorem inBox_append {ia ib a b : List Nat} (ha : InBox ia a) (hb : InBox ib b) : InBox (ia ++ ib) (a ++ b) := by
  induction a generalizing ia with
  | nil => rw [List.length_eq_zero_iff.1 ha.1]; exact hb
  | cons n a ih =>
    obtain ⟨i, ia, rfl⟩ := List.exists_cons_of_length_eq_add_one ha.1
    exact inBox_cons.2 ⟨(inBox_cons.1 ha).1, ih (inBox_cons.1 ha).2⟩

theorem flat_append (a b ia ib : List Nat) (h : ia.length = a.length) :
    flat (a ++ b) (ia ++ ib) = flat a ia * prodL b + flat b ib := by
  induction a generalizing ia with
  | nil =>
    rw [List.length_eq_zero_iff.1 h]
    show flat b ib = 0 * prodL b + flat b ib
    rw [Nat.zero_mul, Nat.zero_add]
  | cons n a ih =>
    obtain ⟨i, ia, rfl⟩ := List.exists_cons_of_length_eq_add_one h
    rw [List.cons_append, List.cons_append, flat, flat, ih ia (Nat.succ.inj h), prodL_append, Nat.add_mul,
      Nat.mul_assoc, Nat.add_assoc]

theorem mul_add_div {b c : Nat} (a : Nat) (hc : c < b) : (a * b + c) / b = a := by
  rw [Nat.mul_comm, Nat.mul_add_div (Nat.zero_lt_of_lt hc), Nat.div_eq_of_lt hc, Nat.add_zero]

theorem mul_add_inj {b a c a' c' : Nat} (hc : c < b) (hc' : c' < b) (h : a * b + c = a' * b + c') : a = a' ∧ c = c' :=
  ⟨by rw [← mul_add_div a hc, h, mul_add_div a' hc'], by rw [← Nat.mul_add_mod_of_lt hc, h, Nat.mul_add_mod_of_lt hc']⟩

theorem mul_add_lt {a L S off : Nat} (ha : a < L) (ho : off < S) : a * S + off < L * S :=
  Nat.lt_of_lt_of_le (Nat.add_lt_add_left ho _) (Nat.succ_mul a S ▸ Nat.mul_le_mul_right S ha)

theorem block_mid {n S j K : Nat} (I : Nat) (hj : j < n) (hK : K < S) : ((I * n + j) * S + K) / S % n = j := by
  rw [mul_add_div _ hK, Nat.mul_add_mod_of_lt hj]

theorem block_div {n S j K : Nat} (I : Nat) (hj : j < n) (hK : K < S) : ((I * n + j) * S + K) / (n * S) = I := by
  rw [Nat.mul_comm n, ← Nat.div_div_eq_div_mul, mul_add_div _ hK, mul_add_div _ hj]

theorem block_lt {L n S I j K : Nat} (hI : I < L) (hj : j < n) (hK : K < S) : (I * n + j) * S + K < L * n * S :=
  mul_add_lt (mul_add_lt hI hj) hK

theorem block_eq_iff {n S j K : Nat} (I q : Nat) (hj : j < n) (hK : K < S) :
    (I * n + j) * S + K = q ↔ I = q / (n * S) ∧ j = q / S % n ∧ K = q % S := by
  constructor
  · rintro rfl
    exact ⟨(block_div I hj hK).symm, (block_mid I hj hK).symm, (Nat.mul_add_mod_of_lt hK).symm⟩
  · rintro ⟨rfl, rfl, rfl⟩
    rw [Nat.mul_comm n S, ← Nat.div_div_eq_div_mul, Nat.div_add_mod', Nat.div_add_mod']

theorem exists_block {L n S q : Nat} (h : q < L * n * S) : ∃ I < L, ∃ j < n, ∃ K < S, q = (I * n + j) * S + K := by
  have hS : 0 < S := Nat.pos_of_ne_zero fun h0 => by rw [h0, Nat.mul_zero] at h; exact Nat.not_lt_zero _ h
  have hx : q / S < L * n := Nat.div_lt_of_lt_mul (Nat.mul_comm _ S ▸ h)
  have hn : 0 < n := Nat.pos_of_ne_zero fun h0 => by rw [h0, Nat.mul_zero] at hx; exact Nat.not_lt_zero _ hx
  exact ⟨q / S / n, Nat.div_lt_of_lt_mul (Nat.mul_comm _ n ▸ hx), q / S % n, Nat.mod_lt _ hn, q % S, Nat.mod_lt _ hS,
    by rw [Nat.div_add_mod', Nat.div_add_mod']⟩

/-- the same bound in the spelling `I·S·n + j·S + K` of the C loops -/
theorem block_lt' {L n S I j K : Nat} (hI : I < L) (hj : j < n) (hK : K < S) : I * S * n + j * S + K < L * (n * S) := by
  have h := block_lt hI hj hK
  rwa [Nat.add_mul, Nat.mul_right_comm, Nat.mul_assoc L] at h

end PsV.Permute
