import PsV.Proofs.ModeProd
/-!
# C17: `grideval` is the loop of mode products with the transposed basis matrices

`gridSpec` is the nested sum `specSum`; with row-major strides it is the flat sum
`Σ_q coef[q] · Π_d B_d(digit_d q, x_d)` over every stored coefficient (`gridSpec_flat`: the n-dimensional tensor-product
evaluation sum, in the form C15 uses for `specEval`).  `gridLoop` is `modeLoop` on `gridBases`, the tensor it starts from lists the non-zero coefficients at their index
tuples (`mem_coefTensor`), and the weight `Π_d bᵀ_d[c_d, g_d]` of coefficient `c` at grid index `g` is the basis
product at the grid point (`matProd_gridBases`).  So `modeLoop_get` gives value and pattern of the result (`gridEval_flat`).
-/
set_option linter.unusedSectionVars false
namespace PsV
open PsV.Permute
section
variable {α : Type} [A : Arith α]

/-- the matrices `grideval` multiplies with: `transpose(bsplinebasis(knots[i], …, coords[i], …))` -/
def gridBases (dims : List (Dim α)) (coords : List (List α)) : List (Mat α) :=
  List.zipWith (fun d xs => (bsplineBasis d.knots d.nknots d.order xs).transpose) dims coords

theorem gridLoop_eq_modeLoop : ∀ (dims : List (Dim α)) (coords : List (List α)) (i : Nat) (nd : NdSparse α),
    coords.length = dims.length → gridLoop dims coords i nd = modeLoop (gridBases dims coords) i nd
  | [], [], _, _, _ => rfl
  | [], _ :: _, _, _, h => by simp at h
  | _ :: _, [], _, _, h => by simp at h
  | d :: ds, xs :: xss, i, nd, h => by
    simp only [gridLoop, gridBases, List.zipWith_cons_cons, modeLoop]
    cases sliceMultiply nd (bsplineBasis d.knots d.nknots d.order xs).transpose i with
    | none => rfl
    | some nd' => exact gridLoop_eq_modeLoop ds xss (i+1) nd' (Nat.succ.inj h)

end

section
variable {α : Type} [Field α] [LinearOrder α] [A : Arith α] [L : LawfulArith α]

/-- `Π_d B_d(idx_d, x_d)` with the right-continuous basis of `grideval` -/
def gridBasisProd : List (Dim α) → List α → List Nat → α
  | d :: ds, x :: xs, i :: is => Bind (indR d.knots x) d.knots x d.order i * gridBasisProd ds xs is
  | _, _, _ => 1

theorem gridRows_shape (dims : List (Dim α)) (xs : List α) (h : xs.length = dims.length) :
    (gridRows dims xs).map Prod.fst = dims.map (·.stride) ∧
      (gridRows dims xs).map (fun r => r.2.length) = dims.map (·.naxes) := by
  induction dims generalizing xs with
  | nil => rw [List.length_eq_zero_iff.mp h]; exact ⟨rfl, rfl⟩
  | cons d ds ih =>
    cases xs with
    | nil => simp at h
    | cons x xs =>
      obtain ⟨h1, h2⟩ := ih xs (Nat.succ.inj h)
      simp only [gridRows, List.map_cons, h1, h2, List.length_map, List.length_range, and_self]

theorem rowProd_gridRows (dims : List (Dim α)) (xs : List α) (idx : List Nat)
    (h : IdxIn idx (dims.map (·.naxes))) :
    rowProd (gridRows dims xs) idx = gridBasisProd dims xs idx := by
  induction dims generalizing xs idx with
  | nil => cases xs <;> cases idx <;> rfl
  | cons d ds ih =>
    cases xs with
    | nil => cases idx <;> rfl
    | cons x xs =>
      cases idx with
      | nil => exact absurd h.1 (by simp)
      | cons i is =>
        rw [List.map_cons, idxIn_cons] at h
        rw [gridRows, rowProd, gridBasisProd, ih xs is h.2, List.getD_eq_getElem?_getD, List.getElem?_map,
          List.getElem?_range h.1, Option.map_some, Option.getD_some]

theorem gridSpec_flat (dims : List (Dim α)) (coef : Int → α) (xs : List α)
    (hne : dims ≠ []) (hs : StridesRowMajor dims) (hx : xs.length = dims.length) :
    gridSpec dims coef xs
      = ∑ q ∈ Finset.range (prodL (dims.map (·.naxes))),
          coef (q : Int) * gridBasisProd dims xs (digits (dims.map (·.naxes)) q) := by
  obtain ⟨h1, h2⟩ := gridRows_shape dims xs hx
  have hrow : ∀ q ∈ Finset.range (prodL (dims.map (·.naxes))),
      rowProd (gridRows dims xs) (digits (dims.map (·.naxes)) q)
        = gridBasisProd dims xs (digits (dims.map (·.naxes)) q) :=
    fun q hq => rowProd_gridRows dims xs _ (digits_inBox _ q (Nat.zero_lt_of_lt (Finset.mem_range.mp hq)))
  have hA := LawfulArith.eq_ofField (α := α) (A := A)
  subst hA
  unfold gridSpec
  rw [specSum_flat coef _ (by rw [h1, h2]; exact hs.eq_rowMajor), h2]
  simp only [of_one, one_mul, zero_add]
  exact Finset.sum_congr rfl fun q hq => by rw [hrow q hq, mul_comm]

theorem specSumRow_eq_rangeSum (inner : α → Int → α) (s : Nat) (p : α) (fs : List α) (pos : Int) :
    specSumRow inner s p fs pos
      = ∑ k ∈ Finset.range fs.length, inner (p * fs.getD k 0) (pos + (k : Int) * s) := by
  have hA := LawfulArith.eq_ofField (α := α) (A := A)
  subst hA
  exact specSumRow_eq_sum inner s p fs pos

/-- one-dimensional sum against a unit coefficient vector picks one entry of the row (for the table that separates the
two conventions at an `(order+1)`-fold knot) -/
theorem specSum_1d_unit (s : Nat) (fs : List α) (a : Nat) (ha : a < fs.length) (hs : 0 < s) :
    specSum (fun p : Int => if p = (a : Int) * s then (A.one : α) else A.zero) [(s, fs)] A.one 0
      = fs.getD a 0 := by
  simp only [specSum, specSumRow_eq_rangeSum, L.mul_eq, L.one_eq, L.zero_eq, one_mul, zero_add]
  rw [Finset.sum_eq_single a]
  · simp
  · intro b _ hb
    have : ¬ ((b : Int) * s = (a : Int) * s) := by
      intro h
      have hs' : ((s : Nat) : Int) ≠ 0 := by omega
      exact hb (by exact_mod_cast mul_right_cancel₀ hs' h)
    simp [this]
  · intro h; exact absurd (Finset.mem_range.mpr ha) h

open Finset

theorem gridBases_shape (dims : List (Dim α)) (coords : List (List α)) (hlen : coords.length = dims.length)
    (hax : ∀ d ∈ dims, d.naxes = d.nknots - d.order - 1) :
    List.Forall₂ (fun (b : Mat α) r => b.nrow = r) (gridBases dims coords) (dims.map (·.naxes)) ∧
      (gridBases dims coords).map (fun b => b.ncol) = coords.map List.length := by
  induction dims generalizing coords with
  | nil =>
    rw [List.length_eq_zero_iff.mp hlen]
    exact ⟨List.Forall₂.nil, rfl⟩
  | cons d ds ih =>
    cases coords with
    | nil => simp at hlen
    | cons c cs =>
      obtain ⟨h1, h2⟩ := ih cs (Nat.succ.inj hlen) (fun d' hd' => hax d' (List.mem_cons_of_mem _ hd'))
      simp only [gridBases, List.zipWith_cons_cons, List.map_cons] at h1 h2 ⊢
      exact ⟨List.Forall₂.cons (hax d List.mem_cons_self).symm h1, by rw [h2]; rfl⟩

theorem matProd_gridBases (dims : List (Dim α)) (coords : List (List α)) (g : List Nat) (xs : List α)
    (c : List Nat) (hlen : coords.length = dims.length) (hc : c.length = dims.length)
    (hg : gridPoint coords g = some xs) :
    matProd (gridBases dims coords) c g = gridBasisProd dims xs c := by
  revert dims c
  refine gridPoint_induct ?_ ?_ coords g xs hg
  · intro dims c hlen hc
    rw [List.length_eq_zero_iff.mp hlen.symm] at hc ⊢
    rw [List.length_eq_zero_iff.mp hc]
    rfl
  · intro co cs g0 gs x xs' hco _ ih dims c hlen hc
    cases dims with
    | nil => simp at hlen
    | cons d ds =>
      cases c with
      | nil => simp at hc
      | cons c0 c' =>
        simp only [gridBases, List.zipWith_cons_cons, matProd, gridBasisProd] at ih ⊢
        rw [ih ds c' (Nat.succ.inj hlen) (Nat.succ.inj hc)]
        simp only [Mat.transpose, basis_val, hco]

theorem coefTensor_sum (dims : List (Dim α)) (coef : Int → α) (hs : StridesRowMajor dims) (hne : dims ≠ [])
    (f : List Nat → α) :
    ((coefTensor dims coef).entries.map fun e => f e.1 * e.2).sum
      = ∑ q ∈ range (prodL (dims.map (·.naxes))), coef (q : Int) * f (digits (dims.map (·.naxes)) q) := by
  rw [coefTensor_eq]
  simp only
  rw [sum_filterMap_isZero _ (fun i => coef (Int.ofNat i)) _ _ (fun g hg => by simp only [hg, mul_zero]),
    tableSize_eq hs hne]
  refine Finset.sum_congr rfl fun q hq => ?_
  rw [hs.eq_rowMajor, decodeStrides_rowMajor _ _ (mem_range.mp hq), mul_comm]
  rfl

/-- **`grideval` by the theorem on sequences of mode products**: value (the flat tensor-product sum over every stored
coefficient) and pattern (the grid points where that sum has a non-zero term) of the result. -/
theorem gridEval_flat (dims : List (Dim α)) (coef : Int → α) (coords : List (List α))
    (hwf : GridTableWF dims) (hlen : coords.length = dims.length) :
    ∃ nd, gridEval dims coef coords = some nd ∧ nd.ranges = coords.map List.length ∧ nd.WF ∧
      ∀ g xs, gridPoint coords g = some xs →
        nd.get g = ∑ q ∈ range (prodL (dims.map (·.naxes))),
            coef (q : Int) * gridBasisProd dims xs (digits (dims.map (·.naxes)) q) ∧
        (nd.Lists g ↔ ∃ c, IdxIn c (dims.map (·.naxes)) ∧
          coef (posL dims c : Nat) * gridBasisProd dims xs c ≠ 0) := by
  obtain ⟨hrow, hcol⟩ := gridBases_shape dims coords hlen hwf.naxes_eq
  have hmem := mem_coefTensor dims coef hwf.strides hwf.ne
  obtain ⟨nd, h1, h2, h3, h4, h5⟩ := modeLoop_get (gridBases dims coords) (dims.map (·.naxes))
    (coefTensor dims coef).entries hrow (fun e he => ((hmem e).mp he).1)
  have hT : coefTensor dims coef = ⟨dims.map (·.naxes), (coefTensor dims coef).entries⟩ := by
    rw [← coefTensor_ranges dims coef]
  rw [hcol] at h2
  refine ⟨nd, ?_, h2, h3, fun g xs hg => ?_⟩
  · rw [gridEval_eq_gridLoop dims coef coords hlen, gridLoop_eq_modeLoop dims coords 0 _ hlen, hT]
    exact h1
  · have hv : IdxIn g nd.ranges := h2 ▸ gridPoint_idxIn coords g xs hg
    have hw : ∀ c, IdxIn c (dims.map (·.naxes)) → matProd (gridBases dims coords) c g = gridBasisProd dims xs c :=
      fun c hc => matProd_gridBases dims coords g xs c hlen (by simpa using hc.1) hg
    constructor
    · rw [h4 g hv, coefTensor_sum dims coef hwf.strides hwf.ne fun c => matProd (gridBases dims coords) c g]
      exact Finset.sum_congr rfl fun q hq => by
        rw [hw _ (digits_inBox _ q (Nat.zero_lt_of_lt (mem_range.mp hq)))]
    · rw [h5 g]
      constructor
      · rintro ⟨_, e, he, hne⟩
        obtain ⟨hc, hv, hnz⟩ := (hmem e).mp he
        rw [hw _ hc] at hne
        exact ⟨e.1, hc, by rw [hv]; exact mul_ne_zero hnz hne⟩
      · rintro ⟨c, hc, hne⟩
        obtain ⟨hcoef, hprod⟩ := mul_ne_zero_iff.mp hne
        exact ⟨hv, (c, coef (posL dims c : Nat)), (hmem _).mpr ⟨hc, rfl, hcoef⟩, by rw [hw _ hc]; exact hprod⟩

end
end PsV
