import PsV.Model.Sync
/-! The part of C12 that knows nothing of threads: the arithmetic of blocks of workers (`Cfg.blocks`, `Cfg.active`) and the
sequential selection `flat` (what the result scan has chosen after looking at the first `K` trial indices; `selectSeq` is
`flat` at `K = m`), with its specification `SelInv` and where the chosen index lies relative to a prefix that has or has
not chosen (`chosen_ge_of_flat_none`, `chosen_lt_of_flat_some`).  `Sync` (the hand-shake) and `WalkBlocks` (the result loop of
`walk_descents`, C11) both stand on it. -/
namespace PsV.Sync

theorem lt_blocks_iff (c : Cfg) (hn : 0 < c.n) (i : Nat) : i < c.blocks ↔ i * c.n < c.m := by
  unfold Cfg.blocks
  rw [show i < (c.m + c.n - 1) / c.n ↔ i + 1 ≤ (c.m + c.n - 1) / c.n from Iff.rfl,
      Nat.le_div_iff_mul_le hn, Nat.succ_mul]
  generalize i * c.n = a
  omega

theorem active_le (c : Cfg) (i : Nat) : c.active i ≤ c.n := Nat.min_le_left _ _

theorem active_spec (c : Cfg) (i j : Nat) : j < c.active i ↔ j < c.n ∧ i * c.n + j < c.m := by
  simp only [Cfg.active]; omega

theorem blk_add_active (c : Cfg) (i : Nat) (h : i * c.n < c.m) : i * c.n + c.active i = min ((i + 1) * c.n) c.m := by
  unfold Cfg.active
  rw [Nat.succ_mul]
  generalize i * c.n = a at *
  omega

theorem selStep_some (less : Nat → Nat → Bool) (m : Nat) (acc : Acc) (k : Nat) (v : Option Nat)
    (h : acc.2.isSome = true) : selStep less m acc k v = acc := by
  unfold selStep
  cases h2 : acc.2 with
  | none => simp [h2] at h
  | some x => rfl

theorem flat_zero (less : Nat → Nat → Bool) (m : Nat) : flat less m 0 = (none, none) := rfl

theorem flat_succ (less : Nat → Nat → Bool) (m K : Nat) :
    flat less m (K+1) = selStep less m (flat less m K) K (some K) := by
  unfold flat
  rw [List.range_succ, List.foldl_append]
  rfl

theorem flat_stable (less : Nat → Nat → Bool) (m K : Nat) (h : (flat less m K).2.isSome = true) :
    ∀ d, flat less m (K + d) = flat less m K := by
  intro d
  induction d with
  | zero => rfl
  | succ d ih =>
    rw [← Nat.add_assoc, flat_succ, ih, selStep_some _ _ _ _ _ h]

theorem flat_min_final (less : Nat → Nat → Bool) (m K : Nat)
    (h : K < m → (flat less m (min K m)).2.isSome = true) : flat less m (min K m) = flat less m m := by
  rcases Nat.lt_or_ge K m with hlt | hge
  · have := flat_stable less m (min K m) (h hlt) (m - min K m)
    rw [Nat.add_sub_cancel' (Nat.min_le_right K m)] at this
    exact this.symm
  · rw [Nat.min_eq_right hge]

theorem scan_flat_aux (less : Nat → Nat → Bool) (m K : Nat) (val : Nat → Option Nat) :
    ∀ a, (∀ j, j < a → val j = some (K + j)) →
      (List.range a).foldl (fun acc j => selStep less m acc (K + j) (val j)) (flat less m K)
        = flat less m (K + a) := by
  intro a
  induction a with
  | zero => intro _; rfl
  | succ a ih =>
    intro h
    rw [List.range_succ, List.foldl_append, ih (fun j hj => h j (Nat.lt_succ_of_lt hj))]
    simp only [List.foldl_cons, List.foldl_nil]
    rw [h a (Nat.lt_succ_self a), ← Nat.add_assoc, flat_succ]

theorem scan_flat (c : Cfg) (val : Nat → Option Nat) (i : Nat)
    (h : ∀ j, j < c.active i → val j = some (i * c.n + j)) :
    scan c val i (flat c.less c.m (i * c.n)) = flat c.less c.m (i * c.n + c.active i) :=
  scan_flat_aux c.less c.m (i * c.n) val (c.active i) h

/-- what the sequential scan has established after looking at trial indices `0..K-1`, for `K ≥ 1` (index 0, the
    reference, has been seen; `flat … 0` is `(none, none)`, `flat_zero`) -/
def SelInv (less : Nat → Nat → Bool) (m K : Nat) (acc : Acc) : Prop :=
  (acc = (some 0, none) ∧ ∀ j, 1 ≤ j → j < K → less j 0 = false ∧ j ≠ m - 1) ∨
  (∃ k, 1 ≤ k ∧ k < K ∧ acc = (some 0, some (some k, less k 0)) ∧ (less k 0 = true ∨ k = m - 1) ∧
      ∀ j, 1 ≤ j → j < k → less j 0 = false)

theorem flat_selInv (less : Nat → Nat → Bool) (m : Nat) : ∀ K, 1 ≤ K → SelInv less m K (flat less m K) := by
  intro K hK
  induction K with
  | zero => omega
  | succ K ih =>
    rw [flat_succ]
    rcases Nat.eq_zero_or_pos K with h0 | hpos
    · subst h0
      left
      refine ⟨by simp [flat, selStep], ?_⟩
      intro j h1 h2; omega
    · rcases ih hpos with ⟨hacc, hall⟩ | ⟨k, hk1, hk2, hacc, hor, hall⟩
      · rw [hacc]
        have hK0 : K ≠ 0 := by omega
        by_cases hc : (less K 0 || K == m - 1) = true
        · right
          refine ⟨K, hpos, Nat.lt_succ_self K, ?_, ?_, ?_⟩
          · simp [selStep, hK0, hc]
          · simpa using hc
          · intro j h1 h2; exact (hall j h1 h2).1
        · left
          have hc' : less K 0 = false ∧ K ≠ m - 1 := by simpa using hc
          refine ⟨?_, ?_⟩
          · simp [selStep, hK0, hc'.1, hc'.2]
          · intro j h1 h2
            rcases Nat.lt_succ_iff_lt_or_eq.mp h2 with h3 | h3
            · exact hall j h1 h3
            · subst h3; exact hc'
      · right
        refine ⟨k, hk1, Nat.lt_succ_of_lt hk2, ?_, hor, hall⟩
        rw [hacc]; rfl

theorem selectSeq_spec (less : Nat → Nat → Bool) (m : Nat) (hm : 2 ≤ m) :
    ∃ k, 1 ≤ k ∧ k < m ∧ selectSeq less m = (some 0, some (some k, less k 0)) ∧
      (less k 0 = true ∨ k = m - 1) ∧ ∀ j, 1 ≤ j → j < k → less j 0 = false ∧ j ≠ m - 1 := by
  rcases flat_selInv less m m (by omega) with ⟨_, hall⟩ | ⟨k, hk1, hk2, hacc, hor, hall⟩
  · exact absurd rfl (hall (m-1) (by omega) (by omega)).2
  · exact ⟨k, hk1, hk2, hacc, hor, fun j h1 h2 => ⟨hall j h1 h2, by omega⟩⟩

theorem chosen_ge_of_flat_none (less : Nat → Nat → Bool) (m K k : Nat) (hnone : (flat less m K).2 = none)
    (hk1 : 1 ≤ k) (hk : less k 0 = true ∨ k = m - 1) : K ≤ k := by
  apply Classical.byContradiction
  intro hlt
  have hlt : k < K := by omega
  rcases flat_selInv less m K (by omega) with ⟨_, hall⟩ | ⟨k', _, _, hacc, _⟩
  · have := hall k hk1 hlt
    rcases hk with hk | hk
    · rw [this.1] at hk; cases hk
    · exact this.2 hk
  · rw [hacc] at hnone; cases hnone

theorem chosen_lt_of_flat_some (less : Nat → Nat → Bool) (m K k : Nat) (f : Bool) (hK : K ≤ m)
    (hsome : (flat less m K).2.isSome = true) (hsel : selectSeq less m = (some 0, some (some k, f))) : k < K := by
  have hK1 : 1 ≤ K := by
    rcases Nat.eq_zero_or_pos K with h0 | h0
    · subst h0; simp [flat_zero] at hsome
    · exact h0
  have hst := flat_stable less m K hsome (m - K)
  have e : K + (m - K) = m := by omega
  rw [e] at hst
  rcases flat_selInv less m K hK1 with ⟨hacc, _⟩ | ⟨k', _, hk', hacc, _⟩
  · rw [hacc] at hsome; cases hsome
  · have : selectSeq less m = flat less m K := hst
    rw [this, hacc] at hsel
    have : k' = k := by
      have := congrArg (fun a => a.2) hsel
      simp at this
      exact this.1
    omega

end PsV.Sync
