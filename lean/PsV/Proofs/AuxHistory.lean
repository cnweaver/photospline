import PsV.Proofs.AuxKeys
import PsV.Proofs.AuxFits
/-!
Histories of operations on the auxiliary store (C16).  `Accepted` stores are closed under the operations of the ordered map
(`accepted_put`, `accepted_del`, `accepted_writeKey`).  A FITS round trip of an accepted store is an operation of the
ordered map like the others: it pads the values (`padStore`, by `fitsTrip_accepted`), keeps keys, order and acceptance
and is idempotent.  With that, one step of the run is one step of the specification (`step_spec`), both invariants are
invariants of the specification (`nodup_accepted_apply`), and a run is the fold of `Spec.apply` (`runOps_spec`).  Nothing here looks
at the text of a card.
-/
namespace PsV.Aux

theorem plainVal_showInt (n : Int) : PlainVal (showInt n) := by
  have hd : ∀ m, PlainVal (showNat m) := fun m c hc =>
    (alnum_facts c (Bool.or_eq_true_iff.mpr (Or.inr (showNat_allDigits m c hc)))).1
  unfold showInt
  split
  · exact List.forall_mem_cons.mpr ⟨by decide, hd _⟩
  · exact hd _

theorem accepted_put (m : Store) (k v : Str) (h : Accepted m) (hv : validate k v = none) : Accepted (Spec.put m k v) := by
  unfold Spec.put
  split
  · intro e he
    obtain ⟨x, hx, rfl⟩ := List.mem_map.mp he
    split
    · next hk => exact eq_of_beq hk ▸ hv
    · exact h x hx
  · exact fun e he => (List.mem_append.mp he).elim (h e) fun he => List.mem_singleton.mp he ▸ hv

theorem accepted_del (m : Store) (k : Str) (h : Accepted m) : Accepted (Spec.del m k) :=
  fun e he => h e (List.mem_filter.mp he).1

theorem accepted_writeKey (st : Store) (k v : Str) (hn : NoDupKeys st) (h : Accepted st) : Accepted (writeKey st k v).2 := by
  rw [writeKey_snd st k v hn]
  split
  · next hv => exact accepted_put st k v h hv
  · exact h

theorem keys_padStore (st : Store) : keys (padStore st) = keys st := by
  rw [keys, padStore, List.map_map]; rfl

theorem rstrip_padStore (st : Store) :
    (padStore st).map (fun e => (e.1, rstrip e.2)) = st.map (fun e => (e.1, rstrip e.2)) := by
  rw [padStore, List.map_map]
  exact List.map_congr_left fun e _ => congrArg (e.1, ·) (rstrip_pad e.2 _)

theorem getAux_padStore (st : Store) (k : Str) :
    getAux (padStore st) k = (getAux st k).map fun v => v ++ blanks (padOf k v) := by
  induction st with
  | nil => rfl
  | cons e r ih =>
    obtain ⟨a, b⟩ := e
    show getAux ((a, b ++ blanks (padOf a b)) :: padStore r) k = _
    rw [getAux, getAux]
    split
    · next hk => rw [eq_of_beq hk]; rfl
    · exact ih

theorem countQuotes_pad (v : Str) (p : Nat) :
    (v ++ blanks p).length + countQuotes (v ++ blanks p) = v.length + countQuotes v + p := by
  rw [← length_dbl, ← length_dbl, length_dbl_pad]

theorem sub_add_sub_eq_zero (x n : Nat) : x - (n + (x - n)) = 0 :=
  Nat.sub_eq_zero_of_le (Nat.add_comm .. ▸ Nat.le_add_of_sub_le (Nat.le_refl _))

theorem padOf_pad (k v : Str) : padOf k (v ++ blanks (padOf k v)) = 0 := by
  rw [padOf, countQuotes_pad, padOf]
  generalize v.length + countQuotes v = n
  split
  · exact sub_add_sub_eq_zero 8 n
  · rcases Nat.le_total (8 - n) (67 - k.length - n) with h | h
    · rw [Nat.min_eq_left h]; exact Nat.min_eq_zero_iff.mpr (Or.inl (sub_add_sub_eq_zero 8 n))
    · rw [Nat.min_eq_right h]; exact Nat.min_eq_zero_iff.mpr (Or.inr (sub_add_sub_eq_zero _ n))

theorem padStore_idem (st : Store) : padStore (padStore st) = padStore st := by
  rw [padStore, padStore, List.map_map]
  exact List.map_congr_left fun e _ => by
    show (e.1, e.2 ++ blanks (padOf e.1 e.2) ++ blanks (padOf e.1 (e.2 ++ blanks (padOf e.1 e.2)))) = _
    rw [padOf_pad]; exact congrArg _ (List.append_nil _)

theorem accepted_padStore (st : Store) (h : Accepted st) : Accepted (padStore st) := by
  intro e he
  obtain ⟨x, hx, rfl⟩ := List.mem_map.mp he
  obtain ⟨hres, hedge, hwr, hshort, hlong, hp⟩ := (validate_none_iff x.1 x.2).mp (h x hx)
  refine (validate_none_iff _ _).mpr
    ⟨hres, hedge, hwr, fun hl => ?_, fun hl => ?_, plainVal_append.mpr ⟨hp, plainVal_blanks _⟩⟩
  · obtain ⟨ha, hd⟩ := hshort hl
    refine ⟨ha, ?_⟩
    show (x.2 ++ blanks (padOf x.1 x.2)).length + countQuotes (x.2 ++ blanks (padOf x.1 x.2)) ≤ 68
    rw [← length_dbl, length_dbl_pad]
    exact add_padOf_short hl (length_dbl _ ▸ hd)
  · obtain ⟨hs, h66, hfit⟩ := hlong hl
    refine ⟨hs, h66, ?_⟩
    show x.1.length + ((x.2 ++ blanks (padOf x.1 x.2)).length + countQuotes (x.2 ++ blanks (padOf x.1 x.2))) ≤ 67
    rw [← length_dbl, length_dbl_pad]
    exact add_padOf_long hl (length_dbl _ ▸ hfit)

/-- the store after a history of operations (what `psvdriver C16` folds over its input lines) -/
def runOps (st : Store) (ops : List Op) : Store := ops.foldl (fun s op => (step s op).2) st

/-- the specification of one operation on the insertion-ordered map: an accepted write is `Spec.put`, a removal
    `Spec.del`, a FITS round trip pads the values, everything else (rejected writes, lookups, typed reads) leaves
    the map alone -/
def Spec.apply (m : Store) : Op → Store
  | .writeStr k v | .writeText k v => if validate k v = none then Spec.put m k v else m
  | .writeInt k n => if validate k (showInt n) = none then Spec.put m k (showInt n) else m
  | .remove k => Spec.del m k
  | .fits => padStore m
  | _ => m

def isFits : Op → Bool
  | .fits => true
  | _ => false

theorem step_fits (s : Store) (ha : Accepted s) : step s .fits = (.fitsOk, padStore s) := by
  rw [step, fitsTrip_accepted s ha]

theorem step_spec (s : Store) (op : Op) (hn : NoDupKeys s) (hf : Accepted s ∨ isFits op = false) :
    (step s op).2 = Spec.apply s op := by
  cases op with
  | writeStr k v => exact writeKey_snd s k v hn
  | writeText k v => exact writeKey_snd s k v hn
  | writeInt k n => exact writeKey_snd s k _ hn
  | remove k => exact congrArg Prod.snd (removeKey_eq s k hn)
  | fits => exact hf.elim (fun ha => congrArg Prod.snd (step_fits s ha)) nofun
  | _ => rfl

theorem nodup_padStore (s : Store) (hn : NoDupKeys s) : NoDupKeys (padStore s) := by
  rw [NoDupKeys, keys_padStore]; exact hn

/-- the run inherits both through `step_spec` -/
theorem nodup_accepted_apply (s : Store) (op : Op) :
    (NoDupKeys s → NoDupKeys (Spec.apply s op)) ∧ (Accepted s → Accepted (Spec.apply s op)) := by
  have hw : ∀ k v, (NoDupKeys s → NoDupKeys (if validate k v = none then Spec.put s k v else s)) ∧
      (Accepted s → Accepted (if validate k v = none then Spec.put s k v else s)) := fun k v => by
    split
    · next hv => exact ⟨nodup_put s k v, fun ha => accepted_put s k v ha hv⟩
    · exact ⟨id, id⟩
  cases op with
  | writeStr k v => exact hw k v
  | writeText k v => exact hw k v
  | writeInt k n => exact hw k _
  | remove k => exact ⟨nodup_del s k, accepted_del s k⟩
  | fits => exact ⟨nodup_padStore s, accepted_padStore s⟩
  | _ => exact ⟨id, id⟩

theorem runOps_spec (st : Store) (ops : List Op) (hn : NoDupKeys st)
    (h : Accepted st ∨ ∀ op ∈ ops, isFits op = false) :
    runOps st ops = ops.foldl Spec.apply st ∧ NoDupKeys (runOps st ops) ∧ (Accepted st → Accepted (runOps st ops)) := by
  induction ops generalizing st with
  | nil => exact ⟨rfl, hn, id⟩
  | cons op r ih =>
    have e : (step st op).2 = Spec.apply st op := step_spec st op hn (h.imp_right fun hf => hf op List.mem_cons_self)
    obtain ⟨h1, h2, h3⟩ := ih (step st op).2 (e ▸ (nodup_accepted_apply st op).1 hn)
      (h.imp (fun ha => e ▸ (nodup_accepted_apply st op).2 ha) fun hf o ho => hf o (List.mem_cons_of_mem _ ho))
    exact ⟨h1.trans (congrArg (r.foldl Spec.apply) e), h2, fun ha => h3 (e ▸ (nodup_accepted_apply st op).2 ha)⟩
end PsV.Aux
