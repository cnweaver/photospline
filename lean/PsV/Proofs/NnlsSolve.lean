import PsV.Proofs.Nnls
import PsV.Proofs.NnlsBridge
import Mathlib.Data.List.GetD
/-!
# The exact solve and the certificate

`solveOn` and `spdCert` build an augmented system `sysMat` with entries `sysF`, run `gaussJordan` on it and (the solve)
scatter the last column back along the passive set `S`.  Through `gj_bridge` the run is `fgj` on `sysF`, so what
`NnlsElim` proves of `fgj` carries over once sums over `[0,n)` are re-indexed along `S` (`sum_reindex`): the solve is
correct where it returns (`solveOn_correct`), the certificate accepts exactly the positive definite matrices
(`spdCert_iff_spd`), and on those every principal subsystem is positive definite (`pdOn_sub`), so every passive-set solve
returns (`solveOn_spd`); `exactEnv_exact` is what the state machine needs of all this.
-/
namespace PsV.Nnls
open Finset

/-- the augmented matrix `[A_SS | b_S]` that `solveOn` (and, with `S = range n`, `b = 0`, `spdCert`) builds -/
def sysMat (A : Mat) (b : Vec) (S : List ℕ) : Array (Array ℚ) :=
  (S.map fun r => ((S.map fun c => A r c) ++ [b r]).toArray).toArray

theorem sysMat_congr {A A' : Mat} (b : Vec) {S : List ℕ} (h : ∀ r ∈ S, ∀ c ∈ S, A r c = A' r c) :
    sysMat A b S = sysMat A' b S :=
  congrArg List.toArray (List.map_congr_left fun r hr => by rw [List.map_congr_left fun c hc => h r hr c hc])

/-- its entries -/
def sysF (A : Mat) (b : Vec) (S : List ℕ) : FM := fun r j =>
  if j < S.length then A (S.getD r 0) (S.getD j 0) else b (S.getD r 0)

theorem getD_map_list {α β : Type} (g : α → β) (S : List α) (r : ℕ) (d : α) (d' : β) (h : r < S.length) :
    (S.map g).getD r d' = g (S.getD r d) :=
  getD_map_of_lt g h d d'

theorem sysMat_rel (A : Mat) (b : Vec) (S : List ℕ) : Rel S.length (sysMat A b S) (sysF A b S) := by
  have hrow : ∀ r, r < S.length → (sysMat A b S).getD r #[]
      = ((S.map fun c => A (S.getD r 0) c) ++ [b (S.getD r 0)]).toArray := fun r hr => by
    rw [sysMat, Array.getD_toArray, getD_map_list _ S r 0 #[] hr]
  refine ⟨⟨by simp [sysMat], fun r hr => by rw [hrow r hr]; simp⟩, fun r j hr hj => ?_⟩
  unfold ent sysF
  rw [hrow r hr, Array.getD_toArray]
  by_cases hjk : j < S.length
  · rw [if_pos hjk, List.getD_eq_getElem?_getD, List.getElem?_append_left (by rwa [List.length_map]),
      ← List.getD_eq_getElem?_getD, getD_map_list _ S j 0 0 hjk]
  · obtain rfl : j = S.length := Nat.le_antisymm hj (Nat.le_of_not_lt hjk)
    rw [if_neg hjk, List.getD_eq_getElem?_getD, List.getElem?_append_right (by rw [List.length_map]),
      List.length_map, Nat.sub_self]
    rfl

def foldSet (L : List (ℕ × ℚ)) (a : Array ℚ) : Array ℚ := L.foldl (fun a p => a.setIfInBounds p.1 p.2) a

theorem foldSet_size : ∀ (L : List (ℕ × ℚ)) (a : Array ℚ), (foldSet L a).size = a.size := by
  intro L
  induction L with
  | nil => intro a; rfl
  | cons q L ih => intro a; unfold foldSet; rw [List.foldl_cons]; exact (ih _).trans (by simp)

theorem at0_set_ne {a : Array ℚ} {i j : ℕ} (v : ℚ) (h : i ≠ j) : at0 (a.setIfInBounds i v) j = at0 a j := by
  simp [at0, Array.getD_eq_getD_getElem?, h]

theorem at0_set_self {a : Array ℚ} {i : ℕ} (v : ℚ) (h : i < a.size) : at0 (a.setIfInBounds i v) i = v := by
  simp [at0, Array.getD_eq_getD_getElem?, h]

theorem foldSet_off : ∀ (L : List (ℕ × ℚ)) (a : Array ℚ) (i : ℕ), i ∉ L.map Prod.fst →
    at0 (foldSet L a) i = at0 a i
  | [], _, _, _ => rfl
  | q :: L, a, i, hi => by
    rw [List.map_cons, List.mem_cons, not_or] at hi
    exact (foldSet_off L _ i hi.2).trans (at0_set_ne q.2 (Ne.symm hi.1))

theorem foldSet_on : ∀ (L : List (ℕ × ℚ)) (a : Array ℚ) (p : ℕ × ℚ), (L.map Prod.fst).Nodup → p ∈ L →
    p.1 < a.size → at0 (foldSet L a) p.1 = p.2
  | [], _, _, _, hp, _ => absurd hp List.not_mem_nil
  | q :: L, a, p, hnd, hp, hsz => by
    rw [List.map_cons, List.nodup_cons] at hnd
    rcases List.mem_cons.mp hp with rfl | h
    · exact (foldSet_off L _ p.1 hnd.1).trans (at0_set_self p.2 hsz)
    · exact foldSet_on L _ p hnd.2 h (by simpa using hsz)

theorem zip_fst {S : List ℕ} {xs : Array ℚ} (hlen : xs.size = S.length) :
    (S.zip xs.toList).map Prod.fst = S :=
  List.map_fst_zip (by simp [hlen])

theorem scatter_on (n : ℕ) (S : List ℕ) (xs : Array ℚ) (hS : S.Nodup) (hn : ∀ i ∈ S, i < n)
    (hlen : xs.size = S.length) (t : ℕ) (ht : t < S.length) :
    at0 (scatter n S xs) (S.getD t 0) = xs.getD t 0 := by
  have hmem : (S.getD t 0, xs.getD t 0) ∈ S.zip xs.toList := by
    rw [List.mem_iff_getElem]
    refine ⟨t, by simp [hlen, ht], ?_⟩
    simp [List.getD_eq_getElem?_getD, Array.getD_eq_getD_getElem?, ht, hlen]
  exact foldSet_on (S.zip xs.toList) (Array.replicate n 0) _ ((zip_fst hlen).symm ▸ hS) hmem
    (by simpa using hn _ (by simp [ht]))

theorem scatter_off (n : ℕ) (S : List ℕ) (xs : Array ℚ) (hlen : xs.size = S.length) (i : ℕ) (hi : i ∉ S) :
    at0 (scatter n S xs) i = 0 := by
  refine (foldSet_off (S.zip xs.toList) (Array.replicate n 0) i ((zip_fst hlen).symm ▸ hi)).trans ?_
  unfold at0
  rw [Array.getD_eq_getD_getElem?, Array.getElem?_replicate]
  split <;> rfl

theorem list_sum_getD (g : ℕ → ℚ) : ∀ S : List ℕ, (S.map g).sum = ∑ t ∈ range S.length, g (S.getD t 0) := by
  intro S
  induction S with
  | nil => simp
  | cons a S ih =>
    rw [List.map_cons, List.sum_cons, List.length_cons, Finset.sum_range_succ', ih]
    exact add_comm _ _

theorem sum_reindex {n : ℕ} (S : List ℕ) (hS : S.Nodup) (hn : ∀ i ∈ S, i < n) (g : ℕ → ℚ)
    (h0 : ∀ i, i < n → i ∉ S → g i = 0) : ∑ i ∈ range n, g i = ∑ t ∈ range S.length, g (S.getD t 0) := by
  rw [← list_sum_getD, ← List.sum_toFinset g hS]
  symm
  apply Finset.sum_subset
  · intro i hi; exact mem_range.mpr (hn i (List.mem_toFinset.mp hi))
  · intro i hi hni
    exact h0 i (mem_range.mp hi) (fun h => hni (List.mem_toFinset.mpr h))

/-- `gj_bridge` at the systems the model builds, `[A_SS | b_S]` -/
theorem gaussJordan_sysMat (A : Mat) (b : Vec) (S : List ℕ) :
    (gaussJordan S.length (sysMat A b S) = none ∧ fgj (List.range S.length) (sysF A b S) = none) ∨
    ∃ R R' ps, gaussJordan S.length (sysMat A b S) = some (R, ps) ∧
      fgj (List.range S.length) (sysF A b S) = some (R', ps) ∧ Rel S.length R R' :=
  gaussJordan_eq _ _ ▸ gj_bridge (List.range S.length) _ _ [] (sysMat_rel A b S) fun _ hc => List.mem_range.mp hc

theorem solveOn_eq (n : ℕ) (A : Mat) (b : Vec) (S : List ℕ) :
    solveOn n A b S = match gaussJordan S.length (sysMat A b S) with
      | none => none
      | some (R, _) => some (scatter n S (R.map fun row => row.getD S.length 0)) := rfl

theorem solveOn_correct {n : ℕ} {A : Mat} {b : Vec} {S : List ℕ} {x : Array ℚ} (hS : S.Nodup)
    (hn : ∀ i ∈ S, i < n) (h : solveOn n A b S = some x) :
    (∀ i, i ∉ S → at0 x i = 0) ∧ ∀ i, i ∈ S → grad n A b (at0 x) i = 0 := by
  rw [solveOn_eq] at h
  rcases gaussJordan_sysMat A b S with ⟨h1, _⟩ | ⟨R, R', ps, h1, hrun, hsh, hent⟩
  · rw [h1] at h; cases h
  rw [h1] at h
  obtain rfl := Option.some.inj h
  -- `x` is the last column of the reduced system, scattered along `S`
  have hlen : (R.map fun row => row.getD S.length 0).size = S.length := (Array.size_map ..).trans hsh.1
  have hxs : ∀ t, t < S.length → (R.map fun row => row.getD S.length 0).getD t 0 = R' t S.length := fun t ht => by
    rw [Array.getD_map_of_lt _ _ (hsh.1 ▸ ht) #[] 0]
    exact hent t S.length ht le_rfl
  refine ⟨fun i hi => scatter_off n S _ hlen i hi, fun i hi => ?_⟩
  obtain ⟨r, hr, hri⟩ := List.mem_iff_getElem.mp hi
  have hri' : S.getD r 0 = i := (List.getD_eq_getElem S 0 hr).trans hri
  have hsol := fgj_range_solves hrun r hr
  unfold sysF at hsol
  rw [if_neg (lt_irrefl _), hri'] at hsol
  unfold grad Nnls.mulVec
  rw [sumTo_range, sum_reindex S hS hn (fun j => A i j * at0 (scatter n S _) j)
    (fun j _ hj => by show A i j * _ = 0; rw [scatter_off n S _ hlen j hj, mul_zero]), ← hsol, sub_eq_zero]
  refine sum_congr rfl fun t ht => ?_
  show A i (S.getD t 0) * at0 (scatter n S _) (S.getD t 0) = _
  rw [if_pos (mem_range.mp ht), scatter_on n S _ hS hn hlen t (mem_range.mp ht), hxs t (mem_range.mp ht)]

/-- the model's matrix on `[0,n)` in the three forms the proofs use: Mathlib's (`SPD`), the entry functions of
`NormalEq`, the window of `SchurStep` -/
theorem spd_toMat_iff_window (n : ℕ) (A : Mat) : SPD (toMat n A) ↔ SymOn 0 n A ∧ PDOn 0 n A :=
  (NormalEq.spd_toM_iff (M := A)).trans (and_congr
    ⟨fun h i j _ hi _ hj => h i hi j hj, fun h i hi j hj => h i j (Nat.zero_le _) hi (Nat.zero_le _) hj⟩
    (posDefFrom_zero_iff n A).symm)

theorem sysF_range {n i j : ℕ} (A : Mat) (b : Vec) (hi : i < n) (hj : j < n) :
    sysF A b (List.range n) i j = A i j := by
  have hg : ∀ r, r < n → (List.range n).getD r 0 = r := fun r h => by simp [List.getD_eq_getElem?_getD, h]
  rw [sysF, List.length_range, if_pos hj, hg i hi, hg j hj]

theorem spdCert_iff_fgj (n : ℕ) (A : Mat) : spdCert n A = true ↔ SymOn 0 n A ∧
    PosRun (List.range n) (sysF A (fun _ => 0) (List.range n)) := by
  have hsym : isSymm n A = true ↔ SymOn 0 n A := by
    simp only [isSymm, List.all_eq_true, List.mem_range, beq_iff_eq]
    exact ⟨fun h i j _ hi _ hj => h i hi j hj, fun h i hi j hj => h i j (Nat.zero_le _) hi (Nat.zero_le _) hj⟩
  have hgj := gaussJordan_sysMat A (fun _ => 0) (List.range n)
  rw [List.length_range] at hgj
  show (isSymm n A && match gaussJordan n (sysMat A (fun _ => 0) (List.range n)) with
    | none => false
    | some (_, ps) => ps.all fun p => decide (0 < p)) = true ↔ _
  rw [Bool.and_eq_true, hsym]
  refine and_congr_right fun _ => ?_
  unfold PosRun
  rcases hgj with ⟨h1, h2⟩ | ⟨R, R', ps, h1, h2, _⟩
  · rw [h1, h2]
    exact ⟨fun h => (nomatch h), fun ⟨_, _, h, _⟩ => (nomatch h)⟩
  · rw [h1, h2]
    simp only [List.all_eq_true, decide_eq_true_eq]
    exact ⟨fun h => ⟨R', ps, rfl, h⟩, fun ⟨_, _, e, h⟩ => (Prod.mk.inj (Option.some.inj e)).2 ▸ h⟩

/-- the certificate accepts exactly the symmetric positive-definite matrices: `spdCert` is "symmetric and the run has
positive pivots" (`spdCert_iff_fgj`), which is positive definiteness of the entries (`posRun_iff_pd`) -/
theorem spdCert_iff_spd (n : ℕ) (A : Mat) : spdCert n A = true ↔ SPD (toMat n A) := by
  rw [spdCert_iff_fgj, spd_toMat_iff_window]
  refine and_congr_right fun hS => ?_
  have hF : ∀ i, 0 ≤ i → i < n → ∀ j, 0 ≤ j → j < n → sysF A (fun _ => 0) (List.range n) i j = A i j :=
    fun i _ hi j _ hj => sysF_range A _ hi hj
  have key := posRun_iff_pd n 0 (sysF A (fun _ => 0) (List.range n)) (Nat.zero_add n) fun i j h0 hi h0' hj => by
    rw [hF i h0 hi j h0' hj, hF j h0' hj i h0 hi]; exact hS i j h0 hi h0' hj
  rw [← List.range_eq_range'] at key
  exact key.trans ⟨posDefFrom_congr hF, posDefFrom_congr fun i a b j c d => (hF i a b j c d).symm⟩

theorem spdCert_spd (n : ℕ) (A : Mat) (h : spdCert n A = true) : SPD (toMat n A) := (spdCert_iff_spd n A).mp h

theorem spd_spdCert (n : ℕ) (A : Mat) (hA : SPD (toMat n A)) : spdCert n A = true := (spdCert_iff_spd n A).mpr hA

theorem pdOn_sub {n : ℕ} {A : Mat} (b : Vec) {S : List ℕ} (hS : S.Nodup) (hn : ∀ i ∈ S, i < n)
    (hP : PDOn 0 n A) : PDOn 0 S.length (sysF A b S) := by
  intro x hx
  obtain ⟨t0, _, ht0, hne⟩ := hx
  -- `x` spread out over `[0,n)` along `S`
  obtain ⟨z, hz, hz0⟩ : ∃ z : ℕ → ℚ, (∀ t, t < S.length → z (S.getD t 0) = x t) ∧ ∀ i, i ∉ S → z i = 0 :=
    ⟨fun i => if i ∈ S then x (S.idxOf i) else 0, fun t ht => by
      rw [List.getD_eq_getElem S 0 ht]
      exact (if_pos (List.getElem_mem ht)).trans (congrArg x (hS.idxOf_getElem t ht)), fun i hi => if_neg hi⟩
  have hq := hP z ⟨S.getD t0 0, Nat.zero_le _, hn _ (getD_mem ht0 0), by rw [hz t0 ht0]; exact hne⟩
  suffices e : Qf 0 n A z = Qf 0 S.length (sysF A b S) x from e ▸ hq
  unfold Qf
  simp only [Nat.Ico_zero_eq_range]
  rw [sum_reindex S hS hn (fun i => ∑ j ∈ range n, z i * A i j * z j)
    (fun i _ hi => sum_eq_zero fun j _ => by rw [hz0 i hi, zero_mul, zero_mul])]
  refine sum_congr rfl fun s hs => ?_
  rw [sum_reindex S hS hn (fun j => z (S.getD s 0) * A (S.getD s 0) j * z j)
    (fun j _ hj => by rw [hz0 j hj, mul_zero])]
  refine sum_congr rfl fun t ht => ?_
  rw [hz s (mem_range.mp hs), hz t (mem_range.mp ht), sysF, if_pos (mem_range.mp ht)]

theorem symOn_sub {n : ℕ} {A : Mat} (b : Vec) {S : List ℕ} (hn : ∀ i ∈ S, i < n) (hA : SymOn 0 n A) :
    SymOn 0 S.length (sysF A b S) := by
  intro i j _ hi _ hj
  rw [sysF, sysF, if_pos hi, if_pos hj]
  exact hA _ _ (Nat.zero_le _) (hn _ (getD_mem hi 0)) (Nat.zero_le _) (hn _ (getD_mem hj 0))

theorem solveOn_spd {n : ℕ} {A : Mat} (b : Vec) {S : List ℕ} (hA : SPD (toMat n A)) (hS : S.Nodup)
    (hn : ∀ i ∈ S, i < n) : ∃ x, solveOn n A b S = some x := by
  obtain ⟨hsym, hpd⟩ := (spd_toMat_iff_window n A).mp hA
  obtain ⟨R', ps, hrun, _⟩ := pd_fgj (k := S.length) S.length 0 (sysF A b S) (Nat.zero_add _) (symOn_sub b hn hsym)
    (pdOn_sub b hS hn hpd)
  rw [← List.range_eq_range'] at hrun
  rw [solveOn_eq]
  rcases gaussJordan_sysMat A b S with ⟨_, h2⟩ | ⟨R, R'', ps', h1, _, _⟩
  · rw [hrun] at h2; cases h2
  · rw [h1]; exact ⟨_, rfl⟩

/-- `solveOn_spd` and `solveOn_correct` in the form the state machine and the reference solver call the solve: on
the indices `< n` that satisfy `p`.  The result vanishes wherever `i < n → p i = false`: off the passive set, and (the
array has length `n`) at every `i ≥ n`. -/
theorem solveOn_filter {n : ℕ} {A : Mat} (b : Vec) (hA : SPD (toMat n A)) (p : ℕ → Bool) :
    ∃ x, solveOn n A b ((List.range n).filter p) = some x ∧ (∀ i, (i < n → p i = false) → at0 x i = 0) ∧
      ∀ i, i < n → p i = true → grad n A b (at0 x) i = 0 := by
  have hS : ((List.range n).filter p).Nodup := List.nodup_range.filter p
  have hn : ∀ j ∈ (List.range n).filter p, j < n := fun j hj => List.mem_range.mp (List.mem_filter.mp hj).1
  obtain ⟨x, hx⟩ := solveOn_spd b hA hS hn
  obtain ⟨hoff, hon⟩ := solveOn_correct hS hn hx
  refine ⟨x, hx, fun i h => hoff i fun hm => ?_, fun i hi hp => hon i (List.mem_filter.mpr ⟨List.mem_range.mpr hi, hp⟩)⟩
  exact Bool.false_ne_true ((h (hn i hm)).symm.trans (List.mem_filter.mp hm).2)

theorem exactEnv_exact (n : ℕ) (A : Mat) (b : Vec) (tol : ℚ) (mi fu : ℕ) (hA : SPD (toMat n A)) (htol : 0 ≤ tol) :
    ExactEnv (exactEnv n A b tol mi fu) A b := by
  refine ⟨htol, fun inF i hi hF => ?_, fun inF x i _ => exactEnv_dual n A b tol mi fu inF x i⟩
  obtain ⟨x, hx, hoff, hon⟩ := solveOn_filter b hA inF
  show grad n A b (fun j => if inF j then at0 (match solveOn n A b ((List.range n).filter inF) with
    | some x => x
    | none => #[]) j else 0) i = 0
  rw [hx]
  refine (grad_congr n A b _ (at0 x) (fun j _ => ?_) i).trans (hon i hi hF)
  cases hj : inF j with
  | true => rfl
  | false => exact (hoff j fun _ => hj).symm

end PsV.Nnls
