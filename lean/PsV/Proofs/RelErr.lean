import Mathlib.Algebra.Order.Field.Basic
import Mathlib.Tactic.Ring
import Mathlib.Tactic.Linarith
import Mathlib.Tactic.Positivity
/-!
# The two error calculi of the rounding analyses, over an ordered field (no model definition occurs)

`RelErr ε k a b` (Higham's ⟨k⟩ counters): `b = a · r` with `(1+ε)^(-k) ≤ r ≤ (1+ε)^k` — "`b` is `a` perturbed by at most
`k` roundings of relative size `ε`".  The standard model of floating-point arithmetic without underflow
and overflow is `fl(a ∘ b) = (a ∘ b)(1+δ)`, `|δ| ≤ u`, which is `RelErr ε 1` for `ε = u/(1-u)`.  It is closed under
products, quotients and sums of non-negative quantities, keeps signs and zeros, and is what a denominator must satisfy.

`Acc ε K S a b` (`|b − a| ≤ ((1+ε)^K − 1)·S`, `|a| ≤ S`): absolute error against a magnitude majorant `S`.  It is what
`RelErr` weakens to (`Acc.of_relerr`, `S = |a|`) and it survives a **difference** (the majorants add), which `RelErr`
cannot; closed under products, sums and further roundings (`Acc.relerr_right`).
-/
namespace PsV
variable {F : Type} [Field F] [LinearOrder F] [IsStrictOrderedRing F]

def RelErr (ε : F) (k : Nat) (a b : F) : Prop :=
  ∃ r : F, b = a * r ∧ ((1 + ε) ^ k)⁻¹ ≤ r ∧ r ≤ (1 + ε) ^ k

/-- `g k = (1+ε)^k − 1`, the absolute-error factor that belongs to `k` roundings -/
def gfac (ε : F) (k : Nat) : F := (1 + ε) ^ k - 1

theorem RelErr.refl {ε : F} (a : F) : RelErr ε 0 a a := ⟨1, by simp, by simp, by simp⟩

theorem RelErr.zero_left {ε : F} {k : Nat} {b : F} (h : RelErr ε k 0 b) : b = 0 := by
  obtain ⟨r, rfl, _, _⟩ := h; simp

section
variable {ε : F} (hε : 0 ≤ ε)
include hε

theorem one_le_pow_eps (k : Nat) : (1 : F) ≤ (1 + ε) ^ k := one_le_pow₀ (le_add_of_nonneg_right hε)

theorem pow_eps_pos (k : Nat) : (0 : F) < (1 + ε) ^ k := lt_of_lt_of_le one_pos (one_le_pow_eps hε k)

theorem pow_eps_mono {k k' : Nat} (h : k ≤ k') : (1 + ε) ^ k ≤ (1 + ε) ^ k' :=
  pow_le_pow_right₀ (le_add_of_nonneg_right hε) h

theorem gfac_nonneg (k : Nat) : 0 ≤ gfac ε k := sub_nonneg.2 (one_le_pow_eps hε k)

theorem gfac_mono {k k' : Nat} (h : k ≤ k') : gfac ε k ≤ gfac ε k' := sub_le_sub_right (pow_eps_mono hε h) 1

theorem gfac_le_linear (K : Nat) (hK : 2 * (K : F) * ε ≤ 1) : gfac ε K ≤ 2 * K * ε := by
  suffices h : ∀ k : Nat, k ≤ K → (1 + ε) ^ k ≤ 1 + 2 * k * ε from sub_le_iff_le_add'.2 (h K (le_refl _))
  intro k
  induction k with
  | zero => intro _; simp
  | succ k ih =>
    intro hk
    have hkK : (k : F) ≤ K := by exact_mod_cast (by omega : k ≤ K)
    -- `2kε·ε ≤ ε`, the only non-linear term of the step
    have h2 : 2 * (k : F) * ε * ε ≤ 1 * ε :=
      mul_le_mul_of_nonneg_right (le_trans (mul_le_mul_of_nonneg_right (mul_le_mul_of_nonneg_left hkK zero_le_two) hε) hK) hε
    calc (1 + ε) ^ (k + 1) = (1 + ε) ^ k * (1 + ε) := pow_succ _ _
      _ ≤ (1 + 2 * k * ε) * (1 + ε) := mul_le_mul_of_nonneg_right (ih (by omega)) (by linarith)
      _ ≤ 1 + 2 * ((k + 1 : Nat) : F) * ε := by push_cast; linarith

theorem RelErr.of_zero (k : Nat) : RelErr ε k (0 : F) 0 :=
  ⟨1, by simp, inv_le_one_of_one_le₀ (one_le_pow_eps hε k), one_le_pow_eps hε k⟩

theorem RelErr.factor_pos {k : Nat} {r : F} (h : ((1 + ε) ^ k)⁻¹ ≤ r) : 0 < r :=
  lt_of_lt_of_le (inv_pos.2 (pow_eps_pos hε k)) h

theorem RelErr.mono {k k' : Nat} {a b : F} (h : RelErr ε k a b) (hk : k ≤ k') : RelErr ε k' a b := by
  obtain ⟨r, e, h1, h2⟩ := h
  refine ⟨r, e, le_trans ?_ h1, le_trans h2 (pow_eps_mono hε hk)⟩
  exact inv_anti₀ (pow_eps_pos hε k) (pow_eps_mono hε hk)

theorem RelErr.nonneg {k : Nat} {a b : F} (h : RelErr ε k a b) (ha : 0 ≤ a) : 0 ≤ b := by
  obtain ⟨r, rfl, h1, _⟩ := h
  exact mul_nonneg ha (le_of_lt (RelErr.factor_pos hε h1))

theorem RelErr.mul {k k' : Nat} {a b c d : F} (h : RelErr ε k a b) (h' : RelErr ε k' c d) :
    RelErr ε (k + k') (a * c) (b * d) := by
  obtain ⟨r, rfl, h1, h2⟩ := h
  obtain ⟨s, rfl, h3, h4⟩ := h'
  have hr := RelErr.factor_pos hε h1
  have hs := RelErr.factor_pos hε h3
  refine ⟨r * s, by ring, ?_, ?_⟩
  · rw [pow_add, mul_inv]
    exact mul_le_mul h1 h3 (le_of_lt (inv_pos.2 (pow_eps_pos hε k'))) (le_of_lt hr)
  · rw [pow_add]
    exact mul_le_mul h2 h4 (le_of_lt hs) (le_of_lt (pow_eps_pos hε k))

theorem RelErr.inv {k : Nat} {a b : F} (h : RelErr ε k a b) : RelErr ε k a⁻¹ b⁻¹ := by
  obtain ⟨r, rfl, h1, h2⟩ := h
  have hr := RelErr.factor_pos hε h1
  refine ⟨r⁻¹, by rw [mul_inv], ?_, ?_⟩
  · exact inv_anti₀ hr h2
  · rw [← inv_inv ((1 + ε) ^ k)]
    exact inv_anti₀ (inv_pos.2 (pow_eps_pos hε k)) h1

theorem RelErr.div {k k' : Nat} {a b c d : F} (h : RelErr ε k a b) (h' : RelErr ε k' c d) :
    RelErr ε (k + k') (a / c) (b / d) := by
  rw [div_eq_mul_inv, div_eq_mul_inv]
  exact RelErr.mul hε h (RelErr.inv hε h')

theorem RelErr.add_nonneg {k : Nat} {a b c d : F} (h : RelErr ε k a b) (h' : RelErr ε k c d)
    (ha : 0 ≤ a) (hc : 0 ≤ c) : RelErr ε k (a + c) (b + d) := by
  obtain ⟨r, rfl, h1, h2⟩ := h
  obtain ⟨s, rfl, h3, h4⟩ := h'
  rcases eq_or_lt_of_le (_root_.add_nonneg ha hc) with h0 | hpos
  · obtain ⟨rfl, rfl⟩ := (add_eq_zero_iff_of_nonneg ha hc).1 h0.symm
    simpa using RelErr.of_zero hε k
  · refine ⟨(a * r + c * s) / (a + c), (mul_div_cancel₀ _ hpos.ne').symm, ?_, ?_⟩
    · rw [le_div_iff₀ hpos, mul_add, mul_comm _ a, mul_comm _ c]
      exact add_le_add (mul_le_mul_of_nonneg_left h1 ha) (mul_le_mul_of_nonneg_left h3 hc)
    · rw [div_le_iff₀ hpos, mul_add, mul_comm _ a, mul_comm _ c]
      exact add_le_add (mul_le_mul_of_nonneg_left h2 ha) (mul_le_mul_of_nonneg_left h4 hc)

theorem RelErr.round {fl : F → F} (hfl : ∀ a, RelErr ε 1 a (fl a)) {k : Nat} {a b : F} (h : RelErr ε k a b) :
    RelErr ε (k + 1) a (fl b) := by
  obtain ⟨r, rfl, h1, h2⟩ := h
  obtain ⟨s, e, h3, h4⟩ := hfl (a * r)
  have := RelErr.mul hε (⟨r, rfl, h1, h2⟩ : RelErr ε k a (a * r)) (⟨s, rfl, h3, h4⟩ : RelErr ε 1 1 (1 * s))
  rw [e]
  simpa [mul_assoc] using this

theorem RelErr.abs_factor {k : Nat} {r : F} (h1 : ((1 + ε) ^ k)⁻¹ ≤ r) (h2 : r ≤ (1 + ε) ^ k) :
    |r - 1| ≤ gfac ε k := by
  have hp := pow_eps_pos hε k
  have h1' := one_le_pow_eps hε k
  -- `1 - p⁻¹ = p⁻¹ (p - 1) ≤ p - 1`
  have h := mul_le_mul_of_nonneg_right (inv_le_one_of_one_le₀ h1') (sub_nonneg.2 h1')
  rw [mul_sub, inv_mul_cancel₀ hp.ne', mul_one, one_mul] at h
  exact abs_le.2 ⟨neg_le.1 (by rw [neg_sub]; exact (sub_le_sub_left h1 1).trans h), sub_le_sub_right h2 1⟩

theorem RelErr.abs_sub {k : Nat} {a b : F} (h : RelErr ε k a b) : |b - a| ≤ gfac ε k * |a| := by
  obtain ⟨r, rfl, h1, h2⟩ := h
  have : a * r - a = a * (r - 1) := by ring
  rw [this, abs_mul, mul_comm]
  exact mul_le_mul_of_nonneg_right (RelErr.abs_factor hε h1 h2) (abs_nonneg a)

end

theorem RelErr.neg {ε : F} {k : Nat} {a b : F} (h : RelErr ε k a b) : RelErr ε k (-a) (-b) := by
  obtain ⟨r, rfl, h1, h2⟩ := h
  exact ⟨r, (neg_mul a r).symm, h1, h2⟩

theorem RelErr.of_standard_model (u a δ : F) (hu1 : u < 1) (hδ : |δ| ≤ u) : RelErr (u / (1 - u)) 1 a (a * (1 + δ)) := by
  have h1 : 0 < 1 - u := sub_pos.2 hu1
  have e : 1 + u / (1 - u) = (1 - u)⁻¹ := by rw [one_add_div h1.ne', sub_add_cancel, one_div]
  obtain ⟨hδ1, hδ2⟩ := abs_le.1 hδ
  refine ⟨1 + δ, rfl, ?_, ?_⟩
  · rw [pow_one, e, inv_inv, sub_eq_add_neg]; exact add_le_add_right hδ1 1
  · rw [pow_one, e, ← one_div, le_div_iff₀ h1]
    calc (1 + δ) * (1 - u) ≤ (1 + u) * (1 - u) := mul_le_mul_of_nonneg_right (add_le_add_right hδ2 1) h1.le
      _ = 1 - u * u := by ring
      _ ≤ 1 := sub_le_self _ (mul_self_nonneg u)

variable {ε : F} {fl st : F → F}

theorem RelErr.eq_zero_iff (hε : 0 ≤ ε) {k : Nat} {a b : F} (h : RelErr ε k a b) : b = 0 ↔ a = 0 := by
  obtain ⟨r, rfl, h1, _⟩ := h
  have := RelErr.factor_pos hε h1
  constructor
  · intro h0
    rcases mul_eq_zero.mp h0 with h0 | h0
    · exact h0
    · exact absurd h0 (ne_of_gt this)
  · intro h0; rw [h0, zero_mul]

/-- accumulator invariant: the rounded accumulator `b` is within `gfac K · S` of the exact one `a`,
where `S` bounds the magnitudes accumulated so far -/
def Acc (ε : F) (K : Nat) (S a b : F) : Prop := |b - a| ≤ gfac ε K * S ∧ |a| ≤ S

theorem Acc.S_nonneg {K : Nat} {S a b : F} (h : Acc ε K S a b) : 0 ≤ S := le_trans (abs_nonneg _) h.2

theorem Acc.mono (hε : 0 ≤ ε) {K K' : Nat} {S a b : F} (h : Acc ε K S a b) (hK : K ≤ K') : Acc ε K' S a b :=
  ⟨le_trans h.1 (mul_le_mul_of_nonneg_right (gfac_mono hε hK) h.S_nonneg), h.2⟩

theorem Acc.refl (a : F) : Acc ε 0 |a| a a := ⟨by simp [gfac], le_refl _⟩

theorem Acc.zero (K : Nat) : Acc ε K (0 : F) 0 0 := ⟨by simp, by simp⟩

theorem Acc.of_relerr (hε : 0 ≤ ε) {k : Nat} {a b : F} (h : RelErr ε k a b) : Acc ε k |a| a b :=
  ⟨RelErr.abs_sub hε h, le_refl _⟩

theorem Acc.of_relerr_nonneg (hε : 0 ≤ ε) {k : Nat} {a b : F} (h : RelErr ε k a b) (ha : 0 ≤ a) : Acc ε k a a b := by
  have := Acc.of_relerr hε h
  rwa [abs_of_nonneg ha] at this

theorem Acc.mono_S (hε : 0 ≤ ε) {K : Nat} {S S' a b : F} (h : Acc ε K S a b) (hS : S ≤ S') : Acc ε K S' a b :=
  ⟨le_trans h.1 (mul_le_mul_of_nonneg_left hS (gfac_nonneg hε K)), le_trans h.2 hS⟩

theorem Acc.abs_right {K : Nat} {S a b : F} (h : Acc ε K S a b) : |b| ≤ (1 + ε) ^ K * S :=
  calc |b| = |(b - a) + a| := by rw [sub_add_cancel]
    _ ≤ |b - a| + |a| := abs_add_le _ _
    _ ≤ gfac ε K * S + S := add_le_add h.1 h.2
    _ = (1 + ε) ^ K * S := by rw [gfac, sub_mul, one_mul, sub_add_cancel]

theorem Acc.neg {K : Nat} {S a b : F} (h : Acc ε K S a b) : Acc ε K S (-a) (-b) :=
  ⟨by rw [neg_sub_neg, abs_sub_comm]; exact h.1, by rw [abs_neg]; exact h.2⟩

theorem Acc.add {K : Nat} {S S' a b a' b' : F} (h : Acc ε K S a b) (h' : Acc ε K S' a' b') :
    Acc ε K (S + S') (a + a') (b + b') :=
  ⟨by rw [add_sub_add_comm, mul_add]; exact (abs_add_le _ _).trans (add_le_add h.1 h'.1),
    (abs_add_le _ _).trans (add_le_add h.2 h'.2)⟩

theorem Acc.sub {K : Nat} {S S' a b a' b' : F} (h : Acc ε K S a b) (h' : Acc ε K S' a' b') :
    Acc ε K (S + S') (a - a') (b - b') := by
  simpa [sub_eq_add_neg] using Acc.add h (Acc.neg h')

theorem Acc.mul (hε : 0 ≤ ε) {K K' : Nat} {S S' a b a' b' : F} (h : Acc ε K S a b) (h' : Acc ε K' S' a' b') :
    Acc ε (K + K') (S * S') (a * a') (b * b') := by
  have hS := h.S_nonneg
  have hb' := Acc.abs_right h'
  have key : b * b' - a * a' = (b - a) * b' + a * (b' - a') := by ring
  have hg : gfac ε K * (1 + ε) ^ K' + gfac ε K' = gfac ε (K + K') := by unfold gfac; rw [pow_add]; ring
  constructor
  · rw [key]
    have t1 : |(b - a) * b'| ≤ (gfac ε K * S) * ((1 + ε) ^ K' * S') := by
      rw [abs_mul]
      exact mul_le_mul h.1 hb' (abs_nonneg _) (mul_nonneg (gfac_nonneg hε K) hS)
    have t2 : |a * (b' - a')| ≤ S * (gfac ε K' * S') := by
      rw [abs_mul]
      exact mul_le_mul h.2 h'.1 (abs_nonneg _) hS
    calc |(b - a) * b' + a * (b' - a')| ≤ |(b - a) * b'| + |a * (b' - a')| := abs_add_le _ _
      _ ≤ (gfac ε K * S) * ((1 + ε) ^ K' * S') + S * (gfac ε K' * S') := add_le_add t1 t2
      _ = gfac ε (K + K') * (S * S') := by rw [← hg]; ring
  · rw [abs_mul]
    exact mul_le_mul h.2 h'.2 (abs_nonneg _) hS

/-- a product with the factor `r`, `|r - 1| ≤ gfac j` -/
theorem Acc.relerr_right (hε : 0 ≤ ε) {K j : Nat} {S a b c : F} (h : Acc ε K S a b) (hc : RelErr ε j b c) :
    Acc ε (K + j) S a c := by
  obtain ⟨r, rfl, r1, r2⟩ := hc
  have := Acc.mul hε h (⟨by rw [mul_one]; exact RelErr.abs_factor hε r1 r2, by rw [abs_one]⟩ : Acc ε j 1 1 r)
  rwa [mul_one, mul_one] at this

theorem relerr_stfl (hε : 0 ≤ ε) (hfl : ∀ a, RelErr ε 1 a (fl a)) (hst : ∀ a, RelErr ε 1 a (st a)) (a : F) :
    RelErr ε 2 a (st (fl a)) := by
  simpa using RelErr.round hε hst (RelErr.round hε hfl (RelErr.refl a))

theorem Acc.add_round (hε : 0 ≤ ε) (hfl : ∀ a, RelErr ε 1 a (fl a)) {K : Nat} {S a b m v w : F}
    (h : Acc ε K S a b) (h' : Acc ε K m v w) : Acc ε (K + 1) (S + m) (a + v) (fl (b + w)) :=
  (h.add h').relerr_right hε (hfl _)

theorem Acc.mul_round (hε : 0 ≤ ε) (hfl : ∀ a, RelErr ε 1 a (fl a)) {K kb : Nat} {m v w β βR : F}
    (h : Acc ε K m v w) (hb : RelErr ε kb β βR) (hβ : 0 ≤ β) :
    Acc ε (K + kb + 1) (β * m) (β * v) (fl (βR * w)) := by
  have := ((Acc.of_relerr_nonneg hε hb hβ).mul hε h).relerr_right hε (hfl (βR * w))
  rwa [Nat.add_comm kb K] at this

/-- the model's `smul`: a product rounded to working and then to storage precision -/
theorem Acc.smul (hε : 0 ≤ ε) (hfl : ∀ a, RelErr ε 1 a (fl a)) (hst : ∀ a, RelErr ε 1 a (st a)) {K K' : Nat}
    {S S' a b a' b' : F} (h : Acc ε K S a b) (h' : Acc ε K' S' a' b') :
    Acc ε (K + K' + 2) (S * S') (a * a') (st (fl (b * b'))) :=
  (h.mul hε h').relerr_right hε (relerr_stfl hε hfl hst _)

/-- the model's `sadd` -/
theorem Acc.sadd (hε : 0 ≤ ε) (hfl : ∀ a, RelErr ε 1 a (fl a)) (hst : ∀ a, RelErr ε 1 a (st a)) {K : Nat}
    {S S' a b a' b' : F} (h : Acc ε K S a b) (h' : Acc ε K S' a' b') :
    Acc ε (K + 2) (S + S') (a + a') (st (fl (b + b'))) :=
  (h.add h').relerr_right hε (relerr_stfl hε hfl hst _)

end PsV
