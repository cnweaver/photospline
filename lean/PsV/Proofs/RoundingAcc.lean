import PsV.Proofs.Rounding
/-!
# The coefficient-block walk under rounding

The walk is analysed for three row lists at once — majorant, exact, rounded — whose entries are related by `Acc`,
wherever the rows come from; a row of non-negative entries known up to relative error is its own majorant.
-/
namespace PsV
variable {F : Type} [Field F] [LinearOrder F] [IsStrictOrderedRing F]

section
variable {ε : F} {fl st : F → F}

/-- entrywise: majorant, exact, rounded -/
def Row3 (ε : F) (kr : Nat) : List F → List F → List F → Prop
  | [], [], [] => True
  | m :: ms, e :: es, r :: rs => Acc ε kr m e r ∧ Row3 ε kr ms es rs
  | _, _, _ => False

def Rows3 (ε : F) (kr : Nat) : List (Nat × List F) → List (Nat × List F) → List (Nat × List F) → Prop
  | [], [], [] => True
  | m :: ms, e :: es, r :: rs => m.1 = e.1 ∧ r.1 = e.1 ∧ Row3 ε kr m.2 e.2 r.2 ∧ Rows3 ε kr ms es rs
  | _, _, _ => False

theorem Row3.mono (hε : 0 ≤ ε) {k k' : Nat} (hk : k ≤ k') : ∀ {ms es rs : List F}, Row3 ε k ms es rs → Row3 ε k' ms es rs
  | [], [], [], _ => trivial
  | _ :: _, _ :: _, _ :: _, ⟨h1, h2⟩ => ⟨h1.mono hε hk, Row3.mono hε hk h2⟩

theorem Row3.length_eq : ∀ {k : Nat} {ms es rs : List F}, Row3 ε k ms es rs → ms.length = es.length ∧ rs.length = es.length
  | _, [], [], [], _ => ⟨rfl, rfl⟩
  | _, _ :: _, _ :: _, _ :: _, ⟨_, h2⟩ => by
    obtain ⟨a, b⟩ := Row3.length_eq h2
    simp [a, b]

theorem RelRow.row3 (hε : 0 ≤ ε) {k : Nat} {es rs : List F} (h : RelRow ε k es rs) : Row3 ε k es es rs := by
  obtain ⟨hrel, hnn⟩ := h
  induction hrel with
  | nil => trivial
  | cons h1 _ ih => exact ⟨Acc.of_relerr_nonneg hε h1 (hnn _ (by simp)), ih fun b hb => hnn b (by simp [hb])⟩

theorem Row3.get {k : Nat} : ∀ {ms es rs : List F}, Row3 ε k ms es rs →
    ∀ (i : Nat) (m e r : F), ms[i]? = some m → es[i]? = some e → rs[i]? = some r → Acc ε k m e r
  | [], [], [], _ => by intro i m e r h; simp at h
  | m0 :: ms, e0 :: es, r0 :: rs, ⟨h1, h2⟩ => by
    intro i m e r hm he hr
    cases i with
    | zero =>
      simp only [List.getElem?_cons_zero, Option.some.injEq] at hm he hr
      subst hm; subst he; subst hr
      exact h1
    | succ i =>
      simp only [List.getElem?_cons_succ] at hm he hr
      exact Row3.get h2 i m e r hm he hr

/-- number of accumulated terms of a block walk -/
def nterms : List (Nat × List F) → Nat
  | [] => 0
  | [(_, row)] => row.length
  | (_, row) :: r :: rest => row.length * nterms (r :: rest)

theorem nterms_cons_le (s : Nat) (row : List F) (rest : List (Nat × List F)) (B : Nat) (h : nterms rest ≤ B)
    (hB : 0 < B) : nterms ((s, row) :: rest) ≤ row.length * B := by
  cases rest with
  | nil => exact Nat.le_mul_of_pos_right _ hB
  | cons r rest => exact Nat.mul_le_mul_left _ h

section walk
variable (hε : 0 ≤ ε) (hfl : ∀ a, RelErr ε 1 a (fl a)) (hst : ∀ a, RelErr ε 1 a (st a)) (coef : Int → F)
include hε hfl hst

theorem walkLast_err3 (kt kr kb : Nat) (btM btE btR : F) (hbt : Acc ε kb btM btE btR) (hk : kb + kr + 4 ≤ kt) :
    ∀ (rowM rowE rowR : List F) (pos : Int) (accE accR S : F) (m : Nat),
      Row3 ε kr rowM rowE rowR → Acc ε (kt + 2 * m) S accE accR →
      Acc ε (kt + 2 * (m + rowE.length))
        (@walkLast F (Arith.ofField F) (fun i => |coef i|) btM rowM pos S)
        (@walkLast F (Arith.ofField F) coef btE rowE pos accE)
        (@walkLast F (Arith.rounded fl st) coef btR rowR pos accR) := by
  intro rowM
  induction rowM with
  | nil =>
    intro rowE rowR pos accE accR S m h hacc
    match rowE, rowR, h with
    | [], [], _ => simpa [walkLast] using hacc
  | cons bM bsM ih =>
    intro rowE rowR pos accE accR S m h hacc
    match rowE, rowR, h with
    | b :: bs, bR :: bsR, ⟨hb, hbs⟩ =>
      simp only [walkLast, of_sadd, of_smul, rd_sadd, rd_smul]
      have h2 : Acc ε (kb + kr + 2 + 0 + 2) (btM * bM * |coef pos|) (btE * b * coef pos)
          (st (fl (st (fl (btR * bR)) * coef pos))) :=
        (hbt.smul hε hfl hst hb).smul hε hfl hst (Acc.refl (coef pos))
      have hstep := hacc.sadd hε hfl hst (h2.mono hε (K' := kt + 2 * m) (by omega))
      have := ih bs bsR (pos + 1) _ _ _ (m + 1) hbs
        (by have e : kt + 2 * (m + 1) = kt + 2 * m + 2 := by ring
            rw [e]; exact hstep)
      have e2 : m + 1 + bs.length = m + (b :: bs).length := by simp only [List.length_cons]; omega
      rw [e2] at this
      exact this

theorem walkRow_err3 (kt kr kb : Nat) (s : Nat) (restM restE restR : List (Nat × List F))
    (ih : ∀ (btM btE btR : F), Acc ε (kb + kr + 2) btM btE btR →
      ∀ (pos : Int) (accE accR S : F) (m : Nat), Acc ε (kt + 2 * m) S accE accR →
        Acc ε (kt + 2 * (m + nterms restE))
          (@walk F (Arith.ofField F) (fun i => |coef i|) restM btM pos S)
          (@walk F (Arith.ofField F) coef restE btE pos accE)
          (@walk F (Arith.rounded fl st) coef restR btR pos accR))
    (btM btE btR : F) (hbt : Acc ε kb btM btE btR) :
    ∀ (rowM rowE rowR : List F) (pos : Int) (accE accR S : F) (m : Nat),
      Row3 ε kr rowM rowE rowR → Acc ε (kt + 2 * m) S accE accR →
      Acc ε (kt + 2 * (m + rowE.length * nterms restE))
        (@walkRow F (Arith.ofField F) (fun i => |coef i|) s restM btM rowM pos S)
        (@walkRow F (Arith.ofField F) coef s restE btE rowE pos accE)
        (@walkRow F (Arith.rounded fl st) coef s restR btR rowR pos accR) := by
  intro rowM
  induction rowM with
  | nil =>
    intro rowE rowR pos accE accR S m h hacc
    match rowE, rowR, h with
    | [], [], _ => simpa [walkRow] using hacc
  | cons bM bsM ihr =>
    intro rowE rowR pos accE accR S m h hacc
    match rowE, rowR, h with
    | b :: bs, bR :: bsR, ⟨hb, hbs⟩ =>
      simp only [walkRow, of_smul, rd_smul]
      have h1 := ih _ _ _ (hbt.smul hε hfl hst hb) pos accE accR S m hacc
      have := ihr bs bsR (pos + s) _ _ _ (m + nterms restE) hbs h1
      have e : m + nterms restE + bs.length * nterms restE = m + (b :: bs).length * nterms restE := by
        simp only [List.length_cons]; ring
      rw [e] at this
      exact this

/-- The count of roundings in the block walk.  `kr`: on every row entry; `kb`: on `basis_tree` at the entry of the
current dimension — each dimension multiplies it by a row entry and stores the product, `kr + 2` more; `kt`: the budget for
a whole term `basis_tree·entry·coef` (two more products, each stored: `kb + rows·(kr+2) + 2 ≤ kt`; in the last dimension
`kb + kr + 4 ≤ kt`); `m`: terms accumulated so far, each accumulation `st (fl (acc + term))` adding 2 roundings to
everything accumulated before, so the accumulator stands at `kt + 2m`. -/
theorem walk_err3 (kt kr : Nat) :
    ∀ (rowsM rowsE rowsR : List (Nat × List F)), Rows3 ε kr rowsM rowsE rowsR →
      ∀ (kb : Nat) (btM btE btR : F), Acc ε kb btM btE btR → kb + rowsE.length * (kr + 2) + 2 ≤ kt →
      ∀ (pos : Int) (accE accR S : F) (m : Nat), Acc ε (kt + 2 * m) S accE accR →
        Acc ε (kt + 2 * (m + nterms rowsE))
          (@walk F (Arith.ofField F) (fun i => |coef i|) rowsM btM pos S)
          (@walk F (Arith.ofField F) coef rowsE btE pos accE)
          (@walk F (Arith.rounded fl st) coef rowsR btR pos accR) := by
  intro rowsM
  induction rowsM with
  | nil =>
    intro rowsE rowsR h kb btM btE btR _ _ pos accE accR S m hacc
    match rowsE, rowsR, h with
    | [], [], _ => simpa [walk, nterms] using hacc
  | cons rM restM ih =>
    intro rowsE rowsR h kb btM btE btR hbt hk pos accE accR S m hacc
    match rowsE, rowsR, h with
    | (sE, rowE) :: restE, (sR, rowR) :: restR, ⟨hs1, hs2, hrow, hrest⟩ =>
      obtain ⟨sM, rowM⟩ := rM
      simp only at hs1 hs2 hrow
      subst hs1; subst hs2
      match restM, restE, restR, hrest, ih with
      | [], [], [], _, _ =>
        simp only [walk, nterms]
        exact walkLast_err3 hε hfl hst coef kt kr kb btM btE btR hbt
          (by simp only [List.length_cons, List.length_nil] at hk; omega) rowM rowE rowR pos accE accR S m hrow hacc
      | r2M :: rest2M, r2 :: rest2, r2R :: rest2R, hrest2, ih =>
        simp only [walk, nterms]
        exact walkRow_err3 hε hfl hst coef kt kr kb _ (r2M :: rest2M) (r2 :: rest2) (r2R :: rest2R)
          (fun bM bE bR hb pos' aE aR S' m' ha =>
            ih (r2 :: rest2) (r2R :: rest2R) hrest2 (kb + kr + 2) bM bE bR hb
              (by rw [List.length_cons, Nat.succ_mul] at hk; omega) pos' aE aR S' m' ha)
          btM btE btR hbt rowM rowE rowR pos accE accR S m hrow hacc

/-- the whole walk, from `basis_tree[0] = st 1` and `result = st 0`, over `ndim` rows known up to `1 + 7n`
roundings that accumulate at most `B` terms: 1 rounding on `basis_tree[0]`, `7n + 3` per dimension on the
product of basis values, 2 on the product with the coefficient, 2 per accumulation -/
theorem walk_rounding (n ndim B : Nat) (rowsM rowsE rowsR : List (Nat × List F))
    (h : Rows3 ε (1 + 7 * n) rowsM rowsE rowsR) (hlen : rowsE.length = ndim) (hB : nterms rowsE ≤ B) (pos : Int) :
    Acc ε (3 + ndim * (7 * n + 3) + 2 * B)
      (@walk F (Arith.ofField F) (fun i => |coef i|) rowsM 1 pos 0)
      (@walk F (Arith.ofField F) coef rowsE 1 pos 0)
      (@walk F (Arith.rounded fl st) coef rowsR (st 1) pos (st 0)) := by
  rw [(hst 0).zero_left]
  have h := walk_err3 hε hfl hst coef (3 + ndim * (7 * n + 3)) (1 + 7 * n) _ _ _ h 1 1 1 (st 1)
    (Acc.of_relerr_nonneg hε (hst 1) zero_le_one) (by rw [hlen, show 1 + 7 * n + 2 = 7 * n + 3 by omega]; omega) pos 0 0 0 0
    (Acc.zero _)
  exact h.mono hε (by omega)

end walk

end

/-- number of coefficients in the local block: `Π (order_d + 1)` -/
def blockSize : List (Dim F) → Nat
  | [] => 1
  | d :: ds => (d.order + 1) * blockSize ds

theorem blockSize_pos : ∀ ds : List (Dim F), 0 < blockSize ds
  | [] => by simp [blockSize]
  | d :: ds => by simp only [blockSize]; exact Nat.mul_pos (by omega) (blockSize_pos ds)

end PsV
