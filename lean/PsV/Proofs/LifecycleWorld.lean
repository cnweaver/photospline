import PsV.Proofs.Lifecycle
/-! Worlds of several tables, for every configuration `Cfg`.  A call issued in the circumstances `SafeCall` keeps the world
    invariant (`step_ok`); one induction (`run_okIf`) carries that along histories whose calls are safe where they are
    issued, which for `Cfg.repaired` is every history.  `safeCallB` decides a sufficient condition for `SafeCall`. -/
namespace PsV.Lifecycle
open List

theorem World.mem_put {w : World} {i : Nat} {o x : Option Tab} (h : x ∈ (w.put i o).objs) :
    x = o ∨ x ∈ w.objs ∨ x = none := by
  simp only [World.put] at h
  rcases List.mem_or_eq_of_mem_set h with h | h
  · rcases List.mem_append.mp h with h | h
    · exact Or.inr (Or.inl h)
    · exact Or.inr (Or.inr (List.eq_of_mem_replicate h))
  · exact Or.inl h

theorem World.get_mem {w : World} {i : Nat} {t : Tab} (h : w.get i = some t) : some t ∈ w.objs := by
  simp only [World.get, List.getD_eq_getElem?_getD] at h
  cases hi : w.objs[i]? with
  | none => simp [hi] at h
  | some x =>
    simp [hi] at h
    subst h
    exact List.mem_of_getElem? hi

theorem World.get_put_same (w : World) (i : Nat) (o : Option Tab) : (w.put i o).get i = o := by
  simp only [World.get, World.put, List.getD_eq_getElem?_getD]
  rw [List.getElem?_set_self (by simp; omega)]
  rfl

theorem World.get_put_ne (w : World) {i j : Nat} (o : Option Tab) (h : i ≠ j) : (w.put i o).get j = w.get j := by
  simp only [World.get, World.put, List.getD_eq_getElem?_getD]
  rw [List.getElem?_set_ne h]
  by_cases hj : j < w.objs.length
  · rw [List.getElem?_append_left hj]
  · rw [List.getElem?_append_right (by omega)]
    have : w.objs[j]? = none := List.getElem?_eq_none (by omega)
    rw [this]
    cases hh : (List.replicate (i + 1 - w.objs.length) (none : Option Tab))[j - w.objs.length]? with
    | none => rfl
    | some x =>
      have := List.mem_of_getElem? hh
      rw [List.eq_of_mem_replicate this]
      rfl

theorem World.forall_put {P : Tab → Prop} {w : World} (h : ∀ t, some t ∈ w.objs → P t) (i : Nat) {o : Option Tab}
    (ho : ∀ t, o = some t → P t) : ∀ t, some t ∈ (w.put i o).objs → P t := by
  intro t ht
  rcases World.mem_put ht with e | e | e
  · exact ho t e.symm
  · exact h t e
  · cases e

/-- every live object is destructible and leak-free; every object that died returned all memory exactly once -/
structure World.InvX (w : World) : Prop where
  live : ∀ t, some t ∈ w.objs → t.InvX
  dead : ∀ r, r ∈ w.retired → r = ([], 0)

/-- every live object satisfies the full invariant; every object that died returned all memory exactly once -/
structure World.Inv (w : World) : Prop where
  live : ∀ t, some t ∈ w.objs → t.Inv
  dead : ∀ r, r ∈ w.retired → r = ([], 0)

/-- every live table has its `extents` arrays -/
def World.AllExt (w : World) : Prop := ∀ t, some t ∈ w.objs → t.noExtents = false

theorem World.Inv.toInvX {w : World} (h : w.Inv) : w.InvX := ⟨fun t ht => (h.live t ht).toInvX, h.dead⟩
theorem World.Inv.allExt {w : World} (h : w.Inv) : w.AllExt := fun t ht => (h.live t ht).extents
theorem World.InvX.toInv {w : World} (h : w.InvX) (hx : w.AllExt) : w.Inv :=
  ⟨fun t ht => (h.live t ht).toInv (hx t ht), h.dead⟩

theorem World.InvX.put {w : World} (h : w.InvX) (i : Nat) {o : Option Tab} (ho : ∀ t, o = some t → t.InvX) :
    (w.put i o).InvX :=
  ⟨World.forall_put h.live i ho, h.dead⟩

theorem World.Inv.put {w : World} (h : w.Inv) (i : Nat) {o : Option Tab} (ho : ∀ t, o = some t → t.Inv) :
    (w.put i o).Inv :=
  ⟨World.forall_put h.live i ho, h.dead⟩

theorem World.AllExt.put {w : World} (h : w.AllExt) (i : Nat) {o : Option Tab} (ho : ∀ t, o = some t → t.noExtents = false) :
    (w.put i o).AllExt :=
  World.forall_put h i ho

/-- what one step has to deliver: invariant kept, no undefined behaviour, `extents` kept under the condition `extOk`
    (in `step_ok`: the call is not a stacking constructor without C20-13) -/
structure StepOk (w : World) (o : StepOut) (extOk : Prop) : Prop where
  inv : o.w.InvX
  nocrash : o.res ≠ .crash
  ext : w.AllExt → extOk → o.w.AllExt

/-- The invariant and, on condition `q`, the `extents` of every live table: the two travel together through a step. -/
def World.OkIf (q : Prop) (w : World) : Prop := w.InvX ∧ (q → w.AllExt)
/-- the same of one table -/
def Tab.OkIf (q : Prop) (t : Tab) : Prop := t.InvX ∧ (q → t.noExtents = false)

theorem World.OkIf.put {q : Prop} {w : World} {t : Tab} (h : w.OkIf q) (i : Nat) (ht : t.OkIf q) :
    (w.put i (some t)).OkIf q :=
  ⟨h.1.put i fun _ e => Option.some.inj e ▸ ht.1, fun hq => (h.2 hq).put i fun _ e => Option.some.inj e ▸ ht.2 hq⟩

theorem World.OkIf.clear {q : Prop} {w : World} (h : w.OkIf q) (i : Nat) : (w.put i none).OkIf q :=
  ⟨h.1.put i (fun _ e => by cases e), fun hq => (h.2 hq).put i (fun _ e => by cases e)⟩

theorem World.OkIf.set {q : Prop} {w : World} (h : w.OkIf q) (cd : Option Nat) {ret : List (List Nat × Nat)}
    (hr : ∀ r ∈ ret, r = ([], 0)) : World.OkIf q ⟨w.objs, cd, ret⟩ :=
  ⟨⟨h.1.live, hr⟩, h.2⟩

theorem Tab.OkIf.empty {q : Prop} : Tab.empty.OkIf q := ⟨Tab.empty_invX, fun _ => rfl⟩

theorem Spec.okIf {q : Prop} {t : Tab} {o : Out} (hs : Spec t o) (ht : t.OkIf q) : o.tab.OkIf q :=
  ⟨hs.inv, fun hq => hs.ext (ht.2 hq)⟩

theorem World.InvX.okIf {w : World} (h : w.InvX) (p : Prop) : w.OkIf (w.AllExt ∧ p) := ⟨h, And.left⟩

theorem World.okIf_true {w : World} : w.OkIf True ↔ w.Inv :=
  ⟨fun h => h.1.toInv (h.2 trivial), fun h => ⟨h.toInvX, fun _ => h.allExt⟩⟩

theorem World.InvX.get {w : World} (h : w.InvX) {p : Prop} {i : Nat} {t : Tab} (hg : w.get i = some t) :
    t.OkIf (w.AllExt ∧ p) :=
  ⟨h.live t (World.get_mem hg), fun hq => hq.1 t (World.get_mem hg)⟩

theorem StepOk.of {w : World} {o : StepOut} {p : Prop} (h : o.w.OkIf (w.AllExt ∧ p)) (hr : o.res ≠ .crash) : StepOk w o p :=
  ⟨h.1, hr, fun hx hp => h.2 ⟨hx, hp⟩⟩

theorem StepOk.ofSkip {w : World} {p : Prop} (h : w.InvX) : StepOk w (Lifecycle.skip w) p :=
  .of (h.okIf p) nofun

theorem onTab_ok {w : World} {i : Nat} (f : Tab → Option Nat → Out) {p : Prop} (h : w.InvX)
    (hf : ∀ t, w.get i = some t → Spec t (f t w.cd)) : StepOk w (onTab w i f) p := by
  unfold onTab
  cases hg : w.get i with
  | none => exact StepOk.ofSkip h
  | some t => exact .of (((h.okIf p).put i ((hf t hg).okIf (h.get hg))).set _ h.dead) (hf t hg).nocrash

theorem build_res (guard : Bool) (t : Tab) (cd : Option Nat) (steps : List Step) (target : Tab) (n : Nat) :
    (build guard t cd steps target n).res = .ok ∨ (build guard t cd steps target n).res = .threw :=
  iteInduction (motive := fun o : Out => o.res = .ok ∨ o.res = .threw) (fun _ => Or.inl rfl) fun _ =>
    iteInduction (motive := fun o : Out => o.res = .ok ∨ o.res = .threw) (fun _ => Or.inr rfl) fun _ => Or.inr rfl

theorem read_res (c : Cfg) (t : Tab) (cd : Option Nat) (f : FileDesc) :
    (read c t cd f).res = .tt ∨ (read c t cd f).res = .threw := by
  unfold read
  let P : Out → Prop := fun o => o.res = .tt ∨ o.res = .threw
  refine iteInduction (motive := P) (fun _ => Or.inr rfl) fun _ => iteInduction (motive := P) (fun _ => Or.inr rfl) fun _ => ?_
  dsimp only [P]
  exact (build_res c.readGuard t cd (readSteps c f) (readTarget f t) f.dims.length).imp (fun e => if_pos e)
    fun e => (if_neg (by rw [e]; nofun)).trans e

theorem read_empty_failed {c : Cfg} {cd : Option Nat} {f : FileDesc} (hs : Spec Tab.empty (read c Tab.empty cd f))
    (hr : (read c Tab.empty cd f).res ≠ .tt) :
    (read c Tab.empty cd f).res = .threw ∧
    ((read c Tab.empty cd f).tab.ledger, (read c Tab.empty cd f).tab.bad) = ([], 0) := by
  have hres := (read_res c Tab.empty cd f).resolve_left hr
  have hnd : (read c Tab.empty cd f).tab.ndim = 0 := by
    rcases hs.threw hres with e | e
    · exact congrArg Prod.fst e
    · exact (Tab.isEmpty_iff.mp e).1
  exact ⟨hres, by rw [hs.inv.ledger_nil hnd, hs.inv.bad]⟩

theorem ledgerOf_run_release (cd : Option Nat) (steps : List Step) :
    ledgerOf ((runSteps cd steps []).1 ++ (runSteps cd steps []).2.1.map .d) = ([], 0) :=
  have h := Good.run_release (b := 0) cd steps [] [] (Perm.refl _)
  Prod.ext (perm_nil.mp h.2) h.1

/-- the three objects of the stacking constructor obtain everything they ask for -/
def StackCompletes (c : Cfg) (cd : Option Nat) (dims : List Dim) (k order : Nat) : Prop :=
  (runSteps cd ((padBlocks dims).map .a) []).2.2.2 = true ∧
  (runSteps (runSteps cd ((padBlocks dims).map .a) []).2.2.1 ((padBlocks dims).map .a) []).2.2.2 = true ∧
  (runSteps (runSteps (runSteps cd ((padBlocks dims).map .a) []).2.2.1 ((padBlocks dims).map .a) []).2.2.1
    ((stackMainBlocks c dims k order).map .a) []).2.2.2 = true

theorem StackCompletes.of_none (c : Cfg) (dims : List Dim) (k order : Nat) : StackCompletes c none dims k order := by
  have h1 := runSteps_none_ok ((padBlocks dims).map .a) [] (fail_not_mem_map_a _)
  unfold StackCompletes
  refine ⟨h1.1, ?_, ?_⟩
  · rw [h1.2]; exact h1.1
  · rw [h1.2, h1.2]; exact (runSteps_none_ok _ [] (fail_not_mem_map_a _)).1

/-- The stacking constructor keeps the invariant whatever the configuration when: C20-15 is in, or the
    arguments are usable; and for usable arguments: C20-14 is in, or no allocation fails; C20-12 is in,
    or an allocation fails. -/
def StackSafe (c : Cfg) (cd : Option Nat) (ts : List Tab) (order : Nat) : Prop :=
  (c.stackCheck = true ∨ stackValid ts = true) ∧
  (stackValid ts = true →
    (c.stackGuard = true ∨ StackCompletes c cd (ts.headD Tab.empty).dims ts.length order) ∧
    (c.stackDelete = true ∨ ¬ StackCompletes c cd (ts.headD Tab.empty).dims ts.length order))

theorem stackValid_head {ts : List Tab} (h : stackValid ts = true) : ∃ t0 rest, ts = t0 :: rest ∧ t0.ndim ≠ 0 := by
  unfold stackValid at h
  split at h
  · rename_i t0 t1 rest tl _
    refine ⟨t0, t1 :: rest, rfl, ?_⟩
    simp only [Bool.and_eq_true, bne_iff_ne, ne_eq] at h
    exact h.1.1.1
  · cases h

theorem fresh_invX {t' : Tab} {cd : Option Nat} {l : List Nat} (hown : t'.OwnX) (hl : t'.ledger = []) (hb : t'.bad = 0)
    (hok : Completes cd (l.map .a)) (hperm : l.Perm t'.blocks) : (t'.apply (runSteps cd (l.map .a) []).1).InvX := by
  refine Tab.empty_invX.apply hl hb hown ((Good.run cd _ []).perm_right ?_)
  rw [kept_of_completes hok, net_map_a, append_nil]
  exact hperm

/-- a padding table that obtained all it asked for is destroyed without a trace -/
theorem pad_destroyed {dims : List Dim} {cd : Option Nat} (hd : dims ≠ []) (hok : Completes cd ((padBlocks dims).map .a)) :
    ((destroy (padTab dims (ledgerOf (runSteps cd ((padBlocks dims).map .a) []).1))).1.ledger,
     (destroy (padTab dims (ledgerOf (runSteps cd ((padBlocks dims).map .a) []).1))).1.bad) = ([], 0) := by
  refine destroy_spec (fresh_invX (t' := padTab dims ([], 0))
    ⟨fun e => absurd (length_eq_zero_iff.mp e) hd, fun _ => ⟨rfl, rfl⟩, fun e => absurd rfl e, rfl⟩ rfl rfl hok ?_)
  refine perm_iff_count.mpr fun x => ?_
  simp only [padTab, Tab.blocks, padBlocks, fixedBlocks, auxBlocks, auxEntryBlocks, if_true, Bool.false_eq_true, if_false,
    List.flatMap_nil, List.append_nil, count_append, count_cons, count_nil]
  omega

theorem stackMain_perm (c : Cfg) (dims : List Dim) (k order : Nat) :
    (stackMainBlocks c dims k order).Perm (stackTarget c dims k order).blocks := by
  -- C20-14 only changes the order in which `strides` and the coefficients are obtained
  have hg : ∀ a b : Nat, (if c.stackGuard = true then [a, a, b] else [a, b, a]).Perm [a, a, b] := fun a b => by
    cases c.stackGuard
    · exact (Perm.swap ..).cons a
    · exact Perm.refl _
  refine (((hg ..).append_left _).append_right _).trans (perm_iff_count.mpr fun x => ?_)
  simp only [stackTarget, Tab.blocks, fixedBlocks, fixedBlocksNoExt, auxBlocks, auxEntryBlocks, if_true,
    Bool.false_eq_true, if_false, List.flatMap_nil, List.append_nil, stackDims, List.length_nil]
  rcases Bool.eq_false_or_eq_true c.stackExtents with he | he <;>
    simp only [he, Bool.not_true, Bool.not_false, if_true, if_false, Bool.false_eq_true, count_append, count_cons, count_nil] <;>
    omega

theorem stackTarget_ownX (c : Cfg) (dims : List Dim) (k order : Nat) : (stackTarget c dims k order).OwnX :=
  { empty := fun e => by simp [stackTarget] at e, full := fun _ => ⟨rfl, by simp [stackTarget, stackDims]⟩,
    auxArr := fun e => absurd rfl e, sound := rfl }

theorem stackFail_ok {c : Cfg} {w : World} {cd : Option Nat} {parts : List Part} {p : Prop} (h : w.InvX)
    (hg : c.stackGuard = true) (hp : ∀ q ∈ parts, ledgerOf (q.1 ++ q.2.map .d) = ([], 0)) :
    StepOk w (stackFail c w cd parts) p := by
  unfold stackFail
  rw [if_pos hg]
  refine .of ((h.okIf p).set _ fun r hr => ?_) nofun
  rcases List.mem_append.mp hr with e | e
  · obtain ⟨q, hq, rfl⟩ := List.mem_map.mp e
    exact hp q hq
  · exact h.dead r e

theorem ne_true_of_bnot {b : Bool} (h : (!b) = true) : b ≠ true := by
  cases b
  · nofun
  · cases h

theorem eq_true_of_not_bnot {b : Bool} (h : ¬ (!b) = true) : b = true := by
  cases b
  · exact absurd rfl h
  · rfl

theorem stack_ok (c : Cfg) {w : World} (h : w.InvX) (i : Nat) (ts : List Tab) (order : Nat)
    (hts : ∀ t ∈ ts, t.InvX) (hs : StackSafe c w.cd ts order) :
    StepOk w (stack c w i ts order) (c.stackExtents = true) := by
  obtain ⟨hs1, hs2⟩ := hs
  unfold stack
  let P : StepOut → Prop := fun o => StepOk w o (c.stackExtents = true)
  refine iteInduction (motive := P) (fun hv => ?_) fun hv => ?_
  · -- unusable arguments are refused
    rw [if_pos (hs1.resolve_right fun e => by rw [e] at hv; cases hv)]
    exact .of ((h.okIf _).set _ (forall_mem_cons.mpr ⟨rfl, h.dead⟩)) nofun
  have hv : stackValid ts = true := by simpa using hv
  obtain ⟨hguard, hdel⟩ := hs2 hv
  obtain ⟨t0, rest, rfl, hnd⟩ := stackValid_head hv
  have hd : t0.dims ≠ [] := fun e => hnd (by rw [← ((hts t0 mem_cons_self).full hnd).2, e]; rfl)
  -- an allocation that fails leaves the constructor incomplete, so the guard is in force
  have hfail : ∀ {cd parts}, ¬ StackCompletes c w.cd t0.dims (t0 :: rest).length order →
      (∀ q ∈ parts, ledgerOf (q.1 ++ q.2.map .d) = ([], 0)) → StepOk w (stackFail c w cd parts) (c.stackExtents = true) :=
    fun hn hp => stackFail_ok h (hguard.resolve_right hn) hp
  have hrel := ledgerOf_run_release
  dsimp only [headD_cons]
  refine iteInduction (motive := P) (fun h1 => hfail (fun hc => ne_true_of_bnot h1 hc.1) (forall_mem_singleton.mpr (hrel ..))) fun h1 => ?_
  refine iteInduction (motive := P) (fun h2 => hfail (fun hc => ne_true_of_bnot h2 hc.2.1)
    (forall_mem_cons.mpr ⟨hrel .., forall_mem_singleton.mpr (hrel ..)⟩)) fun h2 => ?_
  refine iteInduction (motive := P) (fun h3 => hfail (fun hc => ne_true_of_bnot h3 hc.2.2)
    (forall_mem_cons.mpr ⟨hrel .., forall_mem_cons.mpr ⟨hrel .., forall_mem_singleton.mpr (hrel ..)⟩⟩)) fun h3 => ?_
  have hall : StackCompletes c w.cd t0.dims (t0 :: rest).length order := ⟨eq_true_of_not_bnot h1, eq_true_of_not_bnot h2, eq_true_of_not_bnot h3⟩
  -- every allocation succeeded: the paddings are deleted (C20-12), the new table owns what it obtained
  refine iteInduction (motive := P) (fun _ => ?_) fun hn => absurd hall (hdel.resolve_left hn)
  have hnew := fresh_invX (stackTarget_ownX c t0.dims (t0 :: rest).length order) rfl rfl hall.2.2 (stackMain_perm ..)
  have hdead : ∀ r ∈ _ :: _ :: w.retired, r = ([], 0) :=
    forall_mem_cons.mpr ⟨pad_destroyed hd hall.1, forall_mem_cons.mpr ⟨pad_destroyed hd hall.2.1, h.dead⟩⟩
  exact .of (((h.okIf _).put i ⟨hnew, fun hq => by show (!c.stackExtents) = false; rw [hq.2]; rfl⟩).set _ hdead) nofun

theorem mapM_get_mem {w : World} : ∀ {srcs : List Nat} {ts : List Tab}, srcs.mapM w.get = some ts →
    ∀ t ∈ ts, some t ∈ w.objs := by
  intro srcs
  induction srcs with
  | nil => intro ts h t ht; simp at h; subst h; cases ht
  | cons a l ih =>
    intro ts h t ht
    rw [List.mapM_cons] at h
    cases ha : w.get a with
    | none => simp [ha] at h
    | some x =>
      cases hl : l.mapM w.get with
      | none => simp [ha, hl] at h
      | some xs =>
        simp [ha, hl] at h
        subst h
        rcases List.mem_cons.mp ht with e | e
        · subst e; exact World.get_mem ha
        · exact ih hl t e

theorem stackFail_objs (c : Cfg) (w : World) (cd : Option Nat) (parts : List Part) :
    (stackFail c w cd parts).w.objs = w.objs := by
  unfold stackFail; split <;> rfl

theorem stack_get_ne (c : Cfg) (w : World) {i j : Nat} (ts : List Tab) (order : Nat) (hj : i ≠ j) :
    (stack c w i ts order).w.get j = w.get j := by
  simp only [stack]
  -- what the three objects obtain plays no part
  generalize runSteps w.cd _ [] = r1
  generalize runSteps r1.2.2.1 _ [] = r2
  generalize runSteps r2.2.2.1 _ [] = r3
  let P : StepOut → Prop := fun o => o.w.get j = w.get j
  have hf : ∀ cd parts, P (stackFail c w cd parts) := fun cd parts => congrArg (·.getD j none) (stackFail_objs ..)
  have hp : ∀ t cd ret r e d, P ⟨{ (w.put i (some t)) with cd := cd, retired := ret }, r, e, d⟩ :=
    fun _ _ _ _ _ _ => World.get_put_ne w _ hj
  exact iteInduction (motive := P) (fun _ => iteInduction (motive := P) (fun _ => rfl) fun _ => rfl) fun _ =>
    iteInduction (motive := P) (fun _ => hf ..) fun _ => iteInduction (motive := P) (fun _ => hf ..) fun _ =>
      iteInduction (motive := P) (fun _ => hf ..) fun _ => iteInduction (motive := P) (fun _ => hp ..) fun _ => hp ..

theorem moved_from_empty (c : Cfg) (hc : c.moveAssignRelease = true) (w : World) (i j : Nat) (hij : i ≠ j) :
    ((step c w (.moveConstruct i j)).done = true → (step c w (.moveConstruct i j)).w.get j = some Tab.empty) ∧
    ((step c w (.moveAssign i j)).done = true → (step c w (.moveAssign i j)).w.get j = some Tab.empty) := by
  constructor <;> simp only [step]
  · cases w.get i with
    | some _ => cases w.get j <;> nofun
    | none =>
      cases w.get j with
      | none => nofun
      | some s => exact fun _ => World.get_put_same _ _ _
  · cases w.get i with
    | none => cases w.get j <;> nofun
    | some t =>
      cases w.get j with
      | none => nofun
      | some s =>
        dsimp only
        rw [if_neg hij, if_pos hc]
        exact fun _ => World.get_put_same _ _ _

def Op.isStack : Op → Bool
  | .stack _ _ _ => true
  | _ => false

/-- The circumstances under which a call keeps the invariant and has defined behaviour **whatever
    the configuration**: for each repair, either it is in force or the call does not run into the
    defect it repairs.  For `Cfg.repaired` this is `True` of every call in a world whose tables have
    their `extents` (`safeCall_repaired`). -/
def SafeCall (c : Cfg) (w : World) : Op → Prop
  | .construct _ | .getKey _ _ | .writeFits _ _ | .destroy _ | .moveConstruct _ _ | .moveAssign _ _ => True
  | .constructFile i f => w.get i = none → ReadSafe c w.cd f
  | .read i f => ∀ t, w.get i = some t → t.ndim ≠ 0 ∨ ReadSafe c w.cd f
  | .fit i a => ∀ t, w.get i = some t → FitSafe c w.cd t a
  | .writeKey i a => ∀ t, w.get i = some t → WriteKeySafe c t a
  | .removeKey i id => ∀ t, w.get i = some t → RemoveKeySafe c w.cd t id
  | .convolve i dim nk => ∀ t, w.get i = some t → ConvSafe c w.cd t dim nk
  | .permute i p => ∀ t, w.get i = some t → PermSafe c t p
  | .compare i j => ∀ t s, w.get i = some t → w.get j = some s → c.eqEmpty = true ∨ t.ndim ≠ 0 ∨ s.ndim ≠ 0
  | .stack i srcs order => w.get i = none → ∀ ts, srcs.mapM w.get = some ts → StackSafe c w.cd ts order

/-- every operation on a single table is `onTab` of a call that meets its specification when issued safely -/
theorem target_spec (c : Cfg) (w : World) {op : Op} {i : Nat} (hop : op.target = some i) :
    ∃ f, step c w op = onTab w i f ∧ ∀ t, w.get i = some t → t.InvX → SafeCall c w op → Spec t (f t w.cd) := by
  cases op with
  | read j f => cases hop; exact ⟨(read c · · f), rfl, fun t ht hi hs => read_spec c t _ f hi (hs t ht)⟩
  | fit j a => cases hop; exact ⟨(fit c · · a), rfl, fun t ht hi hs => fit_spec c t _ a hi (hs t ht)⟩
  | writeKey j a => cases hop; exact ⟨(writeKey c · · a), rfl, fun t ht hi hs => writeKey_spec c t _ a hi (hs t ht)⟩
  | removeKey j id => cases hop; exact ⟨(removeKey c · · id), rfl, fun t ht hi hs => removeKey_spec c t _ id hi (hs t ht)⟩
  | getKey j id => cases hop; exact ⟨(getKey · · id), rfl, fun t _ hi _ => getKey_spec t _ id hi⟩
  | convolve j dim nk => cases hop; exact ⟨(convolve c · · dim nk), rfl, fun t ht hi hs => convolve_spec c t _ dim nk hi (hs t ht)⟩
  | permute j p => cases hop; exact ⟨(permute c · · p), rfl, fun t ht hi hs => permute_spec c t _ p hi (hs t ht)⟩
  | writeFits j ioOk => cases hop; exact ⟨(writeFits · · ioOk), rfl, fun t _ hi _ => writeFits_spec t _ ioOk hi⟩
  | _ => cases hop

theorem step_ok (c : Cfg) {w : World} (h : w.InvX) (op : Op) (hs : SafeCall c w op) :
    StepOk w (step c w op) (c.stackExtents = true ∨ op.isStack = false) := by
  have live := fun {i t} (hg : w.get i = some t) => h.live t (World.get_mem hg)
  cases hop : op.target with
  | some i =>
    obtain ⟨f, e, hf⟩ := target_spec c w hop
    rw [e]
    exact onTab_ok f h fun t ht => hf t ht (live ht) hs
  | none =>
  cases op with
  | construct i =>
    simp only [step]
    cases w.get i with
    | some _ => exact .ofSkip h
    | none => exact .of ((h.okIf _).put i .empty) nofun
  | constructFile i f =>
    simp only [step]
    cases hg : w.get i with
    | some _ => exact .ofSkip h
    | none =>
      have hsp := read_spec c Tab.empty w.cd f Tab.empty_invX (Or.inr (hs hg))
      refine iteInduction (motive := fun o => StepOk w o _) (fun _ => ?_) fun hr => ?_
      · exact .of (((h.okIf _).put i (hsp.okIf .empty)).set _ h.dead) nofun
      · -- the constructor threw: what it had obtained is returned (C07 / C20-11)
        obtain ⟨hres, hled⟩ := read_empty_failed hsp hr
        exact .of ((h.okIf _).set _ (forall_mem_cons.mpr ⟨hled, h.dead⟩)) (by rw [hres]; nofun)
  | moveConstruct i j =>
    simp only [step]
    cases w.get i with
    | some _ => cases w.get j <;> exact .ofSkip h
    | none =>
      cases hj : w.get j with
      | none => exact .ofSkip h
      | some s => exact .of (((h.okIf _).put i (h.get hj)).put j .empty) nofun
  | moveAssign i j =>
    simp only [step]
    cases hi : w.get i with
    | none => cases w.get j <;> exact .ofSkip h
    | some t =>
      cases hj : w.get j with
      | none => exact .ofSkip h
      | some s =>
        have h1 := (h.okIf (c.stackExtents = true ∨ (Op.moveAssign i j).isStack = false)).put i (h.get hj)
        refine iteInduction (motive := fun o => StepOk w o _) (fun _ => .of (h.okIf _) nofun) fun _ =>
          iteInduction (motive := fun o => StepOk w o _) (fun _ => ?_) fun _ => .of (h1.put j (h.get hi)) nofun
        -- the temporary holding the target's old contents dies
        exact .of ((h1.put j .empty).set _ (forall_mem_cons.mpr ⟨destroy_spec (live hi), h.dead⟩)) nofun
  | compare i j =>
    simp only [step]
    cases hi : w.get i with
    | none => cases w.get j <;> exact .ofSkip h
    | some t =>
      cases hj : w.get j with
      | none => exact .ofSkip h
      | some s =>
        let P : StepOut → Prop := fun o => StepOk w o (c.stackExtents = true ∨ (Op.compare i j).isStack = false)
        have ok : ∀ r, r ≠ .crash → P ⟨w, r, [], true⟩ := fun r hr => .of (h.okIf _) hr
        dsimp only
        refine iteInduction (motive := P) (fun _ => ok _ nofun) fun hne =>
          iteInduction (motive := P) (fun h0 => ok _ ?_) fun _ => ok _ nofun
        -- both tables are empty: only the repaired `operator==` (C20-7) survives this
        have : c.eqEmpty = true := by
          rcases hs t s hi hj with h1 | h1 | h1
          · exact h1
          · exact absurd h0 h1
          · exact absurd ((Decidable.not_not.mp hne).symm.trans h0) h1
        rw [if_pos this]; nofun
  | destroy i =>
    simp only [step]
    cases hi : w.get i with
    | none => exact .ofSkip h
    | some t => exact .of (((h.okIf _).clear i).set _ (forall_mem_cons.mpr ⟨destroy_spec (live hi), h.dead⟩)) nofun
  | stack i srcs order =>
    simp only [step]
    cases hi : w.get i with
    | some _ => exact .ofSkip h
    | none =>
      cases hm : srcs.mapM w.get with
      | none => exact .ofSkip h
      | some ts =>
        have hok := stack_ok c h i ts order (fun t ht => h.live t (mapM_get_mem hm t ht)) (hs hi ts hm)
        exact ⟨hok.inv, hok.nocrash, fun hx he => hok.ext hx (he.resolve_right (by simp [Op.isStack]))⟩
  | _ => cases hop

/-- every call of the history is issued in circumstances in which it is safe (see `SafeCall`) -/
def SafeHist (c : Cfg) : World → List Op → Prop
  | _, [] => True
  | w, op :: ops => SafeCall c w op ∧ SafeHist c (step c w op).w ops

theorem safeHist_append (c : Cfg) : ∀ {w : World} (pre ops : List Op),
    SafeHist c w (pre ++ ops) ↔ SafeHist c w pre ∧ SafeHist c (run c w pre) ops
  | _, [], _ => ⟨fun h => ⟨trivial, h⟩, And.right⟩
  | _, _ :: pre, ops => (and_congr_right fun _ => safeHist_append c pre ops).trans and_assoc.symm

theorem SafeHist.safeCall {c : Cfg} {w : World} {ops pre : List Op} {op : Op} {post : List Op} (hs : SafeHist c w ops)
    (e : ops = pre ++ op :: post) : SafeCall c (run c w pre) op :=
  ((safeHist_append c pre (op :: post)).mp (e ▸ hs)).2.1

/-- The one induction along a history: if every call is safe where it is issued — which may be assumed only of worlds that
    satisfy the invariant — the invariant is kept, and so are, on a condition `q` that may hold only if no stacking
    constructor without C20-13 runs, the `extents` of every live table. -/
theorem run_okIf (c : Cfg) {q : Prop} : ∀ {w : World} (ops : List Op), w.OkIf q →
    (∀ pre op post, ops = pre ++ op :: post → (run c w pre).OkIf q → SafeCall c (run c w pre) op) →
    (q → c.stackExtents = true ∨ ∀ op ∈ ops, op.isStack = false) → (run c w ops).OkIf q := by
  intro w ops
  induction ops generalizing w with
  | nil => intro h _ _; exact h
  | cons op ops ih =>
    intro h hs he
    have hk := step_ok c h.1 op (hs [] op ops rfl h)
    exact ih ⟨hk.inv, fun hq => hk.ext (h.2 hq) ((he hq).imp id fun h' => h' op mem_cons_self)⟩
      (fun pre o post e => hs (op :: pre) o post (e ▸ rfl))
      fun hq => (he hq).imp id fun h' o ho => h' o (mem_cons_of_mem _ ho)

theorem run_invX (c : Cfg) {w : World} (ops : List Op) (h : w.InvX) (hs : SafeHist c w ops) : (run c w ops).InvX :=
  (run_okIf c ops ⟨h, False.elim⟩ (fun _ _ _ e _ => hs.safeCall e) False.elim).1

theorem run_inv_of (c : Cfg) {w : World} (ops : List Op) (h : w.Inv) (hs : SafeHist c w ops)
    (he : c.stackExtents = true ∨ ∀ op ∈ ops, op.isStack = false) : (run c w ops).Inv :=
  World.okIf_true.mp (run_okIf c ops (World.okIf_true.mpr h) (fun _ _ _ e _ => hs.safeCall e) fun _ => he)

theorem safeHist_destroys (c : Cfg) : ∀ (w : World) (l : List Nat), SafeHist c w (l.map Op.destroy) := by
  intro w l
  induction l generalizing w with
  | nil => trivial
  | cons a l ih => exact ⟨trivial, ih _⟩

theorem run_nocrash (c : Cfg) {w : World} (ops pre : List Op) (op : Op) (post : List Op) (h : w.InvX)
    (hs : SafeHist c w ops) (e : ops = pre ++ op :: post) : (step c (run c w pre) op).res ≠ .crash :=
  (step_ok c (run_invX c pre h ((safeHist_append c pre (op :: post)).mp (e ▸ hs)).1) op (hs.safeCall e)).nocrash

theorem step_stackCfg (c : Cfg) (e g k : Bool) (w : World) (op : Op) (hs : op.isStack = false) :
    step { c with stackExtents := e, stackGuard := g, stackCheck := k } w op = step c w op := by
  cases op with
  | stack => cases hs
  | _ => rfl

theorem run_congr {c c' : Cfg} : ∀ {ops : List Op} (w : World), (∀ op ∈ ops, ∀ w, step c w op = step c' w op) →
    run c w ops = run c' w ops
  | [], _, _ => List.foldl_nil
  | op :: ops, w, h => by
    simp only [run, List.foldl_cons]
    rw [h op List.mem_cons_self w]
    exact run_congr _ fun o ho => h o (List.mem_cons_of_mem _ ho)

/-- With the twelve repairs outside the stacking constructor in force a call is safe, given what the remaining three
    are about: `convolve` / `permuteDimensions` do not read `extents` that are missing, and the stacking constructor
    is safe. -/
theorem safeCall_of (c : Cfg) (hc : { c with stackExtents := true, stackGuard := true, stackCheck := true } = Cfg.repaired)
    (w : World) (op : Op)
    (hconv : ∀ i dim nk, op = .convolve i dim nk → ∀ t, w.get i = some t → t.noExtents = false ∨ t.ndim ≤ dim ∨ nk = 0)
    (hperm : ∀ i p, op = .permute i p → ∀ t, w.get i = some t → t.noExtents = false ∨ p.isPerm (List.range t.ndim) = false)
    (hstack : ∀ i srcs order, op = .stack i srcs order → ∀ ts, srcs.mapM w.get = some ts → StackSafe c w.cd ts order) :
    SafeCall c w op := by
  cases c
  cases hc
  cases op with
  | constructFile i f => exact fun _ => ⟨Or.inl rfl, Or.inl rfl⟩
  | read i f => exact fun t _ => Or.inr ⟨Or.inl rfl, Or.inl rfl⟩
  | fit i a => exact fun t _ => ⟨Or.inl rfl, Or.inl rfl⟩
  | writeKey i a => exact fun t _ => Or.inl rfl
  | removeKey i id => exact fun t _ => Or.inl rfl
  | convolve i dim nk => exact fun t ht => ⟨Or.inl rfl, hconv _ _ _ rfl t ht, Or.inl rfl⟩
  | permute i p => exact fun t ht => ⟨Or.inl rfl, hperm _ _ rfl t ht⟩
  | compare i j => exact fun t s _ _ => Or.inl rfl
  | stack i srcs order => exact fun _ ts hm => hstack _ _ _ rfl ts hm
  | _ => trivial

theorem safeCall_repaired {w : World} (hx : w.AllExt) (op : Op) : SafeCall Cfg.repaired w op :=
  safeCall_of _ rfl w op (fun _ _ _ _ t ht => Or.inl (hx t (World.get_mem ht))) (fun _ _ _ t ht => Or.inl (hx t (World.get_mem ht)))
    fun _ _ _ _ _ _ => ⟨Or.inl rfl, fun _ => ⟨Or.inl rfl, Or.inl rfl⟩⟩

theorem World.init_inv (cd : Option Nat) : (World.init cd).Inv :=
  ⟨fun t h => by simp [World.init] at h, fun r h => by simp [World.init] at h⟩

theorem run_inv {w : World} (h : w.Inv) (ops : List Op) : (run Cfg.repaired w ops).Inv :=
  World.okIf_true.mp (run_okIf Cfg.repaired ops (World.okIf_true.mpr h)
    (fun _ op _ _ h' => safeCall_repaired (h'.2 trivial) op) fun _ => Or.inl rfl)

theorem reach_inv (cd : Option Nat) (ops : List Op) : (run Cfg.repaired (World.init cd) ops).Inv :=
  run_inv (World.init_inv cd) ops

theorem Tab.InvX.checks {t : Tab} (h : t.InvX) : t.ownXB = true ∧ t.balancedB = true := by
  have haux : (t.aux.isEmpty || t.auxArr) = true := by
    cases ha : t.aux with
    | nil => rfl
    | cons a l => exact h.auxArr (by rw [ha]; exact cons_ne_nil _ _)
  refine ⟨?_, by simp [Tab.balancedB, List.isPerm_iff, h.ledger, h.bad]⟩
  unfold Tab.ownXB
  rw [haux, h.sound]
  by_cases h0 : t.ndim = 0
  · obtain ⟨a, b, c, d, e, f⟩ := h.empty h0
    simp [h0, Tab.isEmpty_iff.mpr ⟨h0, a, b, c, d, e, h.sound, f⟩]
  · simp [h0, h.full h0]

theorem World.Inv.okB {w : World} (h : w.Inv) : w.okB = true := by
  unfold World.okB
  rw [Bool.and_eq_true, all_eq_true, all_eq_true]
  refine ⟨fun o ho => ?_, fun r hr => by rw [h.dead r hr]; rfl⟩
  cases o with
  | none => rfl
  | some t =>
    have ht := h.live t ho
    show (t.ownXB && !t.noExtents && t.balancedB) = true
    rw [ht.toInvX.checks.1, ht.toInvX.checks.2, ht.extents]; rfl

def completesB (cd : Option Nat) (steps : List Step) : Bool := (runSteps cd steps []).2.2.2

def readSafeB (c : Cfg) (cd : Option Nat) (f : FileDesc) : Bool :=
  (c.readGuard || completesB cd (readSteps c f)) && (c.readAuxExact || f.aux.all fun e => e.stored == e.raw)

def stackCompletesB (c : Cfg) (cd : Option Nat) (dims : List Dim) (k order : Nat) : Bool :=
  (runSteps cd ((padBlocks dims).map .a) []).2.2.2 &&
  (runSteps (runSteps cd ((padBlocks dims).map .a) []).2.2.1 ((padBlocks dims).map .a) []).2.2.2 &&
  (runSteps (runSteps (runSteps cd ((padBlocks dims).map .a) []).2.2.1 ((padBlocks dims).map .a) []).2.2.1
    ((stackMainBlocks c dims k order).map .a) []).2.2.2

def onGet (w : World) (i : Nat) (p : Tab → Bool) : Bool :=
  match w.get i with
  | none => true
  | some t => p t

def safeCallB (c : Cfg) (w : World) : Op → Bool
  | .construct _ | .getKey _ _ | .writeFits _ _ | .destroy _ | .moveConstruct _ _ | .moveAssign _ _ => true
  | .constructFile _ f => readSafeB c w.cd f
  | .read i f => onGet w i fun t => t.ndim != 0 || readSafeB c w.cd f
  | .fit i a => onGet w i fun t =>
      (c.fitRefuse || t.ndim == 0 || !a.valid || a.dims.isEmpty) && (c.fitGuard || completesB w.cd (fitSteps a))
  | .writeKey i a => onGet w i fun t => c.writeKeyRefuse || t.ndim != 0 || a.kind != 0
  | .removeKey i id => onGet w i fun t =>
      c.removeKeyFirst || (findIdx t.aux id).isNone || completesB w.cd [.a (8 * (t.aux.length - 1))]
  | .convolve i dim nk => onGet w i fun t =>
      (c.convCheck || (decide (dim < t.ndim) && nk != 0)) && (!t.noExtents || decide (t.ndim ≤ dim) || nk == 0) &&
      (c.convGuard || completesB w.cd (convSteps t dim nk))
  | .permute i p => onGet w i fun t =>
      (c.permuteEmpty || t.ndim != 0 || !p.isPerm (List.range t.ndim)) && (!t.noExtents || !p.isPerm (List.range t.ndim))
  | .compare i j => onGet w i fun t => onGet w j fun s => c.eqEmpty || t.ndim != 0 || s.ndim != 0
  | .stack _ srcs order => match srcs.mapM w.get with
    | none => true
    | some ts =>
      (c.stackCheck || stackValid ts) &&
      (!stackValid ts ||
        ((c.stackGuard || stackCompletesB c w.cd (ts.headD Tab.empty).dims ts.length order) &&
         (c.stackDelete || !stackCompletesB c w.cd (ts.headD Tab.empty).dims ts.length order)))

theorem onGet_sound {w : World} {i : Nat} {p : Tab → Bool} (h : onGet w i p = true) {t : Tab} (ht : w.get i = some t) :
    p t = true := by
  simpa [onGet, ht] using h

theorem readSafeB_sound {c : Cfg} {cd : Option Nat} {f : FileDesc} (h : readSafeB c cd f = true) : ReadSafe c cd f := by
  simp only [readSafeB, completesB, Bool.and_eq_true, Bool.or_eq_true, List.all_eq_true, beq_iff_eq] at h
  exact ⟨h.1, h.2⟩

theorem stackCompletesB_iff {c : Cfg} {cd : Option Nat} {dims : List Dim} {k order : Nat} :
    stackCompletesB c cd dims k order = true ↔ StackCompletes c cd dims k order := by
  simp only [stackCompletesB, StackCompletes, Bool.and_eq_true, and_assoc]

theorem safeCallB_sound {c : Cfg} {w : World} {op : Op} (h : safeCallB c w op = true) : SafeCall c w op := by
  cases op with
  | construct | getKey | writeFits | destroy | moveConstruct | moveAssign => trivial
  | constructFile i f => exact fun _ => readSafeB_sound h
  | read i f =>
    intro t ht
    have := onGet_sound h ht
    simp only [Bool.or_eq_true, bne_iff_ne, ne_eq] at this
    exact this.imp id readSafeB_sound
  | fit i a =>
    intro t ht
    simpa only [FitSafe, Completes, completesB, Bool.and_eq_true, Bool.or_eq_true, beq_iff_eq, Bool.not_eq_true', List.isEmpty_iff, or_assoc]
      using onGet_sound h ht
  | writeKey i a =>
    intro t ht
    simpa only [WriteKeySafe, Bool.or_eq_true, bne_iff_ne, ne_eq, or_assoc] using onGet_sound h ht
  | removeKey i id =>
    intro t ht
    simpa only [RemoveKeySafe, Completes, completesB, Bool.or_eq_true, Option.isNone_iff_eq_none, or_assoc] using onGet_sound h ht
  | convolve i dim nk =>
    intro t ht
    simpa only [ConvSafe, Completes, completesB, Bool.and_eq_true, Bool.or_eq_true, decide_eq_true_eq, bne_iff_ne, ne_eq, Bool.not_eq_true', beq_iff_eq, or_assoc, and_assoc]
      using onGet_sound h ht
  | permute i p =>
    intro t ht
    simpa only [PermSafe, Bool.and_eq_true, Bool.or_eq_true, bne_iff_ne, ne_eq, Bool.not_eq_true', or_assoc] using onGet_sound h ht
  | compare i j =>
    intro t s ht hs
    simpa only [Bool.or_eq_true, bne_iff_ne, ne_eq, or_assoc] using onGet_sound (onGet_sound h ht) hs
  | stack i srcs order =>
    intro _ ts hm
    simp only [safeCallB, hm, Bool.and_eq_true, Bool.or_eq_true, Bool.not_eq_true', stackCompletesB_iff] at h
    obtain ⟨h1, h2⟩ := h
    refine ⟨h1, fun hv => ?_⟩
    rcases h2 with h2 | h2
    · rw [hv] at h2; cases h2
    · refine ⟨h2.1, h2.2.imp id fun h3 hc => ?_⟩
      rw [← stackCompletesB_iff, h3] at hc; cases hc
def safeHistB (c : Cfg) : World → List Op → Bool
  | _, [] => true
  | w, op :: ops => safeCallB c w op && safeHistB c (step c w op).w ops

theorem safeHistB_sound {c : Cfg} : ∀ {w : World} {ops : List Op}, safeHistB c w ops = true → SafeHist c w ops := by
  intro w ops
  induction ops generalizing w with
  | nil => intro _; trivial
  | cons op ops ih =>
    intro h
    simp only [safeHistB, Bool.and_eq_true] at h
    exact ⟨safeCallB_sound h.1, ih h.2⟩

end PsV.Lifecycle
