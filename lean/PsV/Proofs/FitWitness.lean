import PsV.Proofs.Fit
import PsV.Model.FitEntry
import PsV.Model.Lifecycle
/-! The argument tuples `Props/C13.lean` is exercised on: the witnesses of the missing checks, a consistent example, the family
    `uniArgs` of consistent tuples of any size (for the two witnesses too large to evaluate), and `toLifecycle`, what C20's
    model keeps of an argument tuple. -/
namespace PsV.Fit

theorem sortedB_replicate (n : Nat) (k : Int) : sortedB (List.replicate n (some k)) = true := by
  induction n with
  | zero => rfl
  | succ n ih =>
    cases n with
    | zero => rfl
    | succ m =>
      simp only [List.replicate_succ] at ih ⊢
      simp [sortedB, keyLt, ih]

/-- the knots `0, 1, …, n-1` -/
def iotaKnots (n : Nat) : List (Option Int) := (List.range' 0 n).map fun i => some (Int.ofNat i)

theorem sortedB_range' (n s : Nat) : sortedB ((List.range' s n).map fun i => some (Int.ofNat i)) = true := by
  induction n generalizing s with
  | zero => rfl
  | succ n ih =>
    cases n with
    | zero => rfl
    | succ m =>
      have h := ih (s + 1)
      simp only [List.range'_succ, List.map_cons] at h ⊢
      simp only [sortedB, keyLt, h, Bool.and_true, Bool.not_eq_true', decide_eq_false_iff_not]
      simp only [Int.ofNat_eq_natCast]
      omega

theorem sortedB_iotaKnots (n : Nat) : sortedB (iotaKnots n) = true := sortedB_range' n 0

theorem length_iotaKnots (n : Nat) : (iotaKnots n).length = n := by simp [iotaKnots]

/-- A family of consistent argument tuples of any size: `nd` dimensions, each with `nk` knots `0..nk-1`, order `ord`,
    `npts` abscissae; one data point (all indices 0); no smoothing, penalty order 0. -/
def uniArgs (nd nk ord npts mono : Nat) : Args :=
  ⟨⟨1, nd, List.replicate nd npts, List.replicate nd [0]⟩, 1, List.replicate nd npts, List.replicate nd ord,
   List.replicate nd (iotaKnots nk), [false], [0], mono⟩

section uni
variable {nd nk ord npts mono i : Nat}

theorem uni_knotsAt (h : i < nd) : (uniArgs nd nk ord npts mono).knotsAt i = iotaKnots nk :=
  getD_replicate h _ _
theorem uni_nkAt (h : i < nd) : (uniArgs nd nk ord npts mono).nkAt i = nk := by
  rw [Args.nkAt, uni_knotsAt h, length_iotaKnots]
theorem uni_ordAt (h : i < nd) : (uniArgs nd nk ord npts mono).ordAt i = ord := getD_replicate h _ _
theorem uni_rangeOf (h : i < nd) : (uniArgs nd nk ord npts mono).rangeOf i = npts := getD_replicate h _ _
theorem uni_coordLen (h : i < nd) : (uniArgs nd nk ord npts mono).coordLen i = npts := getD_replicate h _ _
theorem uni_idxCol (h : i < nd) : (uniArgs nd nk ord npts mono).idxCol i = [0] := getD_replicate h _ _
theorem uni_nsplAt (h : i < nd) (hk : ord + 1 ≤ nk) : (uniArgs nd nk ord npts mono).nsplAt i = nk - ord - 1 := by
  simp only [Args.nsplAt, uni_nkAt h, uni_ordAt h]; exact nsplinesOf_eq hk

theorem uni_wf : (uniArgs nd nk ord npts mono).data.WF :=
  ⟨List.length_replicate, List.length_replicate, fun c hc => by rw [List.eq_of_mem_replicate hc]; rfl⟩

theorem uni_checks (hnd : 1 ≤ nd) (hnp : 1 ≤ npts) (hk : 2 * ord + 2 ≤ nk)
    (hm : mono = noMonodim ∨ mono < nd) : fitChecks repaired (uniArgs nd nk ord npts mono) = .ok := by
  have len : ∀ {α} {x : α} {i}, i < nd → i < (List.replicate nd x).length := fun h => List.length_replicate ▸ h
  refine (fitChecks_ok_iff _).mpr ⟨rfl, Nat.ne_of_gt hnd, Nat.one_ne_zero, fun i (hi : i < nd) => ?_,
    List.length_replicate, fun i (hi : i < nd) => ?_, List.length_replicate, List.length_replicate,
    fun i (hi : i < nd) => ?_, Or.inr rfl, Or.inr rfl, fun i hi => ⟨Nat.one_pos, len hi, Nat.zero_le _⟩, hm⟩
  · rw [uni_idxCol hi, uni_rangeOf hi]
    exact ⟨len hi, Nat.one_pos, len hi, hnp⟩
  · rw [uni_coordLen hi, uni_rangeOf hi]
    exact ⟨len hi, Nat.le_refl _⟩
  · rw [uni_knotsAt hi, uni_ordAt hi, uni_nkAt hi]
    exact ⟨len hi, sortedB_iotaKnots nk, len hi, hk⟩

theorem prodL_replicate (n c : Nat) : prodL (List.replicate n c) = c ^ n :=
  (prodL_eq _).trans List.prod_replicate_nat

theorem uni_ncoeffs (hk : ord + 1 ≤ nk) : ncoeffs (uniArgs nd nk ord npts mono) = (nk - ord - 1) ^ nd := by
  unfold ncoeffs
  have : (uniArgs nd nk ord npts mono).data.ndim = nd := rfl
  rw [this, map_range_const (c := nk - ord - 1) fun i hi => uni_nsplAt hi hk, prodL_replicate]
end uni

/-- What C20's model keeps of an argument tuple: whether the sanity block accepts it (`valid`), whether
    `glamfit_complex` succeeds, and the dimensions of the table that is built. -/
def toLifecycle (a : Args) (x : Ext) : PsV.Lifecycle.FitArgs :=
  { valid := decide (fitChecks repaired a = .ok)
    glamOk := decide (x ≠ .glamFailed)
    dims := (List.range a.data.ndim).map fun i => ⟨a.ordAt i, a.nkAt i, a.nsplAt i⟩ }

theorem toLifecycle_dims_length (a : Args) (x : Ext) : (toLifecycle a x).dims.length = a.data.ndim := by
  simp [toLifecycle]

def kn (l : List Int) : List (Option Int) := l.map some

/-- 1-d, one data point with index 0, index range 3, but only one coordinate: `bsplinebasis` reads `x[1]`, `x[2]`. -/
def wShortCoords : Args := ⟨⟨1, 1, [3], [[0]]⟩, 1, [1], [1], [kn [0, 1, 2, 3]], [false], [0], noMonodim⟩
/-- order 2 with 3 knots: zero basis functions (`naxes = 0`), an unusable table is built without complaint -/
def wThreeKnots : Args := ⟨⟨1, 1, [1], [[0]]⟩, 1, [1], [2], [kn [0, 1, 2]], [false], [0], noMonodim⟩
/-- order 2 with 2 knots: `naxes = nknots-order-1` wraps to 2^64-1 -/
def wTwoKnots : Args := ⟨⟨1, 1, [1], [[0]]⟩, 1, [1], [2], [kn [0, 1]], [false], [0], noMonodim⟩
/-- order 1, penalty order 3 = order+2, 8 knots -/
def wPenalty : Args := ⟨⟨1, 1, [1], [[0]]⟩, 1, [1], [1], [kn [0, 1, 2, 3, 4, 5, 6, 7]], [true], [3], noMonodim⟩
/-- order 0 with a penalty term -/
def wOrderZero : Args := ⟨⟨1, 1, [1], [[0]]⟩, 1, [1], [0], [kn [0, 1]], [true], [0], noMonodim⟩
/-- no data points -/
def wNoRows : Args := ⟨⟨0, 1, [3], [[]]⟩, 0, [3], [1], [kn [0, 1, 2, 3]], [false], [0], noMonodim⟩
/-- no dimensions -/
def wNoDims : Args := ⟨⟨1, 0, [], []⟩, 1, [], [], [], [true], [0], noMonodim⟩

/-- a consistent 2-d problem (orders 2 and 0, one penalty order 0 for both dimensions, monotone in dimension 1) -/
def good : Args :=
  ⟨⟨3, 2, [7, 2], [[0, 3, 6], [1, 0, 1]]⟩, 3, [7, 3], [2, 0],
   [kn [0, 1, 2, 3, 4, 5, 6], kn [0, 5]], [true], [0], 1⟩

theorem good_wf : good.data.WF := ⟨rfl, rfl, by decide⟩
theorem good_checks : fitChecks repaired good = .ok := by decide +kernel
theorem good_noWrap : NoWrapB good = true := by decide +kernel

theorem wPenalty_inconsistent : ¬ Needs wPenalty := fun h => absurd (h.pen_le 0 (by decide)) (by decide)

/-- 1-d, order 0, 32770 knots `0..32769` (32769 basis functions), 65536 abscissae, one data point, no smoothing:
    a consistent argument tuple whose dense basis matrix has 2^31 + 65536 cells (16 GiB). -/
def wBigBasis : Args := uniArgs 1 32770 0 65536 noMonodim

theorem wBigBasis_dim : wBigBasis.nkAt 0 = 32770 ∧ wBigBasis.rangeOf 0 = 65536 ∧ wBigBasis.nsplAt 0 = 32769 :=
  ⟨uni_nkAt Nat.one_pos, uni_rangeOf Nat.one_pos, uni_nsplAt Nat.one_pos (by decide)⟩

/-- 8 dimensions with 256 basis functions each: consistent, accepted, and `ncoeffs = strides[0]*naxes[0]` wraps to 0 —
    the table would describe 2^64 coefficients and own none.  (On the real code this call ends in "GLAM fit failed"
    and an empty table, without a sanitizer report: the product clause of `NoWrapB` is sufficient, not necessary.) -/
def wWrap : Args := uniArgs 8 257 0 1 noMonodim

/-- 1-d, order 1, knots 0..3 (two coefficients), three abscissae, ONE data point, no smoothing -/
def wUnder : Args := ⟨⟨1, 1, [3], [[0]]⟩, 1, [3], [1], [kn [0, 1, 2, 3]], [false], [1], noMonodim⟩

end PsV.Fit
