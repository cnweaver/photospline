import PsV.Model.Fits
import PsV.Proofs.ListBasics
/-!
# The value text of cfitsio's keyword functions, as `PsV/Model/Fits.lean` models them

What `fits_write_key` writes and `fits_read_key` / the reader's own loops make of it, for every input, without reference
to `write_fits_core`: decimal text (`natStr` is core's `Nat.toDigits 10`; `parseNat`, `parseInt` invert it), integer
keys (`cardInt` through `int*`, `readKeyInt`), string values (`ffs2c` doubles apostrophes and pads to 8: `s2c_dbl`; the
reader's copy loop undoes it up to the padding: `stripQuotes_s2c_any`; `ffc2s` and the trailing blanks: `c2s_s2c`), and
the numbered keywords `keyN`.  Mathlib-free.
-/
namespace PsV.Fits

def digits : List Char := ['0', '1', '2', '3', '4', '5', '6', '7', '8', '9']

theorem natStrF_eq_toDigits : ∀ f n, n < f → natStrF f n = Nat.toDigits 10 n
  | 0, n, h => absurd h (Nat.not_lt_zero n)
  | f+1, n, h => by
    have hc : ∀ n, n < 10 → digitChar n = Nat.digitChar n := by decide
    rw [natStrF, Nat.toDigits_eq_if (by decide)]
    split
    · rw [hc n ‹_›]
    · rw [natStrF_eq_toDigits f (n / 10) (by omega), hc _ (Nat.mod_lt _ (by decide))]

theorem natStr_eq_toDigits (n : Nat) : natStr n = Nat.toDigits 10 n := natStrF_eq_toDigits (n+1) n (Nat.lt_succ_self n)

theorem mem_digits_iff {c : Char} : c ∈ digits ↔ c.isDigit = true := by
  constructor
  · revert c; decide
  · intro h
    have h' : 48 ≤ c.toNat ∧ c.toNat ≤ 57 := Char.isDigit_iff_toNat.mp h
    have hk : ∀ k : Fin 10, Char.ofNat (48 + k) ∈ digits := by decide
    have := hk ⟨c.toNat - 48, by omega⟩
    rwa [show 48 + (c.toNat - 48) = c.toNat by omega, Char.ofNat_toNat] at this

theorem natStr_ne_nil (n : Nat) : natStr n ≠ [] := natStr_eq_toDigits n ▸ Nat.toDigits_ne_nil

theorem natStr_mem (n : Nat) : ∀ c ∈ natStr n, c ∈ digits := fun _ hc =>
  mem_digits_iff.mpr (Nat.isDigit_of_mem_toDigits (by decide) (by decide) (natStr_eq_toDigits n ▸ hc))

theorem natStr_length (n k : Nat) (hk : 1 ≤ k) (hn : n < 10 ^ k) : (natStr n).length ≤ k :=
  natStr_eq_toDigits n ▸ (Nat.length_toDigits_le_iff (by decide) hk).mpr hn

theorem foldlM_digits : ∀ (s : Str) (a : Nat), (∀ c ∈ s, c ∈ digits) →
    s.foldlM (fun acc c => (digitVal c).map (acc * 10 + ·)) a = some (Nat.ofDigitChars 10 s a)
  | [], _, _ => rfl
  | c :: s, a, h => by
    have hv : ∀ c ∈ digits, digitVal c = some (c.toNat - 48) := by decide
    rw [List.foldlM_cons, hv c (h c List.mem_cons_self), Nat.ofDigitChars_cons, Nat.mul_comm]
    exact foldlM_digits s _ fun c hc => h c (List.mem_cons_of_mem _ hc)

theorem parseNat_natStr (n : Nat) : parseNat (natStr n) = some n := by
  rw [parseNat, if_neg (natStr_ne_nil n), foldlM_digits _ _ (natStr_mem n), natStr_eq_toDigits,
    Nat.ofDigitChars_ten_toDigits]

theorem natStr_inj {i j : Nat} (h : natStr i = natStr j) : i = j := by
  have := parseNat_natStr i
  rw [h, parseNat_natStr] at this
  exact (Option.some.inj this).symm

theorem natStr_head (n : Nat) : ∃ c r, natStr n = c :: r ∧ c ∈ digits := by
  cases h : natStr n with
  | nil => exact absurd h (natStr_ne_nil n)
  | cons c r => exact ⟨c, r, rfl, natStr_mem n c (by simp [h])⟩

theorem parseInt_natStr (n : Nat) : parseInt (natStr n) = some (n : Int) := by
  obtain ⟨c, r, hcr, hc⟩ := natStr_head n
  have hp := parseNat_natStr n
  rw [hcr] at hp ⊢
  have h1 : c ≠ '-' := by rintro rfl; revert hc; decide
  have h2 : c ≠ '+' := by rintro rfl; revert hc; decide
  unfold parseInt
  split
  · rename_i heq; exact absurd (List.cons.inj heq).1 h1
  · rename_i heq; exact absurd (List.cons.inj heq).1 h2
  · rw [hp]; rfl

theorem upper_digits (s : Str) (h : ∀ c ∈ s, c ∈ digits) : upper s = s := by
  have h0 : ∀ d ∈ digits, d.toUpper = d := by decide
  rw [upper, List.map_congr_left (g := id) fun c hc => h0 c (h c hc), List.map_id]

theorem upper_append (a b : Str) : upper (a ++ b) = upper a ++ upper b := List.map_append

theorem cardInt_val (key : Str) (v : Nat) (com : Str) (h : v < 2147483648) :
    (cardInt key v com).val = natStr v := by
  have h1 : v % 4294967296 = v := Nat.mod_eq_of_lt (by omega)
  simp only [cardInt, h1, if_pos h]
  simp [intStr]

theorem cardInt_key (key : Str) (v : Nat) (com : Str) : (cardInt key v com).key = key := rfl

/-- an order of 2^31 or more goes through `int*` and is written with a minus sign -/
theorem cardInt_val_neg (key : Str) (v : Nat) (com : Str) (h1 : 2147483648 ≤ v) (h2 : v < 4294967296) :
    (cardInt key v com).val = '-' :: natStr (4294967296 - v) := by
  have hm : v % 4294967296 = v := Nat.mod_eq_of_lt h2
  simp only [cardInt, hm, if_neg (Nat.not_lt.2 h1), intStr]
  rw [if_pos (by omega)]
  congr 2
  omega

theorem readKeyInt_natStr (cs : List Card) (kt : KeyType) (name : Str) (c : Card) (v : Nat) (hv : v < 2147483648)
    (hf : findCard cs name = some c) (hc : c.val = natStr v) : readKeyInt cs kt name = some v := by
  cases kt <;> simp only [readKeyInt, hf, hc, parseInt_natStr]
  · rw [if_pos (by omega)]
    congr 1; omega
  · rw [if_pos (by omega)]; rfl

theorem readKeyInt_tuint_neg (cs : List Card) (name : Str) (c : Card) (n : Nat) (hn : 0 < n)
    (hf : findCard cs name = some c) (hc : c.val = '-' :: natStr n) : readKeyInt cs .tuint name = none := by
  have hp : parseInt ('-' :: natStr n) = some (-(n : Int)) := by
    rw [parseInt, parseNat_natStr]; rfl
  simp only [readKeyInt, hf, hc, hp]
  rw [if_neg (by omega)]

theorem readKeyInt_none (cs : List Card) (kt : KeyType) (name : Str) (hf : findCard cs name = none) :
    readKeyInt cs kt name = none := by
  simp only [readKeyInt, hf]

/-- the stored form of a value: every apostrophe doubled -/
def dbl : Str → Str
  | [] => []
  | c :: r => if c = '\'' then '\'' :: '\'' :: dbl r else c :: dbl r

theorem storedLen_nil : storedLen [] = 0 := rfl

theorem storedLen_cons_quote (r : Str) : storedLen ('\'' :: r) = storedLen r + 2 := by
  simp only [storedLen, List.length_cons, List.count_cons_self]; omega

theorem storedLen_cons_other (c : Char) (r : Str) (hc : c ≠ '\'') : storedLen (c :: r) = storedLen r + 1 := by
  simp only [storedLen, List.length_cons, List.count_cons_of_ne hc]; omega

theorem storedLen_plain (v : Str) (hq : '\'' ∉ v) : storedLen v = v.length := by
  simp only [storedLen, List.count_eq_zero_of_not_mem hq, Nat.add_zero]

theorem length_le_storedLen (v : Str) : v.length ≤ storedLen v := by
  unfold storedLen; omega

theorem padFits_plain (v : Str) (hq : '\'' ∉ v) : padFits v = pad8 v := by
  unfold padFits pad8; rw [storedLen_plain v hq]

theorem dbl_plain : ∀ (v : Str), '\'' ∉ v → dbl v = v
  | [], _ => rfl
  | c :: r, h => by
    rw [dbl, if_neg fun e => h (by simp [e]), dbl_plain r fun e => h (by simp [e])]

theorem dbl_length (v : Str) : (dbl v).length = storedLen v := by
  induction v with
  | nil => rfl
  | cons c r ih =>
    by_cases hc : c = '\''
    · subst hc; simp only [dbl, if_true, List.length_cons, ih, storedLen_cons_quote]
    · simp only [dbl, if_neg hc, List.length_cons, ih, storedLen_cons_other c r hc]

theorem s2cLoop_dbl (v : Str) : ∀ jj, jj + storedLen v ≤ 69 → s2cLoop v jj = (dbl v, jj + storedLen v) := by
  induction v with
  | nil => intro jj _; rfl
  | cons c r ih =>
    intro jj hl
    by_cases hc : c = '\''
    · subst hc
      rw [storedLen_cons_quote] at hl ⊢
      have hj : jj < 69 := by omega
      simp only [s2cLoop, if_pos hj, if_true, ih (jj+2) (by omega), dbl]
      congr 1; omega
    · rw [storedLen_cons_other c r hc] at hl ⊢
      have hj : jj < 69 := by omega
      simp only [s2cLoop, if_pos hj, if_neg hc, ih (jj+1) (by omega), dbl]
      congr 1; omega

theorem s2c_dbl (v : Str) (hl : storedLen v ≤ 68) :
    s2c v = '\'' :: (dbl v ++ List.replicate (8 - storedLen v) ' ' ++ ['\'']) := by
  have h1 : v.take 68 = v := List.take_of_length_le (Nat.le_trans (length_le_storedLen v) hl)
  have h2 := s2cLoop_dbl v 1 (by omega)
  simp only [s2c, h1, h2]
  have h3 : ¬ (1 + storedLen v + (9 - (1 + storedLen v)) = 70) := by omega
  rw [if_neg h3]
  have h4 : 9 - (1 + storedLen v) = 8 - storedLen v := by omega
  rw [h4]

theorem s2c_plain (v : Str) (hq : '\'' ∉ v) (hl : v.length ≤ 68) : s2c v = '\'' :: (pad8 v ++ ['\'']) := by
  rw [s2c_dbl v (by rw [storedLen_plain v hq]; exact hl), dbl_plain v hq, storedLen_plain v hq]; rfl

theorem undouble_quote2 (r : Str) : undouble ('\'' :: '\'' :: r) = '\'' :: undouble r := by
  rw [undouble]

theorem undouble_other (c : Char) (r : Str) (hc : c ≠ '\'') : undouble (c :: r) = c :: undouble r :=
  undouble.eq_3 c r (fun _ hc' _ => hc hc')

theorem undouble_plain : ∀ (w : Str), '\'' ∉ w → undouble w = w
  | [], _ => rfl
  | c :: r, h => by
    rw [undouble_other c r fun e => h (by simp [e]), undouble_plain r fun e => h (by simp [e])]

theorem undouble_dbl_append (v w : Str) : undouble (dbl v ++ w) = v ++ undouble w := by
  induction v with
  | nil => rfl
  | cons c r ih =>
    by_cases hc : c = '\''
    · subst hc
      simp only [dbl, if_true, List.cons_append, undouble_quote2, ih]
    · simp only [dbl, if_neg hc, List.cons_append, undouble_other c _ hc, ih]

theorem stripQuotes_quoted_any (w : Str) : stripQuotes ('\'' :: (w ++ ['\''])) = undouble w := by
  have h1 : ('\'' :: (w ++ ['\''])).getLast? = some '\'' := by
    rw [List.getLast?_cons_of_ne_nil (by simp)]; simp
  unfold stripQuotes
  rw [if_pos (by rfl), if_pos ⟨by simp, h1⟩]
  simp only [List.drop_succ_cons, List.drop_zero, List.dropLast_concat]

theorem not_mem_blanks (k : Nat) : '\'' ∉ List.replicate k ' ' :=
  fun h => absurd (List.eq_of_mem_replicate h) (by decide)

/-- **write → read of one auxiliary value, apostrophes included**: the value comes back followed by the blanks FITS
    added, nothing else (single, leading, trailing apostrophes, adjacent runs, values made of apostrophes only, values
    whose stored form fills the card). -/
theorem stripQuotes_s2c_any (v : Str) (hl : storedLen v ≤ 68) : stripQuotes (s2c v) = padFits v := by
  rw [s2c_dbl v hl, stripQuotes_quoted_any, undouble_dbl_append, undouble_plain _ (not_mem_blanks _)]
  rfl

theorem stripQuotes_s2c (v : Str) (hq : '\'' ∉ v) (hl : v.length ≤ 68) : stripQuotes (s2c v) = pad8 v := by
  rw [stripQuotes_s2c_any v (by rw [storedLen_plain v hq]; exact hl), padFits_plain v hq]

theorem c2sLoop_plain (w : Str) (hq : '\'' ∉ w) : c2sLoop (w ++ ['\'']) = w := by
  induction w with
  | nil => rfl
  | cons c r ih =>
    have hc : c ≠ '\'' := fun h => hq (by simp [h])
    have hr : '\'' ∉ r := fun h => hq (by simp [h])
    rw [List.cons_append, c2sLoop.eq_4]
    · rw [ih hr]
    · intro r' h _; exact hc h
    · intro h; exact hc h

theorem dropWhile_replicate_append (k : Nat) (l : Str) :
    (List.replicate k ' ' ++ l).dropWhile (· = ' ') = l.dropWhile (· = ' ') :=
  List.dropWhile_append_of_pos fun _ h => decide_eq_true (List.eq_of_mem_replicate h)

theorem trimRight_append_blanks (v : Str) (k : Nat) : trimRight (v ++ List.replicate k ' ') = trimRight v := by
  unfold trimRight
  rw [List.reverse_append, List.reverse_replicate, dropWhile_replicate_append]

theorem c2s_s2c (v : Str) (hq : '\'' ∉ v) (hl : v.length ≤ 68) : c2s (s2c v) = some (trimRight v) := by
  have hq' : '\'' ∉ pad8 v := fun h => (List.mem_append.1 h).elim hq (not_mem_blanks _)
  rw [s2c_plain v hq hl]
  simp only [c2s, c2sLoop_plain _ hq']
  rw [pad8, trimRight_append_blanks]

theorem trimRight_of_last (v : Str) (c : Char) (hlast : v.getLast? = some c) (hc : c ≠ ' ') : trimRight v = v := by
  rcases List.eq_nil_or_concat v with rfl | ⟨w, b, rfl⟩
  · rfl
  · obtain rfl : b = c := by simpa using hlast
    simp [trimRight, hc]

/-- a name without apostrophes that does not end in a blank is read back as it is (the extension names) -/
theorem c2s_s2c_name (v : Str) (hq : '\'' ∉ v) (hl : v.length ≤ 68) (c : Char) (hlast : v.getLast? = some c)
    (hc : c ≠ ' ') : c2s (s2c v) = some v := by
  rw [c2s_s2c v hq hl, trimRight_of_last v c hlast hc]

theorem keyN_inj (b : String) {i j : Nat} (h : keyN b i = keyN b j) : i = j :=
  natStr_inj (List.append_cancel_left h)

theorem keyN_ne_base (b : String) (i : Nat) : keyN b i ≠ b.toList := fun h =>
  natStr_ne_nil i (List.append_cancel_left (h.trans (List.append_nil _).symm))

theorem reserved_keyN (b : String) (hb : b ∈ reservedPrefixes) (i : Nat) : reserved (keyN b i) = true :=
  List.any_eq_true.2 ⟨b, hb, List.isPrefixOf_iff_prefix.2 (List.prefix_append _ _)⟩

/- The literal is spelled out as a character list first: unfolding `String.toList` on a literal is slow. -/
theorem head_order (i : Nat) : (keyN "ORDER" i).head? = some 'O' := by
  simp -index only [keyN, String.toList_ofList]; rfl
theorem head_period (i : Nat) : (keyN "PERIOD" i).head? = some 'P' := by
  simp -index only [keyN, String.toList_ofList]; rfl
theorem head_knots (i : Nat) : (keyN "KNOTS" i).head? = some 'K' := by
  simp -index only [keyN, String.toList_ofList]; rfl

theorem upper_keyN_knots (i : Nat) : upper (keyN "KNOTS" i) = keyN "KNOTS" i := by
  unfold keyN
  rw [upper_append, upper_digits _ (natStr_mem i)]
  rfl

theorem keyN_knots_plain (i : Nat) (hi : i < 1000) : '\'' ∉ keyN "KNOTS" i ∧ (keyN "KNOTS" i).length ≤ 68 := by
  have hd : ∀ d ∈ digits, d ≠ '\'' := by decide
  refine ⟨fun h => (List.mem_append.1 h).elim (by decide) fun h => hd _ (natStr_mem i _ h) rfl, ?_⟩
  have := natStr_length i 3 (by decide) hi
  rw [keyN, List.length_append]
  have : "KNOTS".toList.length = 5 := rfl
  omega

theorem keyN_knots_ok (i : Nat) (hi : i < 1000) :
    c2s (s2c (keyN "KNOTS" i)) = some (keyN "KNOTS" i) := by
  have hd : ∀ d ∈ digits, d ≠ ' ' := by decide
  obtain ⟨c, hc⟩ : ∃ c, (natStr i).getLast? = some c := by
    cases h : (natStr i).getLast? with
    | none => exact absurd (List.getLast?_eq_none_iff.1 h) (natStr_ne_nil i)
    | some c => exact ⟨c, rfl⟩
  exact c2s_s2c_name _ (keyN_knots_plain i hi).1 (keyN_knots_plain i hi).2 c
    (by rw [keyN, List.getLast?_append, hc]; rfl) (hd c (natStr_mem i c (List.mem_of_getLast? hc)))

theorem extents_text : '\'' ∉ "EXTENTS".toList ∧ "EXTENTS".toList.length ≤ 68 := by decide +kernel

theorem extents_name_ok : c2s (s2c "EXTENTS".toList) = some "EXTENTS".toList :=
  c2s_s2c_name _ extents_text.1 extents_text.2 'S' (by decide +kernel) (by decide)

end PsV.Fits
