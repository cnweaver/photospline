import PsV.Spec.BSpline
import PsV.Proofs.Field
import PsV.Proofs.TensorSum
import PsV.Proofs.SpecSum
import Mathlib.Algebra.BigOperators.Ring.Finset
/-!
The nested specification sum `specSum` (C01's meaning of an evaluation) over row-major strides is the
flat sum over all stored coefficients, `Σ_q coef[pos+q] · Π_k row_k[digit_k q]` — the form in which
C15 states invariance under permutation of the dimensions (`PsV.Permute.tensorEval`).
-/
namespace PsV
open PsV.Permute
variable {α : Type} [Field α] [LinearOrder α]
attribute [local instance] Arith.ofField

/-- product of one weight per row, selected by a multi-index -/
def rowProd : List (Nat × List α) → List Nat → α
  | (_, fs) :: rows, i :: is => fs.getD i 0 * rowProd rows is
  | _, _ => 1

theorem specSumRow_eq_sum (inner : α → Int → α) (s : Nat) (p : α) :
    ∀ (fs : List α) (pos : Int), specSumRow inner s p fs pos =
      ∑ i ∈ Finset.range fs.length, inner (p * fs.getD i 0) (pos + (i : Int) * s) :=
  specSumRow_sum inner s p

theorem rowProd_digits (rows : List (Nat × List α)) (q : Nat) :
    rowProd rows (digits (rows.map fun r => r.2.length) q)
      = digitProd (rows.map fun r => r.2.length) (rows.map fun r i => r.2.getD i 0) q := by
  induction rows with
  | nil => rfl
  | cons r rest ih => exact congrArg (r.2.getD _ 0 * ·) ih

theorem specSum_flat (coef : Int → α) :
    ∀ (rows : List (Nat × List α)), rows.map Prod.fst = rowMajor (rows.map fun r => r.2.length) →
      ∀ (p : α) (pos : Int), specSum coef rows p pos =
        p * ∑ q ∈ Finset.range (prodL (rows.map fun r => r.2.length)),
          rowProd rows (digits (rows.map fun r => r.2.length) q) * coef (pos + (q : Int)) := by
  intro rows
  induction rows with
  | nil =>
    intro _ p pos
    show p * coef pos = p * ∑ q ∈ Finset.range 1, 1 * coef (pos + (q : Int))
    rw [Finset.sum_range_one, one_mul, Nat.cast_zero, add_zero]
  | cons r rest ih =>
    obtain ⟨s, fs⟩ := r
    intro hs p pos
    obtain ⟨hs1, hs2⟩ := List.cons.inj hs
    have hs1 : s = prodL (rest.map fun r => r.2.length) := hs1
    subst hs1
    simp only [rowProd_digits]
    rw [specSum_cons_sum, List.map_cons, List.map_cons,
      sum_digitProd_cons _ _ _ _ fun q => coef (pos + (q : Int)), Finset.mul_sum]
    refine Finset.sum_congr rfl fun i _ => ?_
    rw [ih hs2, mul_assoc]
    simp only [rowProd_digits, Nat.cast_add, Nat.cast_mul, add_assoc]

end PsV
