import PsV.Model.Alloc
/-!
# C19 - sequences of allocation events

Core Lean only.  `Run l es pk l'` says what a sequence does to the level of live bytes (leaves `l'`, never above `pk`,
releases only what is live) and composes along `++`; `Bytes es a f` gives the totals a sequence requests and releases,
which decide its run when all it releases is live at the start (`Bytes.run`, any order of events); `costEvents c` is the
same sequence in an arena that uses `c n` bytes for a request of `n`.  Nothing here depends on which calls
are made.
-/
namespace PsV.C19

def allocBytes : List Event → Nat
  | [] => 0
  | .alloc n :: es => n + allocBytes es
  | .free _ :: es => allocBytes es

def freeBytes : List Event → Nat
  | [] => 0
  | .alloc _ :: es => freeBytes es
  | .free n :: es => n + freeBytes es

theorem le_peakFrom (l : Nat) : ∀ es, l ≤ peakFrom l es
  | [] => Nat.le_refl _
  | _ :: _ => Nat.le_max_left _ _

theorem liveAfter_le_peakFrom (l : Nat) (es : List Event) : liveAfter l es ≤ peakFrom l es := by
  induction es generalizing l with
  | nil => exact Nat.le_refl _
  | cons e es ih => exact Nat.le_trans (ih _) (Nat.le_max_right _ _)

theorem liveAfter_append (a b : List Event) (l : Nat) :
    liveAfter l (a ++ b) = liveAfter (liveAfter l a) b := by
  induction a generalizing l with
  | nil => rfl
  | cons e a ih => exact ih _

theorem peakFrom_append (a b : List Event) (l : Nat) :
    peakFrom l (a ++ b) = max (peakFrom l a) (peakFrom (liveAfter l a) b) := by
  induction a generalizing l with
  | nil => exact (Nat.max_eq_right (le_peakFrom l b)).symm
  | cons e a ih => simp only [List.cons_append, peakFrom, liveAfter, ih, Nat.max_assoc]

theorem peakFrom_le_append (a b : List Event) (l : Nat) : peakFrom l a ≤ peakFrom l (a ++ b) :=
  peakFrom_append a b l ▸ Nat.le_max_left _ _

theorem balanced_append (a b : List Event) (l : Nat) :
    balanced l (a ++ b) = (balanced l a && balanced (liveAfter l a) b) := by
  induction a generalizing l with
  | nil => rfl
  | cons e a ih =>
    cases e with
    | alloc n => exact ih _
    | free n => simp only [List.cons_append, balanced, liveAfter, step, ih, Bool.and_assoc]

theorem allocBytes_append (a b : List Event) : allocBytes (a ++ b) = allocBytes a + allocBytes b := by
  induction a with
  | nil => exact (Nat.zero_add _).symm
  | cons e a ih => cases e <;> simp only [List.cons_append, allocBytes, ih, Nat.add_assoc]

theorem freeBytes_append (a b : List Event) : freeBytes (a ++ b) = freeBytes a + freeBytes b := by
  induction a with
  | nil => exact (Nat.zero_add _).symm
  | cons e a ih => cases e <;> simp only [List.cons_append, freeBytes, ih, Nat.add_assoc]

theorem freeBytes_flatMap {α : Type} (l : List α) (f : α → List Event) :
    freeBytes (l.flatMap f) = (l.map fun a => freeBytes (f a)).sum := by
  induction l with
  | nil => rfl
  | cons a l ih => simp only [List.flatMap_cons, freeBytes_append, ih, List.map_cons, List.sum_cons]

/-- Started with `l` bytes live, `es` releases only what is live, never has more than `pk` bytes live, and leaves
    `l'` bytes live. -/
structure Run (l : Nat) (es : List Event) (pk l' : Nat) : Prop where
  live : liveAfter l es = l'
  peak : peakFrom l es ≤ pk
  bal : balanced l es = true

namespace Run
variable {l m l' pk pk' : Nat} {es a b : List Event}

theorem nil (l : Nat) : Run l [] l l := ⟨rfl, Nat.le_refl _, rfl⟩

theorem mono (h : Run l es pk l') (hp : pk ≤ pk') : Run l es pk' l' := ⟨h.live, Nat.le_trans h.peak hp, h.bal⟩

theorem alloc (n : Nat) (h : Run (l + n) es pk l') : Run l (.alloc n :: es) pk l' :=
  ⟨h.live, Nat.max_le.mpr ⟨Nat.le_trans (Nat.le_add_right l n) (Nat.le_trans (le_peakFrom _ _) h.peak), h.peak⟩, h.bal⟩

theorem free (n : Nat) (hp : l + n ≤ pk) (h : Run l es pk l') : Run (l + n) (.free n :: es) pk l' := by
  constructor <;> simp only [liveAfter, peakFrom, balanced, step, Nat.add_sub_cancel]
  · exact h.live
  · exact Nat.max_le.mpr ⟨hp, h.peak⟩
  · rw [h.bal, decide_eq_true (Nat.le_add_left n l)]; rfl

theorem append (ha : Run l a pk m) (hb : Run m b pk' l') : Run l (a ++ b) (max pk pk') l' := by
  obtain ⟨rfl, pa, ba⟩ := ha
  obtain ⟨lb, pb, bb⟩ := hb
  refine ⟨by rw [liveAfter_append, lb], ?_, by rw [balanced_append, ba, bb]; rfl⟩
  rw [peakFrom_append]
  exact Nat.max_le.mpr ⟨Nat.le_trans pa (Nat.le_max_left _ _), Nat.le_trans pb (Nat.le_max_right _ _)⟩

end Run

/-- `es` requests `a` bytes and releases `f` bytes in all. -/
def Bytes (es : List Event) (a f : Nat) : Prop := allocBytes es = a ∧ freeBytes es = f

namespace Bytes
variable {es es' : List Event} {a f a' f' : Nat}

theorem of_eq (h : Bytes es a f) (ha : a = a') (hf : f = f') : Bytes es a' f' := ha ▸ hf ▸ h

theorem alloc (n : Nat) (h : Bytes es a f) : Bytes (.alloc n :: es) (n + a) f := ⟨congrArg (n + ·) h.1, h.2⟩

theorem free (n : Nat) (h : Bytes es a f) : Bytes (.free n :: es) a (n + f) := ⟨h.1, congrArg (n + ·) h.2⟩

theorem append (h : Bytes es a f) (h' : Bytes es' a' f') : Bytes (es ++ es') (a + a') (f + f') :=
  ⟨by rw [allocBytes_append, h.1, h'.1], by rw [freeBytes_append, h.2, h'.2]⟩

/-- Whatever the order of the events.  For requests only (`f = 0`) this is level and peak exactly; with releases only
    (`a = 0`) the level never rises. -/
theorem run (h : Bytes es a f) (r : Nat) : Run (r + f) es (r + f + a) (r + a) := by
  obtain ⟨rfl, rfl⟩ := h
  induction es generalizing r with
  | nil => exact .nil r
  | cons e es ih =>
    cases e with
    | alloc n =>
      have h := ih (r + n)
      rw [Nat.add_right_comm r n, Nat.add_assoc _ n, Nat.add_assoc r n] at h
      exact .alloc n h
    | free n =>
      show Run (r + (n + freeBytes es)) _ (r + (n + freeBytes es) + allocBytes es) _
      rw [Nat.add_left_comm r n, Nat.add_comm n]
      exact .free n (Nat.le_add_right _ _) ((ih r).mono (Nat.add_le_add_right (Nat.le_add_right _ _) _))

end Bytes

/-- A loop whose every pass leaves `net a` bytes more and overshoots that by at most `C` on the way: the passes add up,
    and the overshoot is paid once, not per pass. -/
theorem Run.flatMap {α : Type} {as : List α} {f : α → List Event} {net : α → Nat} {C : Nat}
    (h : ∀ a ∈ as, ∀ l, Run l (f a) (l + net a + C) (l + net a)) (l : Nat) :
    Run l (as.flatMap f) (l + (as.map net).sum + C) (l + (as.map net).sum) := by
  induction as generalizing l with
  | nil => exact (Run.nil l).mono (Nat.le_add_right _ _)
  | cons a as ih =>
    have r := (h a (List.mem_cons_self ..) l).append (ih (fun b hb => h b (List.mem_cons_of_mem _ hb)) (l + net a))
    simp only [List.flatMap_cons, List.map_cons, List.sum_cons, ← Nat.add_assoc]
    exact r.mono (Nat.max_le.mpr ⟨Nat.add_le_add_right (Nat.le_add_right _ _) _, Nat.le_refl _⟩)

theorem segments_run {α : Type} (as : List α) (f : α → List Event) (net : α → Nat) (C : Nat)
    (h : ∀ a ∈ as, ∀ l, liveAfter l (f a) = l + net a ∧ peakFrom l (f a) ≤ l + net a + C ∧ balanced l (f a) = true)
    (l : Nat) :
    liveAfter l (as.flatMap f) = l + (as.map net).sum ∧
    peakFrom l (as.flatMap f) ≤ l + (as.map net).sum + C ∧
    balanced l (as.flatMap f) = true :=
  have r := Run.flatMap (fun a ha l => ⟨(h a ha l).1, (h a ha l).2.1, (h a ha l).2.2⟩) l
  ⟨r.live, r.peak, r.bal⟩

theorem costEvents_alloc (c : Nat → Nat) (n : Nat) (es : List Event) :
    costEvents c (.alloc n :: es) = .alloc (c n) :: costEvents c es :=
  rfl

theorem costEvents_append (c : Nat → Nat) (a b : List Event) :
    costEvents c (a ++ b) = costEvents c a ++ costEvents c b :=
  List.map_append

theorem costEvents_flatMap {α : Type} (c : Nat → Nat) (l : List α) (f : α → List Event) :
    costEvents c (l.flatMap f) = l.flatMap (fun a => costEvents c (f a)) :=
  List.map_flatMap

theorem costEvents_id (es : List Event) : costEvents (fun n => n) es = es := by
  induction es with
  | nil => rfl
  | cons e es ih => cases e <;> exact congrArg (_ :: ·) ih

theorem Bytes.cost_flatMap_allocs {α : Type} (c : Nat → Nat) {l : List α} {f : α → List Event} {x : α → Nat}
    (h : ∀ a, Bytes (costEvents c (f a)) (x a) 0) : Bytes (costEvents c (l.flatMap f)) (l.map x).sum 0 := by
  induction l with
  | nil => exact ⟨rfl, rfl⟩
  | cons a l ih => rw [List.flatMap_cons, costEvents_append]; exact (h a).append ih

theorem Bytes.cost_flatMap_frees {α : Type} (c : Nat → Nat) {l : List α} {f : α → List Event} {y : α → Nat}
    (h : ∀ a, Bytes (costEvents c (f a)) 0 (y a)) : Bytes (costEvents c (l.flatMap f)) 0 (l.map y).sum := by
  induction l with
  | nil => exact ⟨rfl, rfl⟩
  | cons a l ih => rw [List.flatMap_cons, costEvents_append]; exact (h a).append ih

end PsV.C19
