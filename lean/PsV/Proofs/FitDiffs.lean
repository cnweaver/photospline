import Mathlib.Data.List.GetD
import Mathlib.Algebra.BigOperators.Field
import Mathlib.Algebra.BigOperators.Intervals
import PsV.Proofs.Lawful
import PsV.Proofs.BasisTheory
import PsV.Model.FitGlam
/-!
# C09: `divided_diffs` / the finite-difference matrix of `calc_penalty` compute the derivative coefficients of the
specification (`derivCoef`), and `derivCoef` really is "the coefficients of the derivative" (summation by parts
against `Dind`).

`dividedDiffs_eq_derivCoeffs` is also where the algebra of `derivCoef` comes from: a linear form with `p + 1` weights on
the entries `j … j+p` (`derivCoef_linear`, `_sum`, `_congr`, `_line`).
-/
set_option linter.unusedSectionVars false
namespace PsV

section Len
variable {α : Type} [A : Arith α]

theorem dividedDiffs_length (t : Int → α) (order p j : Nat) : (dividedDiffs t order p j).length = p + 1 := by
  cases p with
  | zero => simp [dividedDiffs]
  | succ p => simp [dividedDiffs]

end Len

variable {α : Type} [Field α] [LinearOrder α] [IsStrictOrderedRing α] [A : Arith α] [L : LawfulArith α]

omit [IsStrictOrderedRing α] in
theorem derivCoef_succ_eq (t : Int → α) (order q : Nat) (c : Nat → α) (i : Nat) :
    derivCoef t order (q+1) c i
      = ((order - q : Nat) : α) * (derivCoef t order q c (i+1) - derivCoef t order q c i)
          / (t ((i : Int) + order + 1) - t ((i : Int) + q + 1)) := by
  rw [derivCoef, L.div_eq, L.mul_eq, L.sub_eq, L.sub_eq, L.ofNat_eq]

omit [IsStrictOrderedRing α] in
theorem dividedDiffs_succ_getD (t : Int → α) (order p j i : Nat) (hi : i ≤ p + 1) :
    (dividedDiffs t order (p+1) j).getD i 0
      = ((if i = 0 then 0 else (dividedDiffs t order p (j+1)).getD (i-1) 0) - (dividedDiffs t order p j).getD i 0)
        / ((t ((j : Int) + order + 1) - t ((j : Int) + p + 1)) / ((order - p : Nat) : α)) := by
  have hb : (dividedDiffs t order p j).getD (p+1) 0 = 0 :=
    List.getD_eq_default _ _ (dividedDiffs_length t order p j).le
  rw [dividedDiffs]
  simp only [L.sub_eq, L.div_eq, L.neg_eq, L.zero_eq, L.ofNat_eq]
  rw [List.cons_append]
  cases i with
  | zero => rw [List.getD_cons_zero, if_pos rfl, zero_sub]
  | succ k =>
    rw [List.getD_cons_succ, if_neg (Nat.succ_ne_zero k), Nat.add_sub_cancel]
    rcases Nat.lt_or_ge k p with hk | hk
    · rw [List.getD_append _ _ _ _ (by rw [List.length_map, List.length_range]; exact hk),
        List.getD_eq_getElem _ _ (by rw [List.length_map, List.length_range]; exact hk), List.getElem_map,
        List.getElem_range]
    · obtain rfl : k = p := by omega
      rw [List.getD_append_right _ _ _ _ (by rw [List.length_map, List.length_range]), List.length_map,
        List.length_range, Nat.sub_self, List.getD_cons_zero, hb, sub_zero]

theorem dividedDiffs_eq_derivCoeffs (t : Int → α) (order p j : Nat) (c : Nat → α) :
    ∑ i ∈ Finset.range (p+1), (dividedDiffs t order p j).getD i 0 * c (j + i) = derivCoef t order p c j := by
  induction p generalizing j with
  | zero => simp [dividedDiffs, derivCoef, L.one_eq]
  | succ p ih =>
    have hb : (dividedDiffs t order p j).getD (p+1) 0 = 0 :=
      List.getD_eq_default _ _ (dividedDiffs_length t order p j).le
    rw [derivCoef_succ_eq, ← ih (j+1), ← ih j,
      Finset.sum_congr rfl (fun i hi => by
        rw [dividedDiffs_succ_getD t order p j i (by have := Finset.mem_range.mp hi; omega)])]
    simp only [div_mul_eq_mul_div, sub_mul]
    -- the shifted weights of `divided_diffs(p, j+1)` start at `i = 1`, those of `divided_diffs(p, j)` end at `i = p`
    rw [← Finset.sum_div, Finset.sum_sub_distrib, div_div_eq_mul_div, Finset.sum_range_succ' _ (p+1),
      Finset.sum_range_succ _ (p+1), hb, if_pos rfl, zero_mul, zero_mul, add_zero, add_zero, mul_comm]
    simp only [Nat.add_one_ne_zero, if_false, Nat.add_sub_cancel, ← Nat.add_assoc, Nat.add_right_comm _ 1]

theorem dividedDiffs_getD_eq_derivCoef (t : Int → α) (order p j i : Nat) (hi : i ≤ p) :
    (dividedDiffs t order p j).getD i 0 = derivCoef t order p (fun m => if m = j + i then 1 else 0) j := by
  rw [← dividedDiffs_eq_derivCoeffs, Finset.sum_eq_single i]
  · rw [if_pos rfl, mul_one]
  · intro b _ hb
    rw [if_neg (by omega), mul_zero]
  · intro h
    exact absurd (Finset.mem_range.mpr (by omega)) h

theorem finiteDiff_row (t : Int → α) (order p n r : Nat) (c : Nat → α) (hr : r < n - p) :
    ∑ c' ∈ Finset.range n, (finiteDiff t order p n).get r c' * c c' = derivCoef t order p c r := by
  have hrp : r + p < n := by omega
  rw [← dividedDiffs_eq_derivCoeffs]
  have hsub : Finset.Ico r (r + p + 1) ⊆ Finset.range n := by
    intro x hx
    rw [Finset.mem_Ico] at hx
    exact Finset.mem_range.mpr (by omega)
  rw [← Finset.sum_subset hsub]
  · rw [Finset.sum_Ico_eq_sum_range]
    have : r + p + 1 - r = p + 1 := by omega
    rw [this]
    apply Finset.sum_congr rfl
    intro i hi
    have hi' := Finset.mem_range.mp hi
    unfold finiteDiff
    rw [tab2_get_ofFn _ hr (by omega), if_pos ⟨Nat.le_add_right r i, by omega⟩, L.zero_eq, Nat.add_sub_cancel_left]
  · intro x hx hnx
    have hx' := Finset.mem_range.mp hx
    rw [Finset.mem_Ico] at hnx
    unfold finiteDiff
    rw [tab2_get_ofFn _ hr hx', if_neg (by omega), L.zero_eq, zero_mul]

theorem finiteDiff_get_eq_derivCoef (t : Int → α) (order p n r i : Nat) (hr : r < n - p) (hi : i < n) :
    (finiteDiff t order p n).get r i = derivCoef t order p (fun m => if m = i then 1 else 0) r := by
  rw [← finiteDiff_row t order p n r _ hr]
  simp only [mul_ite, mul_one, mul_zero]
  rw [Finset.sum_ite_eq' (Finset.range n) i, if_pos (Finset.mem_range.mpr hi)]

/-! `dividedDiffs_eq_derivCoeffs` reads `derivCoef t order p · j` as the linear form with the weights of `divided_diffs` on
the entries `j … j+p`: it is linear and looks at these entries only -/

theorem derivCoef_linear (t : Int → α) (order p : Nat) (a b : α) (c d : Nat → α) (j : Nat) :
    derivCoef t order p (fun i => a * c i + b * d i) j
      = a * derivCoef t order p c j + b * derivCoef t order p d j := by
  simp only [← dividedDiffs_eq_derivCoeffs, Finset.mul_sum, ← Finset.sum_add_distrib]
  exact Finset.sum_congr rfl fun i _ => by ring

theorem derivCoef_scale (t : Int → α) (order p : Nat) (a : α) (c : Nat → α) (j : Nat) :
    derivCoef t order p (fun i => a * c i) j = a * derivCoef t order p c j := by
  have := derivCoef_linear t order p a 0 c (fun _ => 0) j
  simpa using this

theorem derivCoef_zero (t : Int → α) (order p k : Nat) : derivCoef t order p (fun _ => (0 : α)) k = 0 := by
  simpa using derivCoef_scale t order p 0 (fun _ => 0) k

theorem derivCoef_sum (t : Int → α) (order p N : Nat) (v : Nat → α) (e : Nat → Nat → α) (j : Nat) :
    derivCoef t order p (fun m => ∑ i ∈ Finset.range N, v i * e i m) j
      = ∑ i ∈ Finset.range N, v i * derivCoef t order p (e i) j := by
  simp only [← dividedDiffs_eq_derivCoeffs, Finset.mul_sum]
  rw [Finset.sum_comm]
  exact Finset.sum_congr rfl fun i _ => Finset.sum_congr rfl fun k _ => by ring

theorem derivCoef_congr (t : Int → α) (order p : Nat) (c d : Nat → α) (j : Nat)
    (h : ∀ i, i ≤ p → c (j + i) = d (j + i)) :
    derivCoef t order p c j = derivCoef t order p d j := by
  rw [← dividedDiffs_eq_derivCoeffs, ← dividedDiffs_eq_derivCoeffs]
  exact Finset.sum_congr rfl fun i hi => by rw [h i (Nat.le_of_lt_succ (Finset.mem_range.1 hi))]

theorem derivCoef_congr' (t : Int → α) (order p : Nat) (c c' : Nat → α) (k : Nat)
    (h : ∀ m, k ≤ m → m ≤ k + p → c m = c' m) :
    derivCoef t order p c k = derivCoef t order p c' k :=
  derivCoef_congr t order p c c' k (fun i hi => h (k + i) (by omega) (by omega))

/-- a linear form is the sum of its values on the unit vectors: composed with a re-indexing `φ` -/
theorem derivCoef_line (t : Int → α) (order p N : Nat) (c : Nat → α) (φ : Nat → Nat) (k : Nat)
    (hφ : ∀ m, k ≤ m → m ≤ k + p → φ m < N) :
    ∑ i ∈ Finset.range N, derivCoef t order p (fun m => if φ m = i then 1 else 0) k * c i
      = derivCoef t order p (fun m => c (φ m)) k := by
  rw [Finset.sum_congr rfl (fun i _ => mul_comm _ (c i)), ← derivCoef_sum]
  apply derivCoef_congr'
  intro m h1 h2
  simp only [mul_ite, mul_one, mul_zero]
  rw [Finset.sum_ite_eq, if_pos (Finset.mem_range.2 (hφ m h1 h2))]

theorem abel_sum {R : Type} [CommRing R] (c g : Nat → R) (M : Nat) :
    ∑ j ∈ Finset.range (M+1), c j * (g j - g (j+1))
      = c 0 * g 0 - c M * g (M+1) + ∑ j ∈ Finset.range M, (c (j+1) - c j) * g (j+1) := by
  induction M with
  | zero => rw [Finset.sum_range_one, Finset.sum_range_zero, add_zero, mul_sub]
  | succ M ih =>
    rw [Finset.sum_range_succ, ih, Finset.sum_range_succ (fun j => (c (j+1) - c j) * g (j+1))]
    ring

theorem sum_by_parts {K : Type} [Field K] (B W : Int → K) (c : Nat → K) (k : K) (M : Nat) :
    ∑ i ∈ Finset.range (M+1), c i * (k * (B (i : Int) / W (i : Int) - B ((i : Int) + 1) / W ((i : Int) + 1)))
      = ∑ j ∈ Finset.range M, (k * (c (j+1) - c j) / W ((j : Int) + 1)) * B ((j : Int) + 1)
        + c 0 * k * B 0 / W 0
        - c M * k * B ((M : Int) + 1) / W ((M : Int) + 1) := by
  have h := abel_sum c (fun j => k * (B (j : Int) / W (j : Int))) M
  push_cast at h
  refine (Finset.sum_congr rfl fun i _ => by rw [mul_sub]).trans (h.trans ?_)
  rw [Finset.sum_congr rfl fun j _ => show (c (j+1) - c j) * (k * (B ((j : Int) + 1) / W ((j : Int) + 1)))
    = k * (c (j+1) - c j) / W ((j : Int) + 1) * B ((j : Int) + 1) by ring]
  ring

omit [IsStrictOrderedRing α] in
theorem Dind_one_succ (ind : Int → Bool) (t : Int → α) (x : α) (n : Nat) (i : Int) :
    Dind ind t x 1 (n+1) i
      = ((n+1 : Nat) : α) * (Bind ind t x n i / (t (i + n + 1) - t i)
          - Bind ind t x n (i+1) / (t ((i + 1) + n + 1) - t (i+1))) := by
  rw [Dind_succ, show i + 1 + (n : Int) + 1 = i + n + 2 by ring]; rfl

omit [IsStrictOrderedRing α] in
theorem derivCoef_one (t : Int → α) (n : Nat) (c : Nat → α) (j : Nat) :
    derivCoef t (n+1) 1 c j
      = ((n+1 : Nat) : α) * (c (j+1) - c j) / (t (((j : Int) + 1) + n + 1) - t ((j : Int) + 1)) := by
  rw [derivCoef_succ_eq, derivCoef, derivCoef, Nat.sub_zero, Nat.cast_zero, add_zero, show ((n + 1 : Nat) : Int) = n + 1 from Nat.cast_succ n, ← add_assoc,
    add_right_comm (j : Int) n 1]

omit [IsStrictOrderedRing α] in
/-- the two boundary terms involve only `B_{0,n}` and `B_{N,n}`, which vanish on the fully supported range of the `N` basis
functions -/
theorem derivCoef_one_is_derivative (ind : Int → Bool) (t : Int → α) (x : α) (n : Nat) (c : Nat → α)
    (N : Nat) (hN : 1 ≤ N) :
    ∑ i ∈ Finset.range N, c i * Dind ind t x 1 (n+1) (i : Int)
      = ∑ j ∈ Finset.range (N-1), derivCoef t (n+1) 1 c j * Bind ind t x n ((j : Int) + 1)
        + c 0 * ((n+1 : Nat) : α) * Bind ind t x n 0 / (t ((n : Int) + 1) - t 0)
        - c (N-1) * ((n+1 : Nat) : α) * Bind ind t x n (N : Int) / (t ((N : Int) + n + 1) - t (N : Int)) := by
  obtain ⟨M, rfl⟩ : ∃ M, N = M + 1 := ⟨N - 1, by omega⟩
  have key := sum_by_parts (fun i => Bind ind t x n i) (fun i => t (i + n + 1) - t i) c ((n+1 : Nat) : α) M
  rw [zero_add] at key
  rw [Nat.add_sub_cancel, show ((M + 1 : Nat) : Int) = M + 1 from Nat.cast_succ M]
  simp only [Dind_one_succ ind t x n, derivCoef_one t n c]
  exact key

example : dividedDiffs (fun i => (i : Rat)) 3 0 5 = [1] := by rfl
example : dividedDiffs (fun i => (i : Rat)) 3 1 0 = [-1, 1] := by decide +kernel
example : dividedDiffs (fun i => (i : Rat)) 3 2 0 = [1, -2, 1] := by decide +kernel

end PsV
