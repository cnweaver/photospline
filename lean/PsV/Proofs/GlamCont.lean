import PsV.Proofs.GridTable
import PsV.Proofs.Bridge
import PsV.Proofs.BasisTheory
/-!
# C17: where the right-continuous basis of `grideval` and the pointwise convention coincide

`grideval` builds its basis matrices with the right-continuous order-0 indicator in every dimension
(`indR`), the pointwise evaluation switches to the left-continuous one (`indL`) for `x ≥ knots[naxes]`
(`selInd`).  The two Cox–de Boor recursions give the same value of `B_{i,n}` at `x` exactly when `x`
occurs at most `n` times among the knots `t_i … t_{i+n+1}` of that function (the function is continuous
there); at an `(n+1)`-fold knot the function jumps between `0` and `1`.  Everything here is for a
knot vector that is non-decreasing on the window in question; the carrier is any ordered field with a
lawful `Arith`.
-/
namespace PsV
section
variable {α : Type} [Field α] [LinearOrder α] [A : Arith α] [L : LawfulArith α]

/-- a knot of full multiplicity at the left end of the support: `t_i = … = t_{i+n} = x < t_{i+n+1}` -/
theorem Bind_full_left (t : Int → α) (x : α) (n : Nat) : ∀ (i : Int), MonoOn t i (i + n + 1) →
    t i = x → t (i + n) = x → x < t (i + n + 1) →
    Bind (indR t x) t x n i = 1 ∧ Bind (indL t x) t x n i = 0 := by
  induction n with
  | zero =>
    intro i _ h1 _ h3
    simp only [Nat.cast_zero, add_zero] at h3
    have hR : indR t x i = true := (indR_iff t x i).mpr ⟨le_of_eq h1, h3⟩
    have hL : indL t x i = false := by
      rw [Bool.eq_false_iff]; intro h
      exact absurd h1 (ne_of_lt ((indL_iff t x i).mp h).1)
    simp [Bind_zero, hR, hL]
  | succ n ih =>
    intro i hm h1 h2 h3
    have e1 : i + ((n + 1 : Nat) : Int) = i + n + 1 := by push_cast; ring
    have e2 : i + ((n + 1 : Nat) : Int) + 1 = i + n + 2 := by push_cast; ring
    rw [e1] at h2
    rw [e2] at h3 hm
    have hi1 : t (i + 1) = x := by
      apply le_antisymm
      · rw [← h2]; exact hm _ _ (by omega) (by omega) (by omega)
      · rw [← h1]; exact hm _ _ (by omega) (by omega) (by omega)
    have e3 : i + 1 + (n : Int) = i + n + 1 := by ring
    have e4 : i + 1 + (n : Int) + 1 = i + n + 2 := by ring
    obtain ⟨r, l⟩ := ih (i + 1) (by rw [e4]; exact hm.sub (by omega) (by omega)) hi1 (by rw [e3]; exact h2)
      (by rw [e4]; exact h3)
    have hne : t (i + n + 2) - x ≠ 0 := sub_ne_zero.mpr (ne_of_gt h3)
    rw [Bind_succ, Bind_succ, r, l, h1, hi1, sub_self, zero_div, div_self hne]
    simp

/-- a knot of full multiplicity at the right end of the support: `t_i < x = t_{i+1} = … = t_{i+n+1}` -/
theorem Bind_full_right (t : Int → α) (x : α) (n : Nat) : ∀ (i : Int), MonoOn t i (i + n + 1) →
    t i < x → t (i + 1) = x → t (i + n + 1) = x →
    Bind (indR t x) t x n i = 0 ∧ Bind (indL t x) t x n i = 1 := by
  induction n with
  | zero =>
    intro i _ h1 h2 _
    have hR : indR t x i = false := by
      rw [Bool.eq_false_iff]; intro h
      exact absurd h2 (ne_of_gt ((indR_iff t x i).mp h).2)
    have hL : indL t x i = true := (indL_iff t x i).mpr ⟨h1, le_of_eq h2.symm⟩
    simp [Bind_zero, hR, hL]
  | succ n ih =>
    intro i hm h1 h2 h3
    have e2 : i + ((n + 1 : Nat) : Int) + 1 = i + n + 2 := by push_cast; ring
    rw [e2] at h3 hm
    have hin : t (i + n + 1) = x := by
      apply le_antisymm
      · rw [← h3]; exact hm _ _ (by omega) (by omega) (by omega)
      · rw [← h2]; exact hm _ _ (by omega) (by omega) (by omega)
    obtain ⟨r, l⟩ := ih i (hm.sub (by omega) (by omega)) h1 h2 hin
    have hne : x - t i ≠ 0 := sub_ne_zero.mpr (ne_of_gt h1)
    rw [Bind_succ, Bind_succ, r, l, h3, hin, sub_self, zero_div, div_self hne]
    simp

/-- **Continuity of a B-spline at a knot of multiplicity at most its order**: on a non-decreasing window the two
hypotheses say that `x` occurs at most `n` times among the `n+2` knots of `B_{i,n}`. -/
theorem Bind_indR_eq_indL (t : Int → α) (x : α) (n : Nat) : ∀ (i : Int), MonoOn t i (i + n + 1) →
    ¬ (t i = x ∧ t (i + n) = x) → ¬ (t (i + 1) = x ∧ t (i + n + 1) = x) →
    Bind (indR t x) t x n i = Bind (indL t x) t x n i := by
  induction n with
  | zero =>
    intro i _ hA hB
    simp only [Nat.cast_zero, add_zero, and_self] at hA hB
    have : indR t x i = indL t x i := by
      rw [Bool.eq_iff_iff, indR_iff, indL_iff]
      constructor
      · rintro ⟨a, b⟩; exact ⟨lt_of_le_of_ne a hA, le_of_lt b⟩
      · rintro ⟨a, b⟩; exact ⟨le_of_lt a, lt_of_le_of_ne b (Ne.symm hB)⟩
    rw [Bind_zero, Bind_zero, this]
  | succ n ih =>
    intro i hm hA hB
    have e1 : i + ((n + 1 : Nat) : Int) = i + n + 1 := by push_cast; ring
    have e2 : i + ((n + 1 : Nat) : Int) + 1 = i + n + 2 := by push_cast; ring
    rw [e1] at hA
    rw [e2] at hB hm
    have e3 : i + 1 + (n : Int) = i + n + 1 := by ring
    have e4 : i + 1 + (n : Int) + 1 = i + n + 2 := by ring
    have e5 : i + 1 + 1 = i + 2 := by ring
    rw [Bind_succ, Bind_succ]
    by_cases X : t (i + 1) = x ∧ t (i + n + 1) = x
    · -- the inner n+1 knots all equal x: both recursions give 1 (from different terms)
      obtain ⟨X1, X2⟩ := X
      have hi : t i < x := by
        refine lt_of_le_of_ne ?_ (fun h => hA ⟨h, X2⟩)
        rw [← X1]; exact hm _ _ (by omega) (by omega) (by omega)
      have hl : x < t (i + n + 2) := by
        refine lt_of_le_of_ne ?_ (fun h => hB ⟨X1, h.symm⟩)
        rw [← X2]; exact hm _ _ (by omega) (by omega) (by omega)
      obtain ⟨r1, l1⟩ := Bind_full_right t x n i (hm.sub (by omega) (by omega)) hi X1 X2
      obtain ⟨r2, l2⟩ := Bind_full_left t x n (i + 1) (by rw [e4]; exact hm.sub (by omega) (by omega)) X1
        (by rw [e3]; exact X2) (by rw [e4]; exact hl)
      have hne1 : x - t i ≠ 0 := sub_ne_zero.mpr (ne_of_gt hi)
      have hne2 : t (i + n + 2) - x ≠ 0 := sub_ne_zero.mpr (ne_of_gt hl)
      rw [r1, l1, r2, l2, X1, X2, div_self hne1, div_self hne2]
      simp
    · congr 1
      · by_cases Y : t i = x ∧ t (i + n) = x
        · rw [Y.1, sub_self, zero_div, zero_mul, zero_mul]
        · rw [ih i (hm.sub (by omega) (by omega)) Y X]
      · by_cases Z : t (i + 2) = x ∧ t (i + n + 2) = x
        · rw [Z.2, sub_self, zero_div, zero_mul, zero_mul]
        · rw [ih (i + 1) (by rw [e4]; exact hm.sub (by omega) (by omega)) (by rw [e3]; exact X)
            (by rw [e4, e5]; exact Z)]

/-- the knots of the dimension are non-decreasing (the `mono` field of C01's `Dim.WF`) -/
def Dim.KnotsMono (d : Dim α) : Prop :=
  ∀ i j : Int, 0 ≤ i → i ≤ j → j < d.nknots → d.knots i ≤ d.knots j

/-- `x` occurs at most `order` times among the knots of the dimension -/
def MultLeOrder (d : Dim α) (x : α) : Prop :=
  ∀ a : Int, 0 ≤ a → a + d.order < d.nknots → ¬ (d.knots a = x ∧ d.knots (a + d.order) = x)

/-- where the pointwise evaluation convention (C01) is the right-continuous one -/
def RightContAt (d : Dim α) (x : α) : Prop := x < d.knots d.naxes ∨ ∀ i : Int, x ≠ d.knots i

/-- **the precise side condition**: below `knots[naxes]` both conventions are the right-continuous one;
from `knots[naxes]` upwards the coordinate must not be a knot of multiplicity above the order -/
def AgreeAt (d : Dim α) (x : α) : Prop := x < d.knots d.naxes ∨ MultLeOrder d x

omit [Field α] A L in
theorem Dim.KnotsMono.window {d : Dim α} (hm : d.KnotsMono) {lo hi : Int} (h0 : 0 ≤ lo) (h1 : hi < d.nknots) :
    MonoOn d.knots lo hi := fun a b ha hab hb => hm a b (by omega) hab (by omega)

omit [Field α] A L in
theorem Dim.knotsMono_of_steps (d : Dim α) (h : ∀ k < d.nknots - 1, d.knots k ≤ d.knots (k + 1)) :
    d.KnotsMono := by
  intro i j hi hij hj
  induction j, hij using Int.leInduction with
  | base => exact le_refl _
  | succ j hij ih =>
    have := h j.toNat (by omega)
    rw [Int.toNat_of_nonneg (by omega)] at this
    exact le_trans (ih (by omega)) this

theorem forall₂_imp_mem {β γ : Type} {R S : β → γ → Prop} {l₁ : List β} {l₂ : List γ}
    (h : List.Forall₂ R l₁ l₂) (H : ∀ a ∈ l₁, ∀ b, R a b → S a b) : List.Forall₂ S l₁ l₂ := by
  induction h with
  | nil => exact .nil
  | cons hd _ ih => exact .cons (H _ (by simp) _ hd) (ih fun a ha => H a (by simp [ha]))

theorem selInd_eq_indR (d : Dim α) (x : α) (h : RightContAt d x) : selInd d x = indR d.knots x := by
  by_cases hlt : x < d.knots d.naxes
  · exact selInd_of_lt hlt
  · rw [selInd_of_not_lt hlt]
    rcases h with h | h
    · exact absurd h hlt
    · funext i
      rw [Bool.eq_iff_iff, indL_iff, indR_iff]
      exact ⟨fun ⟨a, b⟩ => ⟨le_of_lt a, lt_of_le_of_ne b (h (i+1))⟩,
        fun ⟨a, b⟩ => ⟨lt_of_le_of_ne a (Ne.symm (h i)), le_of_lt b⟩⟩

theorem Bsel_eq_indR (d : Dim α) (x : α) (hm : d.KnotsMono) (hn : d.naxes = d.nknots - d.order - 1)
    (h : AgreeAt d x) (i : Nat) (hi : i < d.naxes) :
    Bind (selInd d x) d.knots x d.order i = Bind (indR d.knots x) d.knots x d.order i := by
  by_cases hlt : x < d.knots d.naxes
  · rw [selInd_of_lt hlt]
  · rw [selInd_of_not_lt hlt]
    rcases h with h | h
    · exact absurd h hlt
    · symm
      have hw : (i : Int) + d.order + 1 < d.nknots := by omega
      apply Bind_indR_eq_indL
      · exact hm.window (by omega) (by omega)
      · exact h i (by omega) (by omega)
      · have := h (i + 1) (by omega) (by omega)
        rwa [show (i : Int) + 1 + d.order = i + d.order + 1 by ring] at this

omit [Field α] [LinearOrder α] L in
theorem gridRows_eq_specRows_of (dims : List (Dim α)) (xs : List α)
    (h : List.Forall₂ (fun d x => ∀ i : Nat, i < d.naxes →
      Bind (selInd d x) d.knots x d.order i = Bind (indR d.knots x) d.knots x d.order i) dims xs) :
    gridRows dims xs = specRows dims xs (List.replicate dims.length BasisMode.value) := by
  induction h with
  | nil => rfl
  | @cons d x ds xs hd _ ih =>
    simp only [gridRows, List.length_cons, List.replicate_succ, specRows, ih]
    congr 2
    apply List.map_congr_left
    intro i hi
    exact (hd i (List.mem_range.mp hi)).symm

theorem gridRows_eq_specRows (dims : List (Dim α)) (xs : List α)
    (h : List.Forall₂ RightContAt dims xs) :
    gridRows dims xs = specRows dims xs (List.replicate dims.length BasisMode.value) :=
  gridRows_eq_specRows_of dims xs (h.imp fun d x hd i _ => by rw [selInd_eq_indR d x hd])

theorem gridRows_eq_specRows_of_agree (dims : List (Dim α)) (xs : List α)
    (hk : ∀ d ∈ dims, d.KnotsMono ∧ d.naxes = d.nknots - d.order - 1)
    (h : List.Forall₂ AgreeAt dims xs) :
    gridRows dims xs = specRows dims xs (List.replicate dims.length BasisMode.value) :=
  gridRows_eq_specRows_of dims xs
    (forall₂_imp_mem h fun d hd x hx i hi => Bsel_eq_indR d x (hk d hd).1 (hk d hd).2 hx i hi)

/-- Below the last knot the side condition fails only in the configuration of C01's known finding
`degenerate-upper-end` (`x = knots[naxes]` and `knots[naxes-1] = knots[naxes]`, C01's `NonDegenerate`). -/
theorem agreeAt_of_nonDegenerate (d : Dim α) (x : α) (hm : d.KnotsMono)
    (hn : d.naxes = d.nknots - d.order - 1) (hlast : x < d.knots ((d.nknots : Int) - 1))
    (hnd : NonDegenerate d x) : AgreeAt d x := by
  by_cases hlt : x < d.knots d.naxes
  · exact Or.inl hlt
  · refine Or.inr fun a ha0 han ⟨h1, h2⟩ => ?_
    have hge : d.knots d.naxes ≤ x := not_lt.mp hlt
    have hax : (d.nknots : Int) - d.order - 1 = (d.naxes : Int) := by omega
    -- the run `a … a+order` cannot reach the last knot, so `knots[naxes-1]` and `knots[naxes]` are squeezed
    -- between `knots[a] = x` and `x`
    have h3 : a + d.order ≠ (d.nknots : Int) - 1 := fun h => ne_of_gt hlast (h ▸ h2)
    have hup : ∀ j : Int, a ≤ j → j ≤ d.naxes → d.knots j = x := fun j hj1 hj2 =>
      le_antisymm (le_trans (hm j d.naxes (le_trans ha0 hj1) hj2 (by omega)) hge)
        (h1 ▸ hm a j ha0 hj1 (by omega))
    unfold NonDegenerate at hnd
    rw [show (d.nknots : Int) - d.order - 2 = (d.naxes : Int) - 1 by omega, hax, hup _ (by omega) (by omega),
      hup _ (by omega) (le_refl _)] at hnd
    exact hnd.elim (lt_irrefl _) (fun h => h rfl)

omit [Field α] A L in
theorem Table.WF.gridTableWF {T : Table α} (hT : T.WF) (hs : StridesRowMajor T.dims) : GridTableWF T.dims :=
  ⟨fun h => by have := hT.stride; rw [h] at this; exact this, fun d hd => (hT.dims d hd).naxes_eq, hs⟩

theorem forall₂_agreeAt_of_inside (dims : List (Dim α)) (xs : List α)
    (hk : ∀ d ∈ dims, d.KnotsMono ∧ d.naxes = d.nknots - d.order - 1)
    (hx : List.Forall₂ (fun d x => x < d.knots ((d.nknots : Int) - 1) ∧ NonDegenerate d x) dims xs) :
    List.Forall₂ AgreeAt dims xs :=
  forall₂_imp_mem hx fun d hd x h => agreeAt_of_nonDegenerate d x (hk d hd).1 (hk d hd).2 h.1 h.2

omit [Field α] A L in
theorem allNonDegenerate_of_forall₂ {P : Dim α → α → Prop} : ∀ {ds : List (Dim α)} {xs : List α},
    List.Forall₂ (fun d x => P d x ∧ NonDegenerate d x) ds xs → AllNonDegenerate ds xs
  | _, _, .nil => trivial
  | _, _, .cons hd h => ⟨hd.2, allNonDegenerate_of_forall₂ h⟩

end
end PsV
