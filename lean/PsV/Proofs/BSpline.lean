import PsV.Model.BSpline
import PsV.Proofs.BasisTheory
import PsV.Proofs.Lanes
/-!
The polynomial piece `Bp … left` of the Cox–de Boor basis is the specification's recursion `Bind` with the indicator of the
interval `left` alone, hence what `Bind` is for any indicator that fires at `left` only; weighted sums over the `n+1`
pieces of an interval (`Bp_sum_affine`) carry the partition of unity and both forms of Marsden's identity.  de Boor's
BSPLVB recurrence computes the pieces row by row (`pieceRow`, the notion the modules above this one are stated with), for
every knot function (sorted or not, garbage padding included) over every field; the margin loops settle on an interval
as `ShiftOK` describes it (`marginShift_spec`).
-/
namespace PsV
open Finset
variable {α : Type} [Field α] [LinearOrder α]

/-- Cox–de Boor recurrence for the polynomial piece selected by `left`
(order-0 indicator `i = left`), `a/0 = 0`. -/
def Bp (t : Int → α) (x : α) (left : Int) : Nat → Int → α
  | 0, i => if i = left then 1 else 0
  | n+1, i => (x - t i) / (t (i+n+1) - t i) * Bp t x left n i
            + (t (i+n+2) - x) / (t (i+n+2) - t (i+1)) * Bp t x left n (i+1)

section
variable [A : Arith α] [L : LawfulArith α] (ind : Int → Bool) (t : Int → α) (x : α)

theorem Bp_eq_Bind (left : Int) : ∀ (n : Nat) (i : Int),
    Bp t x left n i = Bind (indAt left) t x n i
  | 0, i => by rw [Bind_zero, Bp]; exact if_congr (indAt_iff left i).symm rfl rfl
  | n + 1, i => by rw [Bind_succ, Bp, Bp_eq_Bind left n i, Bp_eq_Bind left n (i + 1)]

theorem Bind_eq_Bp (l : Int) (n : Nat) (i : Int) (hind : ∀ j, i ≤ j → j ≤ i + n → (ind j = true ↔ j = l)) :
    Bind ind t x n i = Bp t x l n i := by
  rw [Bp_eq_Bind]
  exact Bind_congr t x n i fun j h1 h2 => by rw [Bool.eq_iff_iff, hind j h1 h2, indAt_iff]

end

attribute [local instance] Arith.ofField

theorem Bp_zero_of_not_mem (t : Int → α) (x : α) (left : Int) :
    ∀ (n : Nat) (i : Int), (left < i ∨ i + n < left) → Bp t x left n i = 0 := by
  intro n i h
  rw [Bp_eq_Bind]
  exact Bind_eq_zero _ t x n i fun m h1 h2 => indAt_of_ne (by omega)

omit [LinearOrder α] in
theorem sum_shift_pair (f g : Nat → α) (N : Nat) (h0 : f 0 = 0) (hN : g N = 0) :
    ∑ k ∈ range (N + 1), (f k + g k) = ∑ k ∈ range N, (f (k + 1) + g k) := by
  rw [sum_add_distrib, sum_range_succ' f, sum_range_succ g, h0, hN, add_zero, add_zero, ← sum_add_distrib]

/-- one level of the Cox–de Boor recurrence under a weighted sum over the window of the interval `left`: the weight
of `B_{i,n}` becomes the recurrence's combination of the weights `g i` and `g (i-1)` of `B_{i,n+1}`, `B_{i-1,n+1}` -/
theorem Bp_sum_step (t : Int → α) (x : α) (left : Int) (n : Nat) (g : Int → α) :
    ∑ k ∈ range (n + 2), Bp t x left (n+1) (left - (n+1 : Nat) + k) * g (left - (n+1 : Nat) + k)
      = ∑ k ∈ range (n + 1), Bp t x left n (left - n + k) *
          ((x - t (left - n + k)) / (t (left - n + k + n + 1) - t (left - n + k)) * g (left - n + k)
            + (t (left - n + k + n + 1) - x) / (t (left - n + k + n + 1) - t (left - n + k))
              * g (left - n + k - 1)) := by
  simp only [Bp, add_mul]
  -- the first summand of the recurrence vanishes at `k = 0`, the second at `k = n + 1`
  rw [sum_shift_pair _ _ (n + 1)
    (by rw [Bp_zero_of_not_mem t x left n _ (Or.inr (by omega)), mul_zero, zero_mul])
    (by rw [Bp_zero_of_not_mem t x left n _ (Or.inl (by omega)), mul_zero, zero_mul])]
  refine sum_congr rfl (fun k _ => ?_)
  have e1 : left - ((n + 1 : Nat) : Int) + ((k+1 : Nat) : Int) = left - n + k := by omega
  have e2 : left - ((n + 1 : Nat) : Int) + (k : Int) = left - n + k - 1 := by omega
  have e3 : left - (n : Int) + k - 1 + n + 2 = left - n + k + n + 1 := by omega
  rw [e1, e2, e3, sub_add_cancel]
  ring

omit [LinearOrder α] in
/-- the recurrence's combination of `G + T·H` (window without its first knot `u`) and `G + u·H` (without its last
knot `T`) puts `x` in the place of the knot -/
theorem marsden_step_alg (x u T B G H : α) (h : T - u ≠ 0) :
    B * ((x - u) / (T - u) * (G + T * H) + (T - x) / (T - u) * (G + u * H)) = B * G + x * (B * H) := by
  rw [div_mul_eq_mul_div, div_mul_eq_mul_div, ← add_div, mul_left_comm x, ← mul_add]
  congr 1
  rw [div_eq_iff h]
  ring

/-- **de Boor's step under weights that are affine in the knot they lose**: if the weight `g i` of `B_{i,n+1}` is
`G i + T·H i` when its window loses the last knot `T = t_{i+n+1}`, and that of `B_{i-1,n+1}` is `G i + u·H i` when it
loses its first knot `u = t_i`, the weighted sum of degree `n+1` is the sum of degree `n` with `x` in the place of the
knot. Partition of unity (`G = 1`, `H = 0`) and both forms of Marsden's identity (`Bp_marsden`: `g` the dual
polynomial, `Bp_sum_esym`: its coefficients) are inductions along it. -/
theorem Bp_sum_affine (t : Int → α) (x : α) (left : Int) (hne : t left < t (left + 1)) (n : Nat)
    (hmono : MonoOn t (left - (n+1 : Nat)) (left + (n+1 : Nat) + 1))
    (g G H : Int → α) (hR : ∀ i, g i = G i + t (i + n + 1) * H i) (hL : ∀ i, g (i - 1) = G i + t i * H i) :
    ∑ k ∈ range (n + 2), Bp t x left (n+1) (left - (n+1 : Nat) + k) * g (left - (n+1 : Nat) + k)
      = ∑ k ∈ range (n + 1), Bp t x left n (left - n + k) * G (left - n + k)
        + x * ∑ k ∈ range (n + 1), Bp t x left n (left - n + k) * H (left - n + k) := by
  rw [Bp_sum_step t x left n g, mul_sum, ← sum_add_distrib]
  refine sum_congr rfl fun k hk => ?_
  rw [hR, hL]
  rw [mem_range] at hk
  -- the window of `B_{·,n}` contains the non-empty interval `left`, so its end knots differ
  exact marsden_step_alg x _ _ _ _ _ (sub_ne_zero.mpr (ne_of_gt
    (hmono.lt_across hne (by omega) (by omega) (by omega) (by omega))))

theorem Bp_sum_one (t : Int → α) (x : α) (left : Int)
    (hne : t left < t (left + 1)) :
    ∀ (n : Nat), MonoOn t (left - n) (left + n + 1) →
      ∑ k ∈ range (n + 1), Bp t x left n (left - n + k) = 1 := by
  intro n
  induction n with
  | zero => intro _; simp [Bp]
  | succ n ih =>
    intro hmono
    have h := Bp_sum_affine t x left hne n hmono (fun _ => 1) (fun _ => 1) (fun _ => 0)
      (fun _ => by rw [mul_zero, add_zero]) (fun _ => by rw [mul_zero, add_zero])
    simp only [mul_one, mul_zero, sum_const_zero, add_zero] at h
    rw [h]
    exact ih (hmono.sub (by omega) (by omega))

/-- dual polynomial of the B-spline `i` of degree `n`: `∏_{m<n} (c - t (i+1+m))` -/
def dualPoly (t : Int → α) (n : Nat) (i : Int) (c : α) : α :=
  ∏ m ∈ range n, (c - t (i + 1 + m))

omit [LinearOrder α] in
theorem dualPoly_succ_right (t : Int → α) (n : Nat) (i : Int) (c : α) :
    dualPoly t (n+1) i c = dualPoly t n i c * (c - t (i + n + 1)) := by
  unfold dualPoly
  rw [prod_range_succ]
  have e : i + 1 + (n:Int) = i + n + 1 := by ring
  rw [e]

omit [LinearOrder α] in
theorem dualPoly_succ_left (t : Int → α) (n : Nat) (i : Int) (c : α) :
    dualPoly t (n+1) (i - 1) c = (c - t i) * dualPoly t n i c := by
  unfold dualPoly
  rw [prod_range_succ', mul_comm]
  have e0 : i - 1 + 1 + ((0:Nat):Int) = i := by omega
  rw [e0]
  congr 1
  apply prod_congr rfl
  intro m _
  have e : i - 1 + 1 + ((m+1:Nat):Int) = i + 1 + m := by omega
  rw [e]

theorem Bp_marsden (t : Int → α) (u c : α) (left : Int) (hne : t left < t (left + 1)) :
    ∀ (n : Nat), (∀ a b : Int, left - n ≤ a → a ≤ b → b ≤ left + n + 1 → t a ≤ t b) →
      ∑ k ∈ range (n + 1), dualPoly t n (left - n + k) c * Bp t u left n (left - n + k)
        = (c - u)^n := by
  intro n
  induction n with
  | zero => intro _; simp [Bp, dualPoly]
  | succ n ih =>
    intro hmono
    -- the dual polynomial is `c·ψ − T·ψ` (`ψ` that of degree `n`, `T` the knot its window loses on either side)
    rw [sum_congr rfl fun (k : Nat) _ => mul_comm (dualPoly t (n+1) (left - (n+1 : Nat) + k) c) _,
      Bp_sum_affine t u left hne n hmono (fun i => dualPoly t (n+1) i c) (fun i => c * dualPoly t n i c)
        (fun i => - dualPoly t n i c) (fun i => by rw [dualPoly_succ_right]; ring)
        (fun i => by rw [dualPoly_succ_left]; ring),
      pow_succ', ← ih fun a b h1 h2 h3 => hmono a b (by omega) h2 (by omega), mul_sum, mul_sum, ← sum_add_distrib]
    exact sum_congr rfl fun k _ => by ring

theorem Bp_marsden_prod (t : Int → α) (u c : α) (left : Int) (hne : t left < t (left + 1))
    (n : Nat) (hmono : ∀ a b : Int, left - n ≤ a → a ≤ b → b ≤ left + n + 1 → t a ≤ t b) :
    ∑ k ∈ range (n + 1),
      (∏ m ∈ range n, (c - t (left - n + k + 1 + m))) * Bp t u left n (left - n + k)
        = (c - u)^n :=
  Bp_marsden t u c left hne n hmono

theorem Bp_marsden_trunc (t : Int → α) (u c : α) (left : Int) (hne : t left < t (left + 1)) (n : Nat)
    (hmono : ∀ a b : Int, left - n ≤ a → a ≤ b → b ≤ left + n + 1 → t a ≤ t b)
    (hc : c ≤ t left ∨ t (left + 1) ≤ c)
    (hknot : c ≤ t left → ∀ i : Int, left - n ≤ i → i ≤ left → t i < c →
      ∃ m : Nat, m < n ∧ c = t (i + 1 + m)) :
    ∑ k ∈ range (n + 1),
      (if t (left - n + k) < c then dualPoly t n (left - n + k) c else 0)
        * Bp t u left n (left - n + k)
      = if t (left + 1) ≤ c then (c - u)^n else 0 := by
  by_cases h : t (left + 1) ≤ c
  · rw [if_pos h, ← Bp_marsden t u c left hne n hmono]
    apply sum_congr rfl
    intro k hk
    rw [mem_range] at hk
    have h1 : t (left - n + k) ≤ t left := hmono _ _ (by omega) (by omega) (by omega)
    have : t (left - n + k) < c := lt_of_le_of_lt h1 (lt_of_lt_of_le hne h)
    rw [if_pos this]
  · rw [if_neg h]
    have hcl : c ≤ t left := by
      rcases hc with hc | hc
      · exact hc
      · exact absurd hc h
    apply sum_eq_zero
    intro k hk
    rw [mem_range] at hk
    by_cases hlt : t (left - n + k) < c
    · rw [if_pos hlt]
      obtain ⟨m, hm, hcm⟩ := hknot hcl (left - n + k) (by omega) (by omega) hlt
      have : dualPoly t n (left - n + k) c = 0 := by
        unfold dualPoly
        apply prod_eq_zero (mem_range.mpr hm)
        rw [← hcm, sub_self]
      rw [this, zero_mul]
    · rw [if_neg hlt, zero_mul]

omit [LinearOrder α] in
theorem Bp_congr_knots (t t' : Int → α) (x : α) (left : Int) : ∀ (n : Nat) (i : Int),
    (∀ z : Int, i ≤ z → z ≤ i + n + 1 → t z = t' z) → Bp t x left n i = Bp t' x left n i := by
  intro n
  induction n with
  | zero => intro i _; simp only [Bp]
  | succ n ih =>
    intro i h
    simp only [Bp]
    rw [ih i (fun z h1 h2 => h z h1 (by omega)),
      ih (i+1) (fun z h1 h2 => h z (by omega) (by omega)),
      h i (by omega) (by omega),
      h (i+n+1) (by omega) (by omega),
      h (i+n+2) (by omega) (by omega),
      h (i+1) (by omega) (by omega)]

theorem Bp_sum_window (t : Int → α) (x : α) (order c n : Nat) (hc1 : order ≤ c) (hc2 : c < n) (g : Int → α) :
    ∑ k ∈ range n, Bp t x (c : Int) order (k : Int) * g (k : Int)
      = ∑ k ∈ range (order + 1), Bp t x (c : Int) order ((c : Int) - order + k) * g ((c : Int) - order + k) := by
  rw [sum_range_window (fun k : Nat => Bp t x (c : Int) order (k : Int) * g (k : Int)) n (c - order) (order + 1) (by omega)
    fun k _ hk => by rw [Bp_zero_of_not_mem t x (c : Int) order (k : Int) (by omega), zero_mul]]
  exact sum_congr rfl fun k _ => by rw [Nat.cast_add, Nat.cast_sub hc1]

/-- the row of piece `l`: `k`-fold knot-difference derivatives (values for `k = 0`) of the `n+1` functions of degree `n`
that can be non-zero there; for `k = 0` it is level `n` of `bsplvb` -/
def pieceRow (t : Int → α) (x : α) (l : Int) (k n : Nat) : List α :=
  (List.range (n + 1)).map fun m : Nat => Dind (indAt l) t x k n (l - n + m)

theorem pieceRow_zero (t : Int → α) (x : α) (l : Int) (n : Nat) :
    pieceRow t x l 0 n = (List.range (n + 1)).map fun m : Nat => Bp t x l n (l - n + m) :=
  List.map_congr_left fun _ _ => (Bp_eq_Bind t x l n _).symm

/-- The recurrence in the indexing of the rows of `bsplvb` (entry `m` of level `j` is basis function
`left - j + m`): entry `m` of level `j+1` from entries `m-1` and `m` of level `j`. -/
theorem Bp_succ_row (t : Int → α) (x : α) (left : Int) (j m : Nat) :
    Bp t x left (j + 1) (left - (j + 1 : Nat) + m) =
      (x - t (left - j - 1 + m)) / (t (left + m) - t (left - j - 1 + m)) * Bp t x left j (left - j - 1 + m)
      + (t (left + m + 1) - x) / (t (left + m + 1) - t (left - j + m)) * Bp t x left j (left - j + m) := by
  rw [show left - ((j + 1 : Nat) : Int) + m = left - j - 1 + m by omega, Bp,
    show left - (j : Int) - 1 + m + j + 1 = left + m by omega,
    show left - (j : Int) - 1 + m + j + 2 = left + m + 1 by omega,
    show left - (j : Int) - 1 + m + 1 = left - j + m by omega]

/-- One pass of the inner loop in exact arithmetic, with `delta_r[i] + delta_l[j-i]` written as the knot
difference `knots[left+i+1] - knots[left-j+i]`. -/
theorem vbStep_cons (t : Int → α) (x : α) (left : Int) (j i : Nat) (hij : i ≤ j) (saved b : α) (bs : List α) :
    vbStep t x left j i saved (b :: bs) =
      (saved + (t (left + i + 1) - x) / (t (left + i + 1) - t (left - j + i)) * b) ::
        vbStep t x left j (i + 1) ((x - t (left - j + i)) / (t (left + i + 1) - t (left - j + i)) * b) bs := by
  rw [vbStep, show left - ((j - i : Nat) : Int) = left - j + i by omega]
  simp only [of_rnd, of_add, of_sub, of_mul, of_div, sub_add_sub_cancel, mul_div_assoc', div_mul_eq_mul_div]

/-- The inner loop turns entries `i ..` of level `j` into entries `i ..` of level `j+1`, given that the carry
`saved` is the first term of the recurrence for entry `i`. -/
theorem vbStep_row (t : Int → α) (x : α) (left : Int) (j : Nat) :
    ∀ (n i : Nat) (saved : α), i + n = j + 1 →
      saved = (x - t (left - j - 1 + i)) / (t (left + i) - t (left - j - 1 + i)) * Bp t x left j (left - j - 1 + i) →
      vbStep t x left j i saved ((List.range' i n).map fun m : Nat => Bp t x left j (left - j + m)) =
        (List.range' i (n + 1)).map fun m : Nat => Bp t x left (j + 1) (left - (j + 1 : Nat) + m)
  | 0, i, saved, hi, hs => by
    obtain rfl : i = j + 1 := by omega
    rw [List.range'_zero, List.map_nil, vbStep, of_rnd, List.range'_one, List.map_singleton, Bp_succ_row, ← hs,
      Bp_zero_of_not_mem t x left j _ (Or.inl (by omega)), mul_zero, add_zero]
  | n + 1, i, saved, hi, hs => by
    rw [List.range'_succ, List.map_cons, vbStep_cons t x left j i (by omega), List.range'_succ (s := i),
      List.map_cons, Bp_succ_row, ← hs, vbStep_row t x left j n (i + 1) _ (by omega)]
    rw [show left - (j : Int) - 1 + (i + 1 : Nat) = left - j + i by omega,
      show left + ((i + 1 : Nat) : Int) = left + i + 1 by omega]

theorem vbStep_spec (t : Int → α) (x : α) (left : Int) (j : Nat) :
    ∀ (bs : List α) (i : Nat) (saved : α), i + bs.length = j + 1 →
      (∀ m (hm : m < bs.length), bs[m] = Bp t x left j (left - j + i + m)) →
      saved = (x - t (left - j - 1 + i)) / (t (left + i) - t (left - j - 1 + i)) * Bp t x left j (left - j - 1 + i) →
      ∀ m (hm : m < (vbStep t x left j i saved bs).length),
        (vbStep t x left j i saved bs)[m] = Bp t x left (j+1) (left - j - 1 + i + m) := by
  intro bs i saved hlen hold hsaved m hm
  have hbs : bs = (List.range' i bs.length).map fun m : Nat => Bp t x left j (left - j + m) := by
    apply List.ext_getElem (by rw [List.length_map, List.length_range'])
    intro m h1 _
    rw [hold m h1, List.getElem_map, List.getElem_range']
    exact congrArg _ (by omega)
  have hrow := vbStep_row t x left j bs.length i saved hlen hsaved
  rw [← hbs] at hrow
  rw [List.getElem_of_eq hrow hm, List.getElem_map, List.getElem_range']
  exact congrArg _ (by omega)

theorem vbStep_level (t : Int → α) (x : α) (left : Int) (j : Nat) :
    vbStep t x left j 0 0 (pieceRow t x left 0 j) = pieceRow t x left 0 (j + 1) := by
  rw [pieceRow_zero, pieceRow_zero, List.range_eq_range', List.range_eq_range']
  refine vbStep_row t x left j (j + 1) 0 0 (Nat.zero_add _) ?_
  rw [Bp_zero_of_not_mem t x left j _ (Or.inr (by omega)), mul_zero]

theorem vbLevels_level (t : Int → α) (x : α) (left : Int) :
    ∀ (count j : Nat), vbLevels t x left count j (pieceRow t x left 0 j) = pieceRow t x left 0 (j + count)
  | 0, _ => rfl
  | count + 1, j => by
    rw [vbLevels, of_zero, vbStep_level, vbLevels_level t x left count (j + 1), Nat.add_right_comm]; rfl

theorem bsplvb_level (t : Int → α) (x : α) (left : Int) (n : Nat) :
    bsplvb t x left (n + 1) = pieceRow t x left 0 n := by
  have h0 : [Arith.rnd (Arith.one : α)] = pieceRow t x left 0 0 :=
    congrArg (· :: []) (if_pos ((indAt_iff left _).mpr (by simp))).symm
  rw [bsplvb, h0, Nat.add_sub_cancel, vbLevels_level, Nat.zero_add]

theorem shiftDown_of_not_lt (t : Int → α) (x : α) (fuel : Nat) (left : Int) (h : ¬ x < t left) :
    shiftDown t x fuel left = left := by
  cases fuel with
  | zero => rfl
  | succ f => rw [shiftDown, if_neg]; simp [h]

theorem shiftDown_of_lt (t : Int → α) (x : α) (f : Nat) (left : Int) (h0 : 0 ≤ left) (h : x < t left) :
    shiftDown t x (f + 1) left = shiftDown t x f (left - 1) := by
  rw [shiftDown, if_pos]; simp [h0, h]

theorem shiftUp_of_not_lt (t : Int → α) (nknots : Nat) (x : α) (fuel : Nat) (left : Int)
    (h : ¬ t (left + 1) < x) : shiftUp t nknots x fuel left = left := by
  cases fuel with
  | zero => rfl
  | succ f => rw [shiftUp, if_neg]; simp [h]

theorem shiftUp_of_lt (t : Int → α) (nknots : Nat) (x : α) (f : Nat) (left : Int) (h0 : left < (nknots : Int) - 1)
    (h : t (left + 1) < x) : shiftUp t nknots x (f + 1) left = shiftUp t nknots x f (left + 1) := by
  rw [shiftUp, if_pos]; simp [h0, h]

/-- the first loop stops at the highest `r ≤ left` with `knots[r] ≤ x` -/
theorem shiftDown_spec (t : Int → α) (x : α) (h0 : ¬ x < t 0) :
    ∀ (fuel : Nat) (left : Int), 0 ≤ left → left < fuel →
      0 ≤ shiftDown t x fuel left ∧ shiftDown t x fuel left ≤ left ∧
      ¬ x < t (shiftDown t x fuel left) ∧
      ∀ m, shiftDown t x fuel left < m → m ≤ left → x < t m
  | 0, left, h1, h2 => by omega
  | f + 1, left, h1, h2 => by
    by_cases hx : x < t left
    · have hl : left ≠ 0 := fun e => h0 (e ▸ hx)
      rw [shiftDown_of_lt t x f left h1 hx]
      obtain ⟨a, b, c, d⟩ := shiftDown_spec t x h0 f (left - 1) (by omega) (by omega)
      exact ⟨a, by omega, c, fun m hm1 hm2 => if hml : m = left then hml ▸ hx else d m hm1 (by omega)⟩
    · rw [shiftDown_of_not_lt t x _ left hx]
      exact ⟨h1, le_refl _, hx, fun m a b => by omega⟩

/-- the second loop stops at the lowest `r ≥ left` with `x ≤ knots[r+1]` -/
theorem shiftUp_spec (t : Int → α) (nknots : Nat) (x : α) (hlast : ¬ t ((nknots:Int) - 1) < x) :
    ∀ (fuel : Nat) (left : Int), left ≤ (nknots:Int) - 2 → (nknots:Int) - 2 - left < fuel →
      left ≤ shiftUp t nknots x fuel left ∧ shiftUp t nknots x fuel left ≤ (nknots:Int) - 2 ∧
      ¬ t (shiftUp t nknots x fuel left + 1) < x ∧
      ∀ m, left ≤ m → m < shiftUp t nknots x fuel left → t (m + 1) < x
  | 0, left, h1, h2 => by omega
  | f + 1, left, h1, h2 => by
    by_cases hx : t (left + 1) < x
    · have hl : left ≠ (nknots:Int) - 2 := fun e => hlast (by rwa [e, show (nknots:Int) - 2 + 1 = nknots - 1 by omega] at hx)
      rw [shiftUp_of_lt t nknots x f left (by omega) hx]
      obtain ⟨a, b, c, d⟩ := shiftUp_spec t nknots x hlast f (left + 1) (by omega) (by omega)
      exact ⟨by omega, b, c, fun m hm1 hm2 => if hml : m = left then hml ▸ hx else d m (by omega) hm2⟩
    · rw [shiftUp_of_not_lt t nknots x _ left hx]
      exact ⟨le_refl _, h1, hx, fun m a b => by omega⟩

/-- What the lookup guarantees about a centre (C04), in the `Int`-indexed form used here. -/
structure CenterOK (t : Int → α) (nknots n : Nat) (x : α) (c : Nat) : Prop where
  len : 2 * n + 2 ≤ nknots
  lo : n ≤ c
  hi : c + n + 2 ≤ nknots
  first : t 0 < x
  last : x ≤ t ((nknots:Int) - 1)
  below : x < t n → c = n
  above : t ((nknots:Int) - n - 1) ≤ x → c + n + 2 = nknots
  inside : t n ≤ x → x < t ((nknots:Int) - n - 1) → t c ≤ x ∧ x < t ((c:Int) + 1)
  mono : ∀ i j : Int, 0 ≤ i → i ≤ j → j < nknots → t i ≤ t j

/-- The interval `l` the margin loops settle on: a valid interval that brackets `x` (right-continuous below the
upper end `knots[nknots-n-1]` of the fully supported range, left-continuous from there up), and sits to the centre
as `ShiftIdx` says; on the latter the re-indexing (`rearrange_row`) lives. -/
structure ShiftOK (t : Int → α) (nknots n : Nat) (x : α) (c : Nat) (l : Int) : Prop extends ShiftIdx nknots n c l where
  bracket : (x < t ((nknots:Int) - n - 1) ∧ t l ≤ x ∧ x < t (l + 1)) ∨
            (t ((nknots:Int) - n - 1) ≤ x ∧ t l < x ∧ x ≤ t (l + 1))

/-- The margin loops of `bsplvb_simple` & co. end on an interval as `ShiftOK` describes it, for every centre the
lookup can return.  `hnd` excludes the one point where they do not: `x` on the upper end of the fully supported
range when the interval below it is empty (`NonDegenerate`, finding C01-degenerate-upper-end). -/
theorem marginShift_spec (t : Int → α) (nknots n : Nat) (x : α) (c : Nat)
    (h : CenterOK t nknots n x c)
    (hnd : t ((nknots:Int) - n - 2) < t ((nknots:Int) - n - 1) ∨ x ≠ t ((nknots:Int) - n - 1)) :
    ShiftOK t nknots n x c (marginShift t nknots x c n) := by
  obtain ⟨hlen, hlo, hhi, hfirst, hlast, hbelow, habove, hinside, hmono⟩ := h
  rw [marginShift]
  by_cases hA : x < t n
  · -- below the fully supported range: `c = n`, the first loop walks down to the bracketing interval
    obtain rfl : c = n := hbelow hA
    obtain ⟨a, b, hge, d⟩ := shiftDown_spec t x (not_lt.mpr hfirst.le) (nknots + 1) c (by omega) (by omega)
    have hlt : shiftDown t x (nknots + 1) c < c := lt_of_le_of_ne b fun e => hge (by rwa [e])
    simp only [if_true]
    rw [if_neg (by omega)]
    exact ⟨⟨a, by omega, hlo, hhi, fun _ => rfl, fun h => by omega⟩,
      Or.inl ⟨lt_of_lt_of_le hA (hmono _ _ (by omega) (by omega) (by omega)), not_lt.mp hge, d _ (by omega) (by omega)⟩⟩
  · have hcx : ¬ x < t c := by
      by_cases hC : t ((nknots:Int) - n - 1) ≤ x
      · exact not_lt.mpr (le_trans (hmono _ _ (by omega) (by omega) (by omega)) hC)
      · exact not_lt.mpr (hinside (not_lt.mp hA) (not_le.mp hC)).1
    have h1 : (if (c : Int) = n then shiftDown t x (nknots + 1) c else c) = c := by
      split
      · exact shiftDown_of_not_lt t x _ c hcx
      · rfl
    simp only [h1]
    by_cases hC : t ((nknots:Int) - n - 1) ≤ x
    · -- at or above the upper end: `c = nknots - n - 2`, the second loop walks up
      have hc : (c : Int) + n + 2 = nknots := by exact_mod_cast habove hC
      obtain ⟨a, b, hle, d⟩ := shiftUp_spec t nknots x (not_lt.mpr hlast) (nknots + 1) c (by omega) (by omega)
      rw [if_pos (by omega)]
      refine ⟨⟨by omega, b, hlo, hhi, fun h => by omega, fun _ => hc⟩, Or.inr ⟨hC, ?_, not_lt.mp hle⟩⟩
      by_cases hmv : shiftUp t nknots x (nknots + 1) c = c
      · rw [hmv, show (c : Int) = nknots - n - 2 by omega]
        rcases hnd with hnd | hnd
        · exact lt_of_lt_of_le hnd hC
        · exact lt_of_le_of_lt (hmono _ _ (by omega) (by omega) (by omega)) (lt_of_le_of_ne hC (Ne.symm hnd))
      · have := d (shiftUp t nknots x (nknots + 1) c - 1) (by omega) (by omega)
        rwa [Int.sub_add_cancel] at this
    · -- inside: the lookup's bracket stands, neither loop moves
      obtain ⟨b1, b2⟩ := hinside (not_lt.mp hA) (not_le.mp hC)
      have h2 : (if (c : Int) = nknots - n - 2 then shiftUp t nknots x (nknots + 1) c else c) = c := by
        split
        · exact shiftUp_of_not_lt t nknots x _ c (not_lt.mpr b2.le)
        · rfl
      rw [h2]
      exact ⟨.stay hlo hhi, Or.inl ⟨not_le.mp hC, b1, b2⟩⟩

end PsV
