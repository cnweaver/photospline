import PsV.Proofs.NnlsBlock3
import PsV.Proofs.WalkBlocks
/-!
# Termination of the `while (!feasible)` loop of BLOCK3 with exact solves on an SPD system

Measure: the size of the passive set `F` that the next `modify_factor` produces.  Every pass of the loop that does not
leave it removes at least one coefficient from `F`:
* "descent at boundary": the negative coefficients of the solve (there is at least one) are bound;
* `walk_descents` returned `feasible = false`: the accepted distance `α ∈ (0,1]` did not reduce the residual.  Were no
  coefficient clamped at `α`, the trial point would be the unprojected `x + α (x_F − x)`, and on an SPD system the
  objective strictly decreases along the segment from `x ≥ 0` towards the (different) minimiser `x_F` on `F`:
  `f(x + α d) − f(x) = −α (1 − α/2) dᵀAd < 0`.  So something was clamped, and it leaves `F`.
What the line search returns is `walkDescents_spec`; the same segment argument gives the two decrease lemmas of C11
(`walk_feasible_decreases`, `full_step_decreases`), which are no measure for the outer loop.
-/
namespace PsV.Nnls
open Matrix

theorem insDesc_perm (a : ℚ) : ∀ l : List ℚ, (insDesc a l).Perm (a :: l)
  | [] => .refl _
  | b :: bs => by
    unfold insDesc
    split
    · exact .refl _
    · exact ((insDesc_perm a bs).cons b).trans (.swap a b bs)

theorem sortDesc_perm : ∀ l : List ℚ, (sortDesc l).Perm l
  | [] => .refl _
  | b :: bs => (insDesc_perm b _).trans ((sortDesc_perm bs).cons b)

theorem walkAlphas_range {n : ℕ} {inF : ℕ → Bool} {x xF : ℕ → ℚ} {a : ℚ} (h : a ∈ walkAlphas n inF x xF) :
    0 < a ∧ a ≤ 1 := by
  unfold walkAlphas at h
  rcases List.mem_cons.mp h with h | h
  · rw [h]; exact ⟨one_pos, le_refl _⟩
  · rw [(sortDesc_perm _).mem_iff, List.mem_filterMap] at h
    obtain ⟨i, _, hi⟩ := h
    dsimp only at hi
    split_ifs at hi with hc
    rw [← Option.some.inj hi]
    exact ⟨hc.2, hc.1.le⟩

theorem walkDescents_spec (E : B3Env) (inF : ℕ → Bool) (x xF : ℕ → ℚ) :
    (0 < (walkDescents E inF x xF).1 ∧ (walkDescents E inF x xF).1 ≤ 1) ∧
    ((walkDescents E inF x xF).2 = true ↔
      E.resid inF (trialVal inF x xF (walkDescents E inF x xF).1) < E.resid inF (trialVal inF x xF 0)) :=
  have h := walkScan_spec E inF x xF (E.resid inF (trialVal inF x xF 0)) (walkAlphas E.n inF x xF)
    (List.cons_ne_nil _ _)
  ⟨walkAlphas_range h.1, h.2⟩

theorem seg_decrease {n : ℕ} (A : Matrix (Fin n) (Fin n) ℚ) (b u v : Fin n → ℚ) (hA : SPD A) (α : ℚ)
    (h0 : 0 < α) (h1 : α ≤ 1) (huv : v - u ≠ 0) (hopt : (v - u) ⬝ᵥ gradM A b v = 0) :
    qf A b (u + α • (v - u)) < qf A b u := by
  have hg : gradM A b u = gradM A b v - A *ᵥ (v - u) := by rw [← gradM_sub, sub_sub_cancel]
  rw [qf_expand hA.1, hg, smul_dotProduct, dotProduct_sub, hopt, Matrix.mulVec_smul, dotProduct_smul,
    smul_dotProduct, smul_eq_mul, smul_eq_mul, smul_eq_mul]
  -- `−α D + ½ α² D < 0` for `D = (v − u)ᵀA(v − u) > 0`
  have hD := mul_pos h0 (hA.2 _ huv)
  have := mul_le_of_le_one_left hD.le h1
  linarith

theorem restr_trialVal_zero {n : ℕ} {inF : ℕ → Bool} {x : ℕ → ℚ} (xF : ℕ → ℚ) (hx : ∀ i, 0 ≤ x i) :
    restr n inF (trialVal inF x xF 0) = restr n inF x := by
  funext i
  unfold restr trialVal
  split
  · rw [sub_zero, one_mul, zero_mul, add_zero, if_neg (not_lt.mpr (hx i))]
  · rfl

theorem solve_stationary {E : B3Env} {A : Mat} {b : Vec} (hS : ExactSolve E A b) (inF : ℕ → Bool) {w : Fin E.n → ℚ}
    (hw : ∀ i : Fin E.n, inF i = false → w i = 0) :
    w ⬝ᵥ gradM (toMat E.n A) (toVec E.n b) (restr E.n inF (at0 (E.solve inF))) = 0 :=
  dotProduct_eq_zero_of_compl fun i => (Bool.eq_false_or_eq_true (inF i)).symm.imp (hw i) (hS.gradM_restr inF i)

theorem walk_infeasible_clamps (E : B3Env) (A : Mat) (b : Vec) (hA : SPD (toMat E.n A)) (hE : ExactEnv E A b)
    (hR : ExactResid E A b) (inF : ℕ → Bool) (x : ℕ → ℚ) (hx : ∀ i, 0 ≤ x i)
    (hneg : ∃ i, i < E.n ∧ inF i = true ∧ at0 (E.solve inF) i < 0)
    (hw : (walkDescents E inF x (at0 (E.solve inF))).2 = false) :
    ∃ i, i < E.n ∧ trialClamp inF x (at0 (E.solve inF)) (walkDescents E inF x (at0 (E.solve inF))).1 i = true := by
  by_contra hno
  obtain ⟨⟨ha0, ha1⟩, hres⟩ := walkDescents_spec E inF x (at0 (E.solve inF))
  rw [hw, hR, hR, restr_trialVal_zero _ hx] at hres
  generalize (walkDescents E inF x (at0 (E.solve inF))).1 = α at *
  -- nothing is clamped, so the trial point is the unprojected `x + α (x_F − x)` on `F`
  have e1 : restr E.n inF (trialVal inF x (at0 (E.solve inF)) α)
      = restr E.n inF x + α • (restr E.n inF (at0 (E.solve inF)) - restr E.n inF x) := by
    funext i
    simp only [restr, trialVal, Pi.add_apply, Pi.smul_apply, Pi.sub_apply, smul_eq_mul]
    by_cases hi : inF i = true
    · have hc : ¬ ((1 - α) * x i + α * at0 (E.solve inF) i < 0) := fun hlt =>
        hno ⟨i, i.2, by rw [trialClamp, hi, decide_eq_true hlt]; rfl⟩
      simp only [hi, hc, ↓reduceIte]
      ring
    · simp only [hi, Bool.false_eq_true, ↓reduceIte]
      ring
  have hne : restr E.n inF (at0 (E.solve inF)) - restr E.n inF x ≠ 0 := by
    obtain ⟨i, hi, hFi, hlt⟩ := hneg
    intro h0
    have := congrFun h0 ⟨i, hi⟩
    simp only [Pi.sub_apply, restr, hFi, if_true, Pi.zero_apply] at this
    have := hx i
    linarith
  have := seg_decrease (toMat E.n A) (toVec E.n b) _ _ hA α ha0 ha1 hne
    (solve_stationary hE.solve_exact inF fun i hi => by simp [restr, hi])
  rw [← e1] at this
  exact absurd (hres.mpr (by linarith)) Bool.false_ne_true

theorem walk_feasible_decreases (E : B3Env) (A : Mat) (b : Vec) (hR : ExactResid E A b) (inF : ℕ → Bool)
    (x xF : ℕ → ℚ) (hx : ∀ i, 0 ≤ x i) (hw : (walkDescents E inF x xF).2 = true) :
    qf (toMat E.n A) (toVec E.n b) (restr E.n inF (trialVal inF x xF (walkDescents E inF x xF).1))
      < qf (toMat E.n A) (toVec E.n b) (restr E.n inF x) := by
  have h := (walkDescents_spec E inF x xF).2.mp hw
  rw [hR, hR, restr_trialVal_zero _ hx] at h
  linarith

/-- the gradient of `x` does not vanish on `F` when e.g. `F` has just received a coefficient with a negative
multiplier -/
theorem full_step_decreases (E : B3Env) (A : Mat) (b : Vec) (hA : SPD (toMat E.n A)) (hS : ExactSolve E A b)
    (inF : ℕ → Bool) (x : ℕ → ℚ) (hsup : ∀ i, i < E.n → inF i = false → x i = 0)
    (hg : ∃ i, i < E.n ∧ inF i = true ∧ grad E.n A b x i ≠ 0) :
    qf (toMat E.n A) (toVec E.n b) (restr E.n inF (at0 (E.solve inF))) < qf (toMat E.n A) (toVec E.n b) (toVec E.n x) := by
  have hne : restr E.n inF (at0 (E.solve inF)) - toVec E.n x ≠ 0 := by
    obtain ⟨i, hi, hFi, hgi⟩ := hg
    intro h0
    apply hgi
    rw [grad_eq E.n A b x ⟨i, hi⟩, ← sub_eq_zero.mp h0]
    exact hS.gradM_restr inF ⟨i, hi⟩ hFi
  have := seg_decrease (toMat E.n A) (toVec E.n b) (toVec E.n x) _ hA 1 one_pos le_rfl hne
    (solve_stationary hS inF fun i hi => by simp [restr, toVec, hi, hsup i i.2 hi])
  rwa [one_smul, add_sub_cancel] at this

/-- a pass that goes round again with `F' = F \ H` for an `H` meeting `F` has lowered the measure -/
theorem nextF_drop {E : B3Env} {s s' : B3State} {h2 : Array Bool} {H : ℕ → Bool} (hF : s'.inF = passF E s h2)
    (hH : s'.h1 = tab E.n H) (hw : ∃ i, i < E.n ∧ atF (passF E s h2) i = true ∧ H i = true) :
    countB E.n (nextF s' #[]) < countB E.n (nextF s h2) := by
  obtain ⟨i, hi, hFi, hHi⟩ := hw
  refine countB_drop (h := H) (fun j hj => ?_) ⟨i, hi, ?_, hHi⟩
  · rw [nextF_nil, keep, hF, hH, passF, atF_tab _ hj, atF_tab _ hj]
  · rwa [passF, atF_tab _ hi] at hFi

theorem innerLoop_terminates (E : B3Env) (A : Mat) (b : Vec) (hA : SPD (toMat E.n A)) (hE : ExactEnv E A b)
    (hR : ExactResid E A b) : ∀ (fuel : ℕ) (s : B3State) (h2 : Array Bool), NN s →
    countB E.n (nextF s h2) < fuel → ∃ s', innerLoop E fuel s h2 = some s' := by
  intro fuel
  induction fuel with
  | zero => exact fun s h2 _ h => absurd h (Nat.not_lt_zero _)
  | succ f ih =>
    intro s h2 hs hm
    refine innerLoop_cases E f s h2 (fun r => ∃ s', r = some s') (fun _ => ⟨_, rfl⟩) (fun c1 => ?_)
      (fun _ _ => ⟨_, rfl⟩) (fun c1 c3 => ?_)
    · -- descent at boundary: the negative coefficients of the solve are bound
      obtain ⟨i, hi, hneg⟩ := countB_exists c1
      exact ih _ _ (bindSt_nn h2 hs) (lt_of_lt_of_le
        (nextF_drop rfl rfl ⟨i, hi, (Bool.and_eq_true _ _ ▸ hneg).1, hneg⟩) (Nat.lt_succ_iff.mp hm))
    · -- unsuccessful walk: something was clamped
      obtain ⟨i0, hi0, hneg0⟩ := countB_exists c1
      rw [passNeg, Bool.and_eq_true, decide_eq_true_eq] at hneg0
      obtain ⟨i, hi, hcl⟩ := walk_infeasible_clamps E A b hA hE hR (atF (passF E s h2)) (at0 s.x) hs
        ⟨i0, hi0, hneg0⟩ c3
      exact ih _ _ (walkSt_nn h2 hs) (lt_of_lt_of_le
        (nextF_drop rfl rfl ⟨i, hi, (Bool.and_eq_true _ _ ▸ hcl).1, hcl⟩) (Nat.lt_succ_iff.mp hm))

theorem outerLoop_no_innerFuel (E : B3Env) (A : Mat) (b : Vec) (hA : SPD (toMat E.n A)) (hE : ExactEnv E A b)
    (hR : ExactResid E A b) (hfu : E.n < E.innerFuel) :
    ∀ (fuel : ℕ) (s : B3State), NN s → (outerLoop E fuel s).2 ≠ B3Exit.innerFuel := by
  intro fuel s hs hex
  obtain ⟨hnn, _, hnone⟩ := outerLoop_exit E (pass_nn E) fuel s _ hs rfl
  obtain ⟨s1, h1⟩ := innerLoop_terminates E A b hA hE hR E.innerFuel (enterSt E (outerLoop E fuel s).1)
    (enterH2 E (outerLoop E fuel s).1) hnn ((countB_le _ _).trans_lt hfu)
  rw [hnone hex] at h1
  cases h1

end PsV.Nnls
