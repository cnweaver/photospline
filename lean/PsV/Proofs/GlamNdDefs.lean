import PsV.Model.FitGlam
import PsV.Proofs.Lawful
/-!
# C09, n dimensions: shared statement-level definitions for the GLAM identity and the polynomial reproduction
-/
namespace PsV
open Arith

section
variable {α : Type} [Field α] [LinearOrder α] [A : Arith α]

/-- `Π_d b_d[j_d, g_d]` (0 when the three lists differ in length) -/
def matProd : List (Mat α) → List Nat → List Nat → α
  | b :: bs, j :: js, g :: gs => b.val j g * matProd bs js gs
  | [], [], [] => 1
  | _, _, _ => 0

/-- `[a_d·n_d + b_d]` -/
def pairIdx : List Nat → List Nat → List Nat → List Nat
  | n :: ns, a :: as, b :: bs => (a * n + b) :: pairIdx ns as bs
  | _, _, _ => []

/-- index tuple of the coefficient at position `i`: `(i / stride_d) % naxes_d` -/
def comps (dims : List (Dim α)) (i : Nat) : List Nat := dims.map fun d => (i / d.stride) % d.naxes

/-- Greville abscissa `ξ_k = (t_{k+1} + … + t_{k+order})/order` -/
def greville (t : Int → α) (order k : Nat) : α :=
  (∑ m ∈ Finset.range order, t ((k : Int) + 1 + m)) / (order : α)

end
end PsV
