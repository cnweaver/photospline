import PsV.Proofs.Convolve
import PsV.Proofs.BSpline
import PsV.Spec.Convolve
/-!
A dimension of a `CTable` read as a dimension of the shared Cox–de Boor specification (`ConvSpec.toDim`): its knots are
the list's, and at every point of the knot range the specification's basis value `Bsel` is the polynomial piece `Bp` of
one non-empty knot interval that contains the point (`Bsel_eq_Bp`).
-/
namespace PsV

theorem toDim_knots_nat (d : CDim Rat) (i : Nat) : (ConvSpec.toDim d).knots (i : Int) = getK d.knots i := by
  unfold ConvSpec.toDim getK
  have : ¬ ((i : Int) < 0) := by omega
  simp [this]

theorem toDim_knots_mono (d : CDim Rat) (hkn : d.knots.length = d.nknots) (hs : d.knots.Pairwise (· ≤ ·)) :
    ∀ i j : Int, 0 ≤ i → i ≤ j → j < d.nknots → (ConvSpec.toDim d).knots i ≤ (ConvSpec.toDim d).knots j := by
  intro i j hi hij hj
  lift i to Nat using hi
  lift j to Nat using (Int.natCast_nonneg i).trans hij
  rw [toDim_knots_nat, toDim_knots_nat]
  exact getK_mono d.knots hs _ _ (by omega) (by omega)

theorem Bsel_eq_Bp (d : CDim Rat) (x : Rat) (hkn : d.knots.length = d.nknots) (hnax : d.naxes + d.order + 1 = d.nknots)
    (hs : d.knots.Pairwise (· ≤ ·)) (hn1 : 1 ≤ d.naxes) (h01 : getK d.knots 0 < getK d.knots 1)
    (hx1 : getK d.knots 0 ≤ x) (hx2 : x ≤ getK d.knots (d.nknots - 1)) :
    ∃ left : Nat, left + 1 < d.nknots ∧ getK d.knots left < getK d.knots (left+1) ∧
      getK d.knots left ≤ x ∧ x ≤ getK d.knots (left+1) ∧
      ∀ l, l < d.naxes → Bsel (ConvSpec.toDim d) x 0 l = Bp (ConvSpec.toDim d).knots x (left : Int) d.order (l : Int) := by
  have hmono : ∀ a b : Int, 0 ≤ a → a ≤ b → b ≤ (d.nknots : Int) - 1 → _ :=
    fun a b h1 h2 h3 => toDim_knots_mono d hkn hs a b h1 h2 (by omega)
  simp only [← toDim_knots_nat] at h01 hx1 hx2 ⊢
  -- the convention in force fires at one interval `left` only, so `Bind` is the polynomial piece of `left`
  obtain ⟨left, l1, l2, hsel, hne, a, b⟩ := selInd_exists hmono (le_refl _) (Int.natCast_nonneg _)
    (show (d.naxes : Int) ≤ _ by omega) (le_refl _)
    hx1 (show x ≤ _ from (Int.natCast_sub (by omega : 1 ≤ d.nknots) ▸ hx2 : _))
    (lt_of_lt_of_le h01 (hmono 1 d.naxes (by omega) (by omega) (by omega)))
  lift left to Nat using l1
  exact ⟨left, by omega, hne, a, b, fun l hl => Bind_eq_Bp _ _ x left d.order l fun j j1 j2 =>
    selInd_iff_eq hmono (Int.natCast_nonneg _) l2 hsel j (by omega) (by omega)⟩

end PsV
