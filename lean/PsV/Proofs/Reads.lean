import PsV.Proofs.Lanes
/-!
Which memory the evaluation routines depend on (C05).  For **every** arithmetic (`Arith` instance: any comparison
outcomes, so NaN, infinities and denormals are covered) the routines' results are unchanged when the knot function is
altered outside the owned range `[-order, nknots+order)` and the coefficient function outside `[0, ncoef)`: every index
they pass to `knots[·]` / `coefficients[·]` lies inside owned storage.  This is shown for the basis routines and the
margin loops, for the block walk (row-major strides, centres in the fully supported range), for `evalModes`, through
which all of `ndsplineeval`, `ndsplineeval_deriv` and `operator()` go, and for every lane of `ndsplineeval_gradient`
(bspline_multi.h).  All loops are structural recursions or carry explicit fuel, so they terminate.
-/
namespace PsV
variable {α : Type} [A : Arith α]

/-- two knot functions agree on the index interval `[lo, hi]` -/
def AgreeOn (t t' : Int → α) (lo hi : Int) : Prop := ∀ i, lo ≤ i → i ≤ hi → t i = t' i

omit A in
/-- reading inside the interval (one arithmetic side condition per read) -/
theorem AgreeOn.eq {t t' : Int → α} {lo hi : Int} (h : AgreeOn t t' lo hi) (i : Int) (hmem : lo ≤ i ∧ i ≤ hi) :
    t i = t' i := h i hmem.1 hmem.2

omit A in
theorem AgreeOn.mono {t t' : Int → α} {lo hi lo' hi' : Int} (h : AgreeOn t t' lo hi)
    (h1 : lo ≤ lo' ∧ hi' ≤ hi) : AgreeOn t t' lo' hi' :=
  fun i a b => h i (by omega) (by omega)

/-- the first margin loop reads `knots[0 .. left]`; with it, where the loop can end (needed for the reads of what
follows) -/
theorem shiftDown_congr (t t' : Int → α) (x : α) :
    ∀ (fuel : Nat) (left : Int), AgreeOn t t' 0 left →
      shiftDown t x fuel left = shiftDown t' x fuel left ∧ (-1 ≤ left → -1 ≤ shiftDown t x fuel left) ∧
      shiftDown t x fuel left ≤ left
  | 0, left, _ => ⟨rfl, id, Int.le_refl _⟩
  | f + 1, left, h => by
    rw [shiftDown, shiftDown]
    by_cases hl : left ≥ 0
    · rw [← h.eq left ⟨hl, Int.le_refl _⟩]
      split
      · obtain ⟨a, b, c⟩ := shiftDown_congr t t' x f (left - 1) (h.mono (by omega))
        exact ⟨a, fun _ => b (by omega), by omega⟩
      · exact ⟨rfl, id, Int.le_refl _⟩
    · simp only [decide_eq_false hl, Bool.false_and, Bool.false_eq_true, if_false]
      exact ⟨trivial, id, Int.le_refl _⟩

/-- the second margin loop reads `knots[left+1 .. nknots-1]`; with it, where the loop can end -/
theorem shiftUp_congr (t t' : Int → α) (nknots : Nat) (x : α) :
    ∀ (fuel : Nat) (left : Int), AgreeOn t t' (left + 1) ((nknots : Int) - 1) →
      shiftUp t nknots x fuel left = shiftUp t' nknots x fuel left ∧ left ≤ shiftUp t nknots x fuel left ∧
      (left ≤ (nknots : Int) - 1 → shiftUp t nknots x fuel left ≤ (nknots : Int) - 1)
  | 0, left, _ => ⟨rfl, Int.le_refl _, id⟩
  | f + 1, left, h => by
    rw [shiftUp, shiftUp]
    by_cases hl : left < (nknots : Int) - 1
    · rw [← h.eq (left + 1) (by omega)]
      split
      · obtain ⟨a, b, c⟩ := shiftUp_congr t t' nknots x f (left + 1) (h.mono (by omega))
        exact ⟨a, by omega, fun _ => c (by omega)⟩
      · exact ⟨rfl, Int.le_refl _, id⟩
    · simp only [decide_eq_false hl, Bool.false_and, Bool.false_eq_true, if_false]
      exact ⟨trivial, Int.le_refl _, id⟩

theorem marginShift_congr (t t' : Int → α) (nknots : Nat) (x : α) (left : Int) (n : Nat)
    (h : AgreeOn t t' 0 ((nknots : Int) - 1)) (h0 : 0 ≤ left) (h1 : left ≤ (nknots : Int) - 2) :
    marginShift t nknots x left n = marginShift t' nknots x left n ∧
    -1 ≤ marginShift t nknots x left n ∧ marginShift t nknots x left n ≤ (nknots : Int) - 1 := by
  rw [marginShift, marginShift]
  obtain ⟨d1, d2, d3⟩ := shiftDown_congr t t' x (nknots + 1) left (h.mono (by omega))
  rw [← d1]
  -- the first loop leaves `l1` in `[-1, left]`
  have b1 : -1 ≤ (if left = (n : Int) then shiftDown t x (nknots + 1) left else left) ∧
      (if left = (n : Int) then shiftDown t x (nknots + 1) left else left) ≤ left := by
    split
    · exact ⟨d2 (by omega), d3⟩
    · omega
  generalize (if left = (n : Int) then shiftDown t x (nknots + 1) left else left) = l1 at b1 ⊢
  obtain ⟨u1, u2, u3⟩ := shiftUp_congr t t' nknots x (nknots + 1) l1 (h.mono (by omega))
  rw [← u1]
  split
  · exact ⟨rfl, by omega, u3 (by omega)⟩
  · exact ⟨rfl, b1.1, by omega⟩

/-! Everything computed on the interval `left` at order `n` reads `knots[left-n+1 .. left+n]`; the lemmas below
take that one interval, whatever smaller part the routine at hand needs. -/

theorem vbStep_congr (t t' : Int → α) (x : α) (left : Int) (j n : Nat) (hj : j < n)
    (h : AgreeOn t t' (left - n + 1) (left + n)) :
    ∀ (bs : List α) (i : Nat) (saved : α), i + bs.length ≤ j + 1 →
      vbStep t x left j i saved bs = vbStep t' x left j i saved bs
  | [], _, _, _ => rfl
  | b :: bs, i, saved, hl => by
    rw [List.length_cons] at hl
    rw [vbStep, vbStep, h.eq (left + i + 1) (by omega), h.eq (left - ((j - i : Nat) : Int)) (by omega),
      vbStep_congr t t' x left j n hj h bs (i + 1) _ (by omega)]

theorem vbLevels_congr (t t' : Int → α) (x : α) (left : Int) (n : Nat)
    (h : AgreeOn t t' (left - n + 1) (left + n)) :
    ∀ (count j : Nat) (row : List α), row.length = j + 1 → j + count ≤ n →
      vbLevels t x left count j row = vbLevels t' x left count j row
  | 0, _, _, _, _ => rfl
  | c + 1, j, row, hl, hn => by
    rw [vbLevels, vbLevels, ← vbStep_congr t t' x left j n (by omega) h row 0 A.zero (by omega)]
    exact vbLevels_congr t t' x left n h c (j + 1) _ (by rw [vbStep_len, hl]) (by omega)

/-- `bsplvb(…, jhigh)` reads `knots[left-jhigh+2 .. left+jhigh-1]` -/
theorem bsplvb_congr (t t' : Int → α) (x : α) (left : Int) (jhigh n : Nat) (hn : jhigh ≤ n + 1)
    (h : AgreeOn t t' (left - n + 1) (left + n)) :
    bsplvb t x left jhigh = bsplvb t' x left jhigh :=
  vbLevels_congr t t' x left n h (jhigh - 1) 0 [A.rnd A.one] rfl (by omega)

theorem derivMid_congr (t t' : Int → α) (left : Int) (n : Nat) (h : AgreeOn t t' (left - n + 1) (left + n)) :
    ∀ (vs : List α) (i : Nat) (temp : α), 1 ≤ i → i + vs.length ≤ n →
      derivMid t left n i temp vs = derivMid t' left n i temp vs
  | [], i, temp, hi, hl => by
    rw [List.length_nil] at hl
    rw [derivMid, derivMid, h.eq (left + i) (by omega), h.eq (left + i - n) (by omega)]
  | v :: vs, i, temp, hi, hl => by
    rw [List.length_cons] at hl
    rw [derivMid, derivMid, h.eq (left + i) (by omega), h.eq (left + i - n) (by omega),
      h.eq (left + i + 1) (by omega), h.eq (left + i + 1 - n) (by omega),
      derivMid_congr t t' left n h vs (i + 1) v (by omega) (by omega)]

/-- the derivative combination on `n` values reads `knots[left+1-n .. left+n]` -/
theorem derivCombine_congr (t t' : Int → α) (left : Int) (n : Nat) (vals : List α) (hl : vals.length = n)
    (h : AgreeOn t t' (left - n + 1) (left + n)) :
    derivCombine t left n vals = derivCombine t' left n vals := by
  cases vals with
  | nil => rfl
  | cons v vs =>
    rw [List.length_cons] at hl
    rw [derivCombine, derivCombine, h.eq (left + 1) (by omega), h.eq (left + 1 - n) (by omega),
      derivMid_congr t t' left n h vs 1 v (Nat.le_refl _) (by omega)]

/-- what the margin loops leave for the basis routines: an interval `l` (in `[-1, nknots-1]`), the same for both
knot functions, around which they agree -/
theorem marginShift_owned (t t' : Int → α) (nknots : Nat) (x : α) (c : Nat) (n : Nat)
    (hc2 : c + n + 2 ≤ nknots) (h : AgreeOn t t' (-(n : Int)) ((nknots : Int) + n - 1)) :
    marginShift t nknots x c n = marginShift t' nknots x c n ∧
    AgreeOn t t' (marginShift t nknots x c n - n + 1) (marginShift t nknots x c n + n) := by
  obtain ⟨e, b1, b2⟩ := marginShift_congr t t' nknots x c n (h.mono (by omega)) (by omega) (by omega)
  exact ⟨e, h.mono (by omega)⟩

/-- **`bsplvb_simple` reads only `knots[-order .. nknots+order-1]`** (centre in the fully supported
range; any `x`, any arithmetic). -/
theorem bsplvbSimple_congr (t t' : Int → α) (nknots : Nat) (x : α) (c : Nat) (n : Nat)
    (hc2 : c + n + 2 ≤ nknots) (h : AgreeOn t t' (-(n : Int)) ((nknots : Int) + n - 1)) :
    bsplvbSimple t nknots x c n = bsplvbSimple t' nknots x c n := by
  obtain ⟨e, hl⟩ := marginShift_owned t t' nknots x c n hc2 h
  rw [bsplvbSimple, bsplvbSimple, ← e, ← bsplvb_congr t t' x _ (n + 1) n (Nat.le_refl _) hl]

/-- **`bspline_deriv_nonzero` reads only `knots[-order .. nknots+order-1]`.** -/
theorem bsplineDerivNonzero_congr (t t' : Int → α) (nknots : Nat) (x : α) (c : Nat) (n : Nat)
    (hc2 : c + n + 2 ≤ nknots) (h : AgreeOn t t' (-(n : Int)) ((nknots : Int) + n - 1)) :
    bsplineDerivNonzero t nknots x c n = bsplineDerivNonzero t' nknots x c n := by
  rw [bsplineDerivNonzero, bsplineDerivNonzero]
  split
  · rfl
  · obtain ⟨e, hl⟩ := marginShift_owned t t' nknots x c n hc2 h
    rw [← e]
    generalize marginShift t nknots x c n = l at hl ⊢
    simp only [← bsplvb_congr t t' x l n n (by omega) hl,
      derivCombine_congr t t' l n (bsplvb t x l n) (by rw [bsplvb_len]; omega) hl]

/-- **`bspline_nonzero` (gradient lanes) reads only `knots[-order .. nknots+order-1]`**: its two rows are those
of `bsplvb_simple` and `bspline_deriv_nonzero`, operation for operation. -/
theorem bsplineNonzero_congr (t t' : Int → α) (nknots : Nat) (x : α) (c : Nat) (n : Nat)
    (hc2 : c + n + 2 ≤ nknots) (h : AgreeOn t t' (-(n : Int)) ((nknots : Int) + n - 1)) :
    bsplineNonzero t nknots x c n = bsplineNonzero t' nknots x c n := by
  by_cases hn : n = 0
  · subst hn; rfl
  · refine Prod.ext ?_ ?_
    · rw [bsplineNonzero_values t nknots x c n hn, bsplineNonzero_values t' nknots x c n hn]
      exact bsplvbSimple_congr t t' nknots x c n hc2 h
    · rw [bsplineNonzero_derivs, bsplineNonzero_derivs]
      exact bsplineDerivNonzero_congr t t' nknots x c n hc2 h

theorem bsplineRec_congr (t t' : Int → α) (x : α) :
    ∀ (n : Nat) (i : Int), AgreeOn t t' i (i + n + 1) → bsplineRec t x n i = bsplineRec t' x n i
  | 0, i, h => by
    rw [bsplineRec, bsplineRec, h.eq i (by omega), h.eq (i + 1) (by omega)]
  | n + 1, i, h => by
    rw [bsplineRec, bsplineRec, h.eq i (by omega), h.eq (i + n + 1) (by omega), h.eq (i + n + 2) (by omega),
      h.eq (i + 1) (by omega), bsplineRec_congr t t' x n i (h.mono (by omega)),
      bsplineRec_congr t t' x n (i + 1) (h.mono (by omega))]

theorem bsplineDerivRec_congr (t t' : Int → α) (x : α) :
    ∀ (n : Nat) (i : Int) (k : Nat), AgreeOn t t' i (i + n + 1) →
      bsplineDerivRec t x n i k = bsplineDerivRec t' x n i k
  | 0, _, _, _ => rfl
  | n + 1, i, k, h => by
    rw [bsplineDerivRec, bsplineDerivRec, h.eq i (by omega), h.eq (i + n + 1) (by omega),
      h.eq (i + n + 2) (by omega), h.eq (i + 1) (by omega),
      bsplineRec_congr t t' x n i (h.mono (by omega)), bsplineRec_congr t t' x n (i + 1) (h.mono (by omega)),
      bsplineDerivRec_congr t t' x n i (k - 1) (h.mono (by omega)),
      bsplineDerivRec_congr t t' x n (i + 1) (k - 1) (h.mono (by omega))]

theorem localRow_congr (d d' : Dim α) (x : α) (c : Nat) (m : BasisMode)
    (ho : d'.order = d.order) (hk : d'.nknots = d.nknots)
    (hc2 : c + d.order + 2 ≤ d.nknots)
    (h : AgreeOn d.knots d'.knots (-(d.order : Int)) ((d.nknots : Int) + d.order - 1)) :
    localRow d x c m = localRow d' x c m := by
  cases m with
  | value => simp only [localRow, ho, hk]; exact bsplvbSimple_congr _ _ _ x c _ hc2 h
  | deriv1 => simp only [localRow, ho, hk]; exact bsplineDerivNonzero_congr _ _ _ x c _ hc2 h
  | derivK k =>
    simp only [localRow, ho]
    apply List.map_congr_left
    intro i hi
    rw [List.mem_range] at hi
    rw [bsplineDerivRec_congr d.knots d'.knots x d.order _ k (h.mono (by omega))]

def RowMajor : List (Dim α) → Prop
  | [] => True
  | [d] => d.stride = 1
  | d :: e :: rest => d.stride = e.stride * e.naxes ∧ RowMajor (e :: rest)

/-- number of stored coefficients: `strides[0] * naxes[0]` -/
def ncoef : List (Dim α) → Nat
  | [] => 1
  | d :: _ => d.stride * d.naxes

/-- every centre is a fully supported interval of its axis (`order ≤ c ≤ nknots - order - 2`), one centre per dimension;
the clause `naxes = nknots - order - 1` is a fact about the dimension that `block_in_range` needs with it -/
def CentersInRange : List (Dim α) → List Nat → Prop
  | [], [] => True
  | d :: ds, c :: cs => (d.order ≤ c ∧ c + d.order + 2 ≤ d.nknots ∧ d.naxes = d.nknots - d.order - 1) ∧ CentersInRange ds cs
  | _, _ => False

/-- rows that have one entry per dimension with that dimension's stride and `order+1` weights -/
def Shaped : List (Dim α) → List (Nat × List α) → Prop
  | [], [] => True
  | d :: ds, r :: rs => (r.1 = d.stride ∧ r.2.length = d.order + 1) ∧ Shaped ds rs
  | _, _ => False

/-- furthest offset (relative to the start position) the walk over a table's block touches:
`Σ order_d · stride_d` -/
def blockSpan : List (Dim α) → Nat
  | [] => 0
  | d :: ds => d.order * d.stride + blockSpan ds

theorem walkLast_congr (coef coef' : Int → α) (bt : α) :
    ∀ (row : List α) (pos : Int) (acc : α), AgreeOn coef coef' pos (pos + row.length - 1) →
      walkLast coef bt row pos acc = walkLast coef' bt row pos acc
  | [], _, _, _ => rfl
  | b :: bs, pos, acc, h => by
    rw [List.length_cons] at h
    rw [walkLast, walkLast, h.eq pos (by omega), walkLast_congr coef coef' bt bs (pos + 1) _ (h.mono (by omega))]

/-- the walk over shaped rows reads `coefficients[pos .. pos + blockSpan]` -/
theorem walk_congr (coef coef' : Int → α) :
    ∀ (ds : List (Dim α)) (rs : List (Nat × List α)), RowMajor ds → Shaped ds rs →
      ∀ (bt : α) (pos : Int) (acc : α), AgreeOn coef coef' pos (pos + blockSpan ds) →
        walk coef rs bt pos acc = walk coef' rs bt pos acc
  | [], [], _, _, _, _, _, _ => by rw [walk, walk]
  | [d], [(s, row)], h1, ⟨⟨_, hl⟩, _⟩, bt, pos, acc, h => by
    have h1 : d.stride = 1 := h1
    have hl : row.length = d.order + 1 := hl
    rw [walk, walk]
    exact walkLast_congr coef coef' bt row pos acc (h.mono (by rw [hl, blockSpan, blockSpan, h1]; omega))
  | d :: e :: ds, (s, row) :: r1 :: rs, hrm, ⟨⟨hs, hl⟩, hrest⟩, bt, pos, acc, h => by
    have hs : s = d.stride := hs
    have hl : row.length = d.order + 1 := hl
    rw [walk, walk]
    -- iterate over the row: entry `k` of `bs` starts its block at `p + k * s`
    have key : ∀ (bs : List α) (p : Int) (a : α),
        AgreeOn coef coef' p (p + ((bs.length : Int) - 1) * s + blockSpan (e :: ds)) →
        walkRow coef s (r1 :: rs) bt bs p a = walkRow coef' s (r1 :: rs) bt bs p a := by
      intro bs
      induction bs with
      | nil => intros; rw [walkRow, walkRow]
      | cons b bs ihb =>
        intro p a hp
        have hs0 : (0:Int) ≤ (bs.length : Int) * s := Int.mul_nonneg (by omega) (by omega)
        rw [List.length_cons, Int.natCast_succ, Int.add_sub_cancel] at hp
        rw [walkRow, walkRow, walk_congr coef coef' (e :: ds) (r1 :: rs) hrm.2 hrest _ p a (hp.mono (by omega))]
        exact ihb _ _ (hp.mono (by rw [Int.sub_mul, Int.one_mul]; omega))
    refine key row pos acc (h.mono ?_)
    rw [hl, hs, show blockSpan (d :: e :: ds) = d.order * d.stride + blockSpan (e :: ds) from rfl, Int.natCast_succ,
      Int.add_sub_cancel]
    push_cast
    omega

omit A in
/-- the block of the centres lies inside the coefficient array: `Σ c_d · stride_d ≤ ncoef - 1` -/
theorem block_in_range : ∀ (ds : List (Dim α)) (cs : List Nat), RowMajor ds → CentersInRange ds cs →
    0 ≤ startPos ds cs ∧ startPos ds cs + blockSpan ds + 1 ≤ ncoef ds
  | [], [], _, _ => ⟨Int.le_refl 0, Int.le_refl 1⟩
  | [d], [c], hs, ⟨⟨h1, h2, h3⟩, _⟩ => by
    have hs : d.stride = 1 := hs
    simp only [startPos, blockSpan, ncoef, hs]
    omega
  | d :: e :: ds, c :: cs, ⟨hs, hrm⟩, ⟨⟨h1, h2, h3⟩, hrest⟩ => by
    obtain ⟨i1, i2⟩ := block_in_range (e :: ds) cs hrm hrest
    rw [ncoef, ← hs] at i2
    -- `(c - order)·stride + order·stride = c·stride` and `(c + 1)·stride ≤ naxes·stride`
    have e1 : ((c:Int) - d.order) * d.stride = (c:Int) * d.stride - (d.order:Int) * d.stride := Int.sub_mul ..
    have e2 : (d.order:Int) * d.stride ≤ (c:Int) * d.stride := Int.mul_le_mul_of_nonneg_right (by omega) (by omega)
    have e3 : ((c:Int) + 1) * d.stride ≤ (d.naxes:Int) * d.stride := Int.mul_le_mul_of_nonneg_right (by omega) (by omega)
    rw [Int.add_mul, Int.one_mul] at e3
    rw [startPos, blockSpan, ncoef, e1, Nat.mul_comm d.stride]
    push_cast
    omega

/-- **The block walk reads `coefficients[0 .. ncoef-1]` only.** -/
theorem walk_owned (coef coef' : Int → α) (ds : List (Dim α)) (cs : List Nat) (rs : List (Nat × List α))
    (hrm : RowMajor ds) (hc : CentersInRange ds cs) (hsh : Shaped ds rs)
    (hcoef : AgreeOn coef coef' 0 ((ncoef ds : Int) - 1)) (bt acc : α) :
    walk coef rs bt (startPos ds cs) acc = walk coef' rs bt (startPos ds cs) acc := by
  obtain ⟨h1, h2⟩ := block_in_range ds cs hrm hc
  exact walk_congr coef coef' ds rs hrm hsh bt _ acc (hcoef.mono (by omega))

/-- same shape, knots equal on the owned index range `[-order, nknots+order)` -/
def SameShape : List (Dim α) → List (Dim α) → Prop
  | [], [] => True
  | d :: ds, e :: es =>
    (e.order = d.order ∧ e.nknots = d.nknots ∧ e.naxes = d.naxes ∧ e.stride = d.stride ∧
      AgreeOn d.knots e.knots (-(d.order : Int)) ((d.nknots : Int) + d.order - 1)) ∧ SameShape ds es
  | _, _ => False

omit A in
theorem sameShape_length : ∀ (ds es : List (Dim α)), SameShape ds es → es.length = ds.length
  | [], [], _ => rfl
  | _ :: ds, _ :: es, h => congrArg (· + 1) (sameShape_length ds es h.2)

theorem rows_congr : ∀ (ds es : List (Dim α)) (xs : List α) (cs : List Nat) (ms : List BasisMode),
    SameShape ds es → CentersInRange ds cs → rows ds xs cs ms = rows es xs cs ms
  | [], [], _, _, _, _, _ => rfl
  | _ :: _, _ :: _, [], _ :: _, _, _, _ => rfl
  | _ :: _, _ :: _, _ :: _, _ :: _, [], _, _ => rfl
  | d :: ds, e :: es, x :: xs, c :: cs, m :: ms, ⟨⟨h1, h2, _, h4, h5⟩, hrest⟩, ⟨⟨_, c2, _⟩, hcrest⟩ => by
    rw [rows, rows, rows_congr ds es xs cs ms hrest hcrest, h4, localRow_congr d e x c m h1 h2 c2 h5]

omit A in
theorem startPos_congr : ∀ (ds es : List (Dim α)) (cs : List Nat), SameShape ds es →
    startPos ds cs = startPos es cs
  | [], [], _, _ => rfl
  | _ :: _, _ :: _, [], _ => rfl
  | d :: ds, e :: es, c :: cs, ⟨⟨h1, _, _, h4, _⟩, hrest⟩ => by
    rw [startPos, startPos, startPos_congr ds es cs hrest, h1, h4]

theorem rows_shaped : ∀ (ds : List (Dim α)) (xs : List α) (cs : List Nat) (ms : List BasisMode),
    ds.length = xs.length → ds.length = cs.length → ds.length = ms.length → Shaped ds (rows ds xs cs ms)
  | [], [], [], [], _, _, _ => trivial
  | d :: ds, x :: xs, c :: cs, m :: ms, hx, hc, hm =>
    ⟨⟨rfl, localRow_len d x c m⟩, rows_shaped ds xs cs ms (Nat.succ.inj hx) (Nat.succ.inj hc) (Nat.succ.inj hm)⟩

omit A in
theorem centersInRange_length : ∀ (ds : List (Dim α)) (cs : List Nat), CentersInRange ds cs → ds.length = cs.length
  | [], [], _ => rfl
  | _ :: ds, _ :: cs, h => congrArg (· + 1) (centersInRange_length ds cs h.2)

theorem gradRows_shaped : ∀ (ds : List (Dim α)) (xs : List α) (cs : List Nat) (lane n : Nat),
    ds.length = xs.length → ds.length = cs.length → Shaped ds (gradRows ds xs cs lane n)
  | [], [], [], _, _, _, _ => trivial
  | d :: ds, x :: xs, c :: cs, lane, n, hx, hc => by
    have hl := bsplineNonzero_length d.knots d.nknots x c d.order
    refine ⟨⟨rfl, ?_⟩, gradRows_shaped ds xs cs lane (n + 1) (Nat.succ.inj hx) (Nat.succ.inj hc)⟩
    show (if lane = n + 1 then _ else _ : List α).length = _
    split
    · exact hl.2
    · exact hl.1

theorem gradRows_congr : ∀ (ds es : List (Dim α)) (xs : List α) (cs : List Nat) (lane n : Nat),
    SameShape ds es → CentersInRange ds cs → gradRows ds xs cs lane n = gradRows es xs cs lane n
  | [], [], _, _, _, _, _, _ => rfl
  | _ :: _, _ :: _, [], _ :: _, _, _, _, _ => rfl
  | d :: ds, e :: es, x :: xs, c :: cs, lane, n, ⟨⟨h1, h2, _, h4, h5⟩, hrest⟩, ⟨⟨_, c2, _⟩, hcrest⟩ => by
    rw [gradRows, gradRows, gradRows_congr ds es xs cs lane (n + 1) hrest hcrest, h4, h1, h2,
      bsplineNonzero_congr d.knots e.knots d.nknots x c d.order c2 h5]

/-- what the two table-level statements share: rows that the two tables agree on and that have the table's shape, walked
from the start position of the centres -/
theorem walk_rows_owned (T T' : Table α) (cs : List Nat) (rs rs' : List (Nat × List α))
    (hshape : SameShape T.dims T'.dims) (hrm : RowMajor T.dims) (hc : CentersInRange T.dims cs)
    (hrs : rs = rs') (hsh : Shaped T.dims rs) (hcoef : AgreeOn T.coef T'.coef 0 ((ncoef T.dims : Int) - 1)) (bt acc : α) :
    walk T.coef rs bt (startPos T.dims cs) acc = walk T'.coef rs' bt (startPos T'.dims cs) acc := by
  rw [← hrs, ← startPos_congr T.dims T'.dims cs hshape]
  exact walk_owned _ _ _ cs _ hrm hc hsh hcoef _ _

theorem evalModes_owned (T T' : Table α) (xs : List α) (cs : List Nat) (ms : List BasisMode)
    (hshape : SameShape T.dims T'.dims) (hrm : RowMajor T.dims)
    (hc : CentersInRange T.dims cs) (hx : T.dims.length = xs.length) (hm : T.dims.length = ms.length)
    (hcoef : AgreeOn T.coef T'.coef 0 ((ncoef T.dims : Int) - 1)) :
    evalModes T xs cs ms = evalModes T' xs cs ms :=
  walk_rows_owned T T' cs _ _ hshape hrm hc (rows_congr T.dims T'.dims xs cs ms hshape hc)
    (rows_shaped _ xs cs ms hx (centersInRange_length _ _ hc) hm) hcoef _ _

theorem ndsplineevalGradient_owned (maxDim : Nat) (T T' : Table α) (xs : List α) (cs : List Nat)
    (hshape : SameShape T.dims T'.dims) (hrm : RowMajor T.dims)
    (hc : CentersInRange T.dims cs) (hx : T.dims.length = xs.length)
    (hcoef : AgreeOn T.coef T'.coef 0 ((ncoef T.dims : Int) - 1)) :
    ndsplineevalGradient maxDim T xs cs = ndsplineevalGradient maxDim T' xs cs := by
  rw [ndsplineevalGradient, ndsplineevalGradient, sameShape_length _ _ hshape]
  split
  · rfl
  · exact congrArg some (List.map_congr_left fun lane _ =>
      walk_rows_owned T T' cs _ _ hshape hrm hc (gradRows_congr T.dims T'.dims xs cs lane 0 hshape hc)
        (gradRows_shaped _ xs cs lane 0 hx (centersInRange_length _ _ hc)) hcoef _ _)

end PsV
