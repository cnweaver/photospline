import PsV.Proofs.FitsCodec
import Mathlib.Tactic.Ring
/-! What an accepted byte string looks like (C07: the decoder stays inside the buffer).

`PsV/Proofs/FitsCodec.lean` proves `decode (encode f) = f`.  This file proves the other direction's framing facts,
for **every** byte string `b`: if `decodeFits b = some f` then `b` is tiled by the HDUs of `f` (`Framed b f`,
`HduSpan`), each pixel array being the big-endian words of `b` at its offset.  So no pixel the reader model ever returns
comes from outside the buffer, the sizes declared by the header cards are covered by bytes that are present
(`framed_size`), and nothing of the buffer is left over.  Buffers that are shorter than their headers claim — the
inputs on which cfitsio's memory driver over-reads (known finding) — are rejected by `decodeFits`.
One HDU (`decodeHdu_frame`) is `splitHeader_spec` under the inversion `Codec.decodeHdu_some`; `decodeFits_f32_bits` is
the tiling read for the coefficient words of the primary image (C06, NaN clause).
-/
namespace PsV.Fits

theorem blockPad_spec (m : Nat) : (m + blockPad m) % 2880 = 0 := by unfold blockPad; omega

/-- `n` counts the cards consumed before, so the block boundary is that of `n * 80 + k` -/
theorem splitHeader_spec : ∀ (fuel n : Nat) (b : Bytes) (cs : List Str) (r : Bytes),
    splitHeader fuel n b = some (cs, r) →
    ∃ k, 80 ≤ k ∧ k ≤ b.length ∧ (n * 80 + k) % 2880 = 0 ∧ r = b.drop k
  | 0, n, b, cs, r, h => by simp [splitHeader] at h
  | fuel+1, n, b, cs, r, h => by
    rw [splitHeader] at h
    by_cases hlen : b.length < 80
    · rw [if_pos hlen] at h; cases h
    rw [if_neg hlen] at h
    dsimp only at h
    by_cases hend : (b.take 80).map chr = endCard
    · rw [if_pos hend] at h
      by_cases hpad : (b.drop 80).length < blockPad ((n + 1) * 80)
      · rw [if_pos hpad] at h; cases h
      · rw [if_neg hpad] at h
        obtain ⟨_, rfl⟩ := Prod.mk.inj (Option.some.inj h)
        rw [List.length_drop] at hpad
        exact ⟨80 + blockPad ((n + 1) * 80), by omega, by omega,
          by rw [← Nat.add_assoc, ← Nat.succ_mul]; exact blockPad_spec _, by rw [List.drop_drop]⟩
    · rw [if_neg hend] at h
      cases hs : splitHeader fuel (n + 1) (b.drop 80) with
      | none => rw [hs] at h; cases h
      | some p =>
        obtain ⟨cs', r'⟩ := p
        rw [hs] at h
        obtain ⟨_, rfl⟩ := Prod.mk.inj (Option.some.inj h)
        obtain ⟨k, h1, h2, h3, h4⟩ := splitHeader_spec fuel (n + 1) _ cs' r' hs
        rw [List.length_drop] at h2
        exact ⟨80 + k, by omega, by omega, by rw [← Nat.add_assoc, ← Nat.succ_mul]; exact h3,
          by rw [h4, List.drop_drop]⟩

/-- HDU `h` occupies `b[0, k+m)`: header blocks `b[0, k)`, data blocks `b[k, k+m)`; its pixel array has the
    declared number of elements, fits into the data blocks, and is spelled by the bytes at offset `k` -/
structure HduSpan (b : Bytes) (h : Hdu) (k m : Nat) : Prop where
  hdr_pos : 2880 ≤ k
  hdr_blocks : k % 2880 = 0
  data_blocks : m % 2880 = 0
  inside : k + m ≤ b.length
  count : h.pix.length = npix h.axes
  fits : h.pix.width * npix h.axes ≤ m
  words : pixBytes h.pix = (b.drop k).take (h.pix.width * npix h.axes)

/-- `hused`: the test `rest.length < used` of `decodeHdu` has not fired -/
theorem HduSpan.of_data {b : Bytes} {k : Nat} (hpos : 2880 ≤ k) (hblk : k % 2880 = 0) (hin : k ≤ b.length) (axes : List Nat)
    (cards : List Card) (pix : Pix) (hc : pix.length = npix axes)
    (hw : pixBytes pix = (b.drop k).take (pix.width * npix axes))
    (hused : ¬ (b.drop k).length < pix.width * npix axes + blockPad (pix.width * npix axes)) :
    HduSpan b ⟨axes, cards, pix⟩ k (pix.width * npix axes + blockPad (pix.width * npix axes)) :=
  ⟨hpos, hblk, blockPad_spec _, by rw [List.length_drop] at hused; omega, hc, Nat.le_add_right _ _, hw⟩

theorem decodeHdu_frame (p : Bool) (b : Bytes) (h : Hdu) (rest : Bytes) (hd : decodeHdu p b = some (h, rest)) :
    ∃ k m, HduSpan b h k m ∧ rest = b.drop (k + m) := by
  obtain ⟨raw, r0, cs, hs, _, _, hc, hw, hused, rfl⟩ := Codec.decodeHdu_some hd
  obtain ⟨k, k1, hin, k3, rfl⟩ := splitHeader_spec _ _ _ _ _ hs
  exact ⟨k, _, .of_data (by omega) (by omega) hin h.axes h.cards h.pix hc hw hused, by rw [List.drop_drop]⟩

/-- `b` is tiled by the HDUs of `f`, nothing left over -/
def Framed : Bytes → List Hdu → Prop
  | b, [] => b = []
  | b, h :: hs => ∃ k m, HduSpan b h k m ∧ Framed (b.drop (k + m)) hs

theorem decodeAux_framed : ∀ (fuel : Nat) (p : Bool) (b : Bytes) (f : List Hdu),
    decodeAux fuel p b = some f → Framed b f
  | 0, p, b, f, h => by simp [decodeAux] at h
  | fuel+1, p, b, f, h => by
    unfold decodeAux at h
    split at h
    · rename_i hb
      split at h
      · cases h
      · have := Option.some.inj h; subst this; exact hb
    · cases hd : decodeHdu p b with
      | none => rw [hd] at h; cases h
      | some q =>
        obtain ⟨hdu, rest⟩ := q
        rw [hd] at h
        simp only at h
        cases hr : decodeAux fuel false rest with
        | none => rw [hr] at h; cases h
        | some hs =>
          rw [hr] at h
          simp only [Option.map_some, Option.some.injEq] at h
          subst h
          obtain ⟨k, m, hspan, rfl⟩ := decodeHdu_frame p b hdu rest hd
          exact ⟨k, m, hspan, decodeAux_framed fuel false _ hs hr⟩

theorem decodeFits_framed (b : Bytes) (f : Fits) (h : decodeFits b = some f) : Framed b f :=
  decodeAux_framed _ _ _ _ h

theorem framed_count : ∀ (b : Bytes) (f : List Hdu), Framed b f → ∀ h ∈ f, h.pix.length = npix h.axes
  | _, [], _, h, hm => by cases hm
  | b, g :: gs, hf, h, hm => by
    obtain ⟨k, m, hs, hr⟩ := hf
    rcases List.mem_cons.mp hm with rfl | hm'
    · exact hs.count
    · exact framed_count _ gs hr h hm'

/-- the sizes the header cards declare are covered by bytes that are present: one header block and the pixel
    bytes per HDU, summed, do not exceed the buffer -/
theorem framed_size : ∀ (b : Bytes) (f : List Hdu), Framed b f →
    (f.map fun h => 2880 + h.pix.width * npix h.axes).sum ≤ b.length
  | _, [], _ => by simp
  | b, g :: gs, hf => by
    obtain ⟨k, m, hs, hr⟩ := hf
    have := framed_size _ gs hr
    simp only [List.length_drop] at this
    simp only [List.map_cons, List.sum_cons]
    have h1 := hs.hdr_pos; have h2 := hs.fits; have h3 := hs.inside
    omega

/-- for the primary HDU (`p = true`) `decodeAux` refuses the empty byte string -/
theorem decodeFits_ne_nil (b : Bytes) (f : Fits) (h : decodeFits b = some f) : f ≠ [] := by
  intro hf
  subst hf
  unfold decodeFits decodeAux at h
  split at h
  · simp at h
  · cases hd : decodeHdu true b with
    | none => rw [hd] at h; cases h
    | some q =>
      rw [hd] at h
      simp only at h
      cases hr : decodeAux (b.length / 2880) false q.2 with
      | none => rw [hr] at h; cases h
      | some hs => rw [hr] at h; simp at h

theorem HduSpan.f32_bits {b : Bytes} {h : Hdu} {k m : Nat} {d : List UInt32} (hs : HduSpan b h k m)
    (hp : h.pix = .f32 d) :
    ∃ off, off % 2880 = 0 ∧ d.length = npix h.axes ∧ enc32 d = (b.drop off).take (4 * d.length) := by
  have hc := hs.count
  have hw := hs.words
  rw [hp] at hc hw
  exact ⟨k, hs.hdr_blocks, hc, by rw [show d.length = npix h.axes from hc]; exact hw⟩

end PsV.Fits

namespace PsV.Fits.Codec

theorem dec32_bytes : ∀ (n : Nat) (r : Bytes) (d : List UInt32), dec32 n r = some d →
    d.length = n ∧ enc32 d = r.take (4 * n) :=
  fun n r d h => ⟨(dec32_spec n r d h).1, (dec32_spec n r d h).2.2⟩

theorem splitHeader_suffix : ∀ (fuel n : Nat) (b : Bytes) (cs : List Str) (r : Bytes),
    splitHeader fuel n b = some (cs, r) → ∃ k, r = b.drop k ∧ (n * 80 + k) % 2880 = 0 ∧ k ≤ b.length :=
  fun fuel n b cs r h => let ⟨k, _, h2, h3, h4⟩ := splitHeader_spec fuel n b cs r h; ⟨k, h4, h3, h2⟩

theorem decodeHdu_f32_bits (p : Bool) (b r : Bytes) (h : Hdu) (d : List UInt32)
    (hd : decodeHdu p b = some (h, r)) (hp : h.pix = .f32 d) :
    ∃ off, off % 2880 = 0 ∧ d.length = npix h.axes ∧ enc32 d = (b.drop off).take (4 * d.length) :=
  let ⟨_, _, hs, _⟩ := decodeHdu_frame p b h r hd
  hs.f32_bits hp

/-- **Reading is bit-exact**: whatever file the decoder accepts, the coefficient words of its primary image are the
    bytes of the file, big-endian, starting at a block boundary. -/
theorem decodeFits_f32_bits (b : Bytes) (h0 : Hdu) (rest : List Hdu) (d : List UInt32)
    (hd : decodeFits b = some (h0 :: rest)) (hp : h0.pix = .f32 d) :
    ∃ off, off % 2880 = 0 ∧ d.length = npix h0.axes ∧ enc32 d = (b.drop off).take (4 * d.length) :=
  let ⟨_, _, hs, _⟩ := decodeFits_framed b _ hd
  hs.f32_bits hp

end PsV.Fits.Codec
