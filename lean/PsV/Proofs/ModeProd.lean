import PsV.Proofs.Glam
import Mathlib.Data.List.Dedup
import PsV.Proofs.GlamNdDefs
/-!
# A sequence of mode products computes the tensor contraction

The model of `slicemultiply` lists a result entry for every (section entry, stored entry of `bᵀ`) pair — the symbolic
pattern of CHOLMOD's `ssmult`: `NdSparse.Lists`, `slice_lists_iff'`; a tensor that lists valid indices only lists at most
`Π ranges` distinct ones (`listed_count_le`).

`modeLoop bs 0 a` is `slicemultiply(a, bs_i, i)` for every dimension `i` — the loop of `grideval` (with the transposed
basis matrices) and both loops of `glamfit_complex` (with the bases and the boxed bases).  Whatever the matrices are,
the result holds at a valid index `idx` the sum over the listed entries `(e, v)` of `a` of `(Π_d bs_d[e_d, idx_d])·v`,
and lists `idx` exactly when one of these weights is not zero (`modeLoop_get`; `ModeInv` is the state after some of
the products, `ModeInv.step` one call of `slicemultiply`).
-/
set_option linter.unusedSectionVars false
namespace PsV

/-- the tensor lists the index tuple (with some value, possibly several times) -/
def NdSparse.Lists {α : Type} (s : NdSparse α) (idx : List Nat) : Prop := ∃ v, (idx, v) ∈ s.entries

section
variable {α : Type} [Field α] [LinearOrder α] [A : Arith α] [L : LawfulArith α]

theorem slice_lists_iff' (a : NdSparse α) (b : Mat α) (dim : Nat) (ha : a.WF) (hd : dim < a.ranges.length)
    (a' : NdSparse α) (h : sliceMultiply a b dim = some a') (idx : List Nat) :
    a'.Lists idx ↔ ∃ e, a.Lists e ∧ ∃ g, g < b.ncol ∧ b.val (e.getD dim 0) g ≠ 0 ∧ idx = e.set dim g := by
  have hb : b.nrow = a.ranges.getD dim 0 := by
    by_contra hne
    rw [sliceMultiply_eq_none a b dim hne] at h
    cases h
  rw [sliceMultiply_eq_some a b dim hb] at h
  have h' := (Option.some.inj h).symm
  subst h'
  unfold NdSparse.Lists
  simp only [List.mem_flatMap, List.mem_filterMap, List.mem_range]
  constructor
  · rintro ⟨v, e, he, g, hg, hif⟩
    by_cases hz : isZero (b.val (e.1.getD dim 0) g) = true
    · rw [if_pos hz] at hif; exact absurd hif (by simp)
    · rw [if_neg hz] at hif
      have hinj := Option.some.inj hif
      have h1 : unflattenIdx (a.ranges.set dim b.ncol) dim g (flattenCol a.ranges e.1 dim) = idx :=
        congrArg Prod.fst hinj
      rw [unflatten_flatten' a.ranges e.1 dim g b.ncol (ha e he) hd] at h1
      refine ⟨e.1, ⟨e.2, he⟩, g, hg, ?_, h1.symm⟩
      intro h0
      exact hz ((isZero_iff _).mpr h0)
  · rintro ⟨e, ⟨w, he⟩, g, hg, hnz, rfl⟩
    refine ⟨A.mul (b.val (e.getD dim 0) g) w, (e, w), he, g, hg, ?_⟩
    have hz : ¬ isZero (b.val (e.getD dim 0) g) = true := fun hz => hnz ((isZero_iff _).mp hz)
    simp only
    rw [if_neg hz, unflatten_flatten' a.ranges e dim g b.ncol (ha (e, w) he) hd]

end

theorem nodup_idx_length_le (R : List Nat) (l : List (List Nat)) (hn : l.Nodup)
    (hv : ∀ idx ∈ l, IdxIn idx R) : l.length ≤ PsV.Permute.prodL R := by
  have hinj : ∀ x ∈ l, ∀ y ∈ l, PsV.Permute.flat R x = PsV.Permute.flat R y → x = y := by
    intro x hx y hy h
    rw [← PsV.Permute.digits_flat x R (hv x hx), ← PsV.Permute.digits_flat y R (hv y hy), h]
  have hn' : (l.map (PsV.Permute.flat R)).Nodup := List.Nodup.map_on hinj hn
  have hsub : (l.map (PsV.Permute.flat R)).toFinset ⊆ Finset.range (PsV.Permute.prodL R) := by
    intro q hq
    simp only [List.mem_toFinset, List.mem_map] at hq
    obtain ⟨x, hx, rfl⟩ := hq
    exact Finset.mem_range.mpr (PsV.Permute.flat_lt x R (hv x hx))
  have := Finset.card_le_card hsub
  rwa [List.toFinset_card_of_nodup hn', List.length_map, Finset.card_range] at this

/-- the number of distinct index tuples a well-formed tensor lists (= the number of rows of the n-tuple
after CHOLMOD has merged duplicates) is at most the dense size -/
theorem listed_count_le {α : Type} (s : NdSparse α) (hs : s.WF) :
    (s.entries.map (·.1)).dedup.length ≤ PsV.Permute.prodL s.ranges := by
  apply nodup_idx_length_le _ _ (List.nodup_dedup _)
  intro idx hidx
  rw [List.mem_dedup, List.mem_map] at hidx
  obtain ⟨e, he, rfl⟩ := hidx
  exact hs e he

open Finset
section
variable {α : Type} [Field α] [LinearOrder α] [A : Arith α] [L : LawfulArith α]

/-- `for i: a = slicemultiply(a, b_i, i)` starting at dimension `i` -/
def modeLoop : List (Mat α) → Nat → NdSparse α → Option (NdSparse α)
  | [], _, a => some a
  | b :: bs, i, a =>
    match sliceMultiply a b i with
    | some a' => modeLoop bs (i+1) a'
    | none => none

/-- weight of a source entry `js` at the index `gs` after the mode products with `bs` along the leading dimensions:
`Π_d bs_d[js_d, gs_d]` times `[the remaining indices agree]` -/
def modeWeight : List (Mat α) → List Nat → List Nat → α
  | [], js, gs => if js = gs then 1 else 0
  | b :: bs, j :: js, g :: gs => b.val j g * modeWeight bs js gs
  | _ :: _, _, _ => 0

theorem modeWeight_eq_matProd (bs : List (Mat α)) (js gs : List Nat) (h : js.length = bs.length) :
    modeWeight bs js gs = matProd bs js gs := by
  induction bs generalizing js gs with
  | nil =>
    have : js = [] := by simpa using h
    subst this
    cases gs <;> simp [modeWeight, matProd]
  | cons b bs ih =>
    cases js with
    | nil => simp at h
    | cons j js =>
      cases gs with
      | nil => simp [modeWeight, matProd]
      | cons g gs =>
        simp only [modeWeight, matProd]
        rw [ih js gs (by simpa using h)]

theorem modeWeight_ne_zero_getD (pre : List (Mat α)) (e idx : List Nat) (h : modeWeight pre e idx ≠ 0) :
    e.getD pre.length 0 = idx.getD pre.length 0 := by
  induction pre generalizing e idx with
  | nil =>
    simp only [modeWeight, ne_eq, ite_eq_right_iff, one_ne_zero, imp_false, not_not] at h
    rw [h]
  | cons p pre ih =>
    cases e with
    | nil => exact absurd rfl h
    | cons e0 es =>
      cases idx with
      | nil => exact absurd rfl h
      | cons i0 is => exact ih es is (right_ne_zero_of_mul h)

/-- one more mode product, along dimension `pre.length`: only row `e_k` of the new matrix meets the entry `e` -/
theorem modeWeight_snoc_mul (pre : List (Mat α)) (b : Mat α) (e idx : List Nat)
    (he : pre.length < e.length) (hi : pre.length < idx.length) :
    modeWeight (pre ++ [b]) e idx = b.val (e.getD pre.length 0) (idx.getD pre.length 0)
      * modeWeight pre e (idx.set pre.length (e.getD pre.length 0)) := by
  induction pre generalizing e idx with
  | nil =>
    obtain ⟨e0, es, rfl⟩ := List.exists_cons_of_length_pos he
    obtain ⟨i0, is, rfl⟩ := List.exists_cons_of_length_pos hi
    simp [modeWeight]
  | cons p pre ih =>
    obtain ⟨e0, es, rfl⟩ := List.exists_cons_of_length_pos (Nat.zero_lt_of_lt he)
    obtain ⟨i0, is, rfl⟩ := List.exists_cons_of_length_pos (Nat.zero_lt_of_lt hi)
    simp only [List.cons_append, modeWeight, List.length_cons, List.getD_cons_succ, List.set_cons_succ]
    rw [ih es is (by simpa using he) (by simpa using hi)]
    ring

theorem modeWeight_snoc (pre : List (Mat α)) (b : Mat α) (n : Nat) (e idx : List Nat)
    (he : pre.length < e.length) (hi : pre.length < idx.length) (hn : e.getD pre.length 0 < n) :
    modeWeight (pre ++ [b]) e idx
      = ∑ j ∈ range n, b.val j (idx.getD pre.length 0) * modeWeight pre e (idx.set pre.length j) := by
  rw [modeWeight_snoc_mul pre b e idx he hi, Finset.sum_eq_single (e.getD pre.length 0)]
  · intro j _ hne
    by_contra h0
    exact hne (by rw [modeWeight_ne_zero_getD pre e _ (right_ne_zero_of_mul h0), getD_set_self hi])
  · intro h; exact absurd (mem_range.mpr hn) h

theorem sum_mul_listSum {β : Type} (n : Nat) (c : Nat → α) (l : List β) (f : Nat → β → α) :
    ∑ j ∈ range n, c j * (l.map (f j)).sum = (l.map fun e => ∑ j ∈ range n, c j * f j e).sum := by
  induction l with
  | nil => simp
  | cons e l ih =>
    simp only [List.map_cons, List.sum_cons, mul_add, sum_add_distrib, ih]

/-- the tensor after the mode products of `⟨_, es⟩` with `pre` along the leading dimensions; `rpost` are the ranges
of the dimensions still to come, so the ranges of the source tensor were `pre.map nrow ++ rpost` (`src`) -/
structure ModeInv (es : List (List Nat × α)) (pre : List (Mat α)) (rpost : List Nat) (a : NdSparse α) : Prop where
  ranges : a.ranges = pre.map (fun b => b.ncol) ++ rpost
  wf : a.WF
  src : ∀ e ∈ es, IdxIn e.1 (pre.map (fun b => b.nrow) ++ rpost)
  get : ∀ idx, IdxIn idx a.ranges → a.get idx = (es.map fun e => modeWeight pre e.1 idx * e.2).sum
  lists : ∀ idx, a.Lists idx ↔ IdxIn idx a.ranges ∧ ∃ e ∈ es, modeWeight pre e.1 idx ≠ 0

theorem ModeInv.init (ranges : List Nat) (es : List (List Nat × α)) (hes : ∀ e ∈ es, IdxIn e.1 ranges) :
    ModeInv es [] ranges ⟨ranges, es⟩ := by
  refine ⟨rfl, hes, hes, fun idx _ => ?_, fun idx => ?_⟩
  · rw [get_eq_entSum]
    unfold entSum
    congr 1
    apply List.map_congr_left
    intro e _
    simp only [modeWeight]
    split <;> simp
  · simp only [modeWeight, ne_eq, ite_eq_right_iff, one_ne_zero, imp_false, not_not]
    constructor
    · rintro ⟨v, hv⟩
      exact ⟨hes _ hv, _, hv, rfl⟩
    · rintro ⟨_, e, he, rfl⟩
      exact ⟨e.2, he⟩

theorem ModeInv.step {es : List (List Nat × α)} {pre : List (Mat α)} {r : Nat} {rpost : List Nat} {a : NdSparse α}
    (h : ModeInv es pre (r :: rpost) a) (b : Mat α) (hbr : b.nrow = r) :
    ∃ a', sliceMultiply a b pre.length = some a' ∧ ModeInv es (pre ++ [b]) rpost a' := by
  obtain ⟨hr, hwf, hsrc, hget, hlists⟩ := h
  have hk : pre.length = (pre.map fun b => b.ncol).length := (List.length_map _).symm
  have hd : pre.length < a.ranges.length := by
    rw [hr, List.length_append, List.length_cons, ← hk]; omega
  have hrk : a.ranges.getD pre.length 0 = r := by
    rw [hr, hk]; exact getD_append_length _ _ _
  obtain ⟨a', h1, h2, h3, h4⟩ := sliceMultiply_spec a b pre.length hwf hd (by rw [hrk]; exact hbr)
  have hr' : a'.ranges = (pre ++ [b]).map (fun b => b.ncol) ++ rpost := by
    rw [h2, hr]
    conv_lhs => rw [hk]
    rw [set_append_length]
    simp
  have hkr : pre.length = (pre.map fun b => b.nrow).length := (List.length_map _).symm
  have hlt : pre.length < (pre.map (fun b => b.nrow) ++ r :: rpost).length := by
    rw [List.length_append, List.length_cons, ← hkr]; omega
  have hel : ∀ e ∈ es, pre.length < e.1.length := fun e he => (hsrc e he).1 ▸ hlt
  have hen : ∀ e ∈ es, e.1.getD pre.length 0 < b.nrow := fun e he => by
    have := (hsrc e he).2 pre.length hlt
    rwa [hkr, getD_append_length, ← hkr, ← hbr] at this
  have hil : ∀ idx, IdxIn idx (a.ranges.set pre.length b.ncol) → pre.length < idx.length := by
    intro idx hv; rw [hv.1, List.length_set]; exact hd
  have hvj : ∀ idx, IdxIn idx (a.ranges.set pre.length b.ncol) → ∀ j, j < b.nrow →
      IdxIn (idx.set pre.length j) a.ranges := by
    intro idx hv j hj
    have := hv.set pre.length j b.nrow hj
    rwa [List.set_set, hbr, ← hrk, set_getD_self rfl] at this
  refine ⟨a', h1, hr', h3, fun e he => ?_, fun idx hv => ?_, fun idx => ?_⟩
  · rw [List.map_append, List.append_assoc, List.map_singleton, List.singleton_append, hbr]
    exact hsrc e he
  · rw [h4 idx hv]
    rw [h2] at hv
    have e1 : ∑ j ∈ range b.nrow, b.val j (idx.getD pre.length 0) * a.get (idx.set pre.length j)
        = ∑ j ∈ range b.nrow, b.val j (idx.getD pre.length 0)
            * (es.map ((fun j (e : List Nat × α) => modeWeight pre e.1 (idx.set pre.length j) * e.2) j)).sum :=
      Finset.sum_congr rfl fun j hj => by rw [hget _ (hvj idx hv j (mem_range.mp hj))]
    rw [e1, sum_mul_listSum]
    congr 1
    apply List.map_congr_left
    intro e he
    rw [modeWeight_snoc pre b b.nrow e.1 idx (hel e he) (hil idx hv) (hen e he), Finset.sum_mul]
    exact Finset.sum_congr rfl fun j _ => by ring
  · rw [slice_lists_iff' a b pre.length hwf hd a' h1 idx, h2]
    constructor
    · rintro ⟨e', he', g, hg, hnz, rfl⟩
      obtain ⟨hv', e, he, hne⟩ := (hlists e').mp he'
      have hk' : pre.length < e'.length := by rw [hv'.1]; exact hd
      have hee := modeWeight_ne_zero_getD pre e.1 e' hne
      refine ⟨hv'.set pre.length g b.ncol hg, e, he, ?_⟩
      rw [modeWeight_snoc_mul pre b e.1 _ (hel e he) (by simpa using hk'), getD_set_self hk', List.set_set,
        hee, set_getD_self rfl]
      exact mul_ne_zero hnz hne
    · rintro ⟨hv, e, he, hne⟩
      rw [modeWeight_snoc_mul pre b e.1 idx (hel e he) (hil idx hv)] at hne
      have hg : idx.getD pre.length 0 < b.ncol := by
        have := hv.2 pre.length (by rw [List.length_set]; exact hd)
        rwa [getD_set_self hd] at this
      refine ⟨idx.set pre.length (e.1.getD pre.length 0),
        (hlists _).mpr ⟨hvj idx hv _ (hen e he), e, he, right_ne_zero_of_mul hne⟩, idx.getD pre.length 0, hg, ?_, ?_⟩
      · rw [getD_set_self (hil idx hv)]; exact left_ne_zero_of_mul hne
      · rw [List.set_set, set_getD_self rfl]

theorem modeLoop_inv (es : List (List Nat × α)) (post : List (Mat α)) (rpost : List Nat)
    (hrow : List.Forall₂ (fun (b : Mat α) r => b.nrow = r) post rpost) :
    ∀ (pre : List (Mat α)) (a : NdSparse α), ModeInv es pre rpost a →
      ∃ a', modeLoop post pre.length a = some a' ∧ ModeInv es (pre ++ post) [] a' := by
  induction hrow with
  | nil =>
    intro pre a h
    rw [List.append_nil]
    exact ⟨a, rfl, h⟩
  | @cons b r post rpost hbr _ ih =>
    intro pre a h
    obtain ⟨a', h1, h2⟩ := h.step b hbr
    obtain ⟨a'', g1, g2⟩ := ih (pre ++ [b]) a' h2
    rw [List.append_assoc] at g2
    rw [List.length_append] at g1
    refine ⟨a'', ?_, g2⟩
    simp only [modeLoop, h1]
    exact g1

/-- **A sequence of mode products computes the tensor contraction**: one matrix per dimension, any matrices. -/
theorem modeLoop_get (bs : List (Mat α)) (ranges : List Nat) (es : List (List Nat × α))
    (hrow : List.Forall₂ (fun (b : Mat α) r => b.nrow = r) bs ranges)
    (hes : ∀ e ∈ es, IdxIn e.1 ranges) :
    ∃ a', modeLoop bs 0 ⟨ranges, es⟩ = some a' ∧ a'.ranges = bs.map (fun b => b.ncol) ∧ a'.WF ∧
      (∀ idx, IdxIn idx a'.ranges → a'.get idx = (es.map fun e => matProd bs e.1 idx * e.2).sum) ∧
      ∀ idx, a'.Lists idx ↔ IdxIn idx a'.ranges ∧ ∃ e ∈ es, matProd bs e.1 idx ≠ 0 := by
  obtain ⟨a', h1, h2, h3, _, h4, h5⟩ := modeLoop_inv es bs ranges hrow [] ⟨ranges, es⟩
    (ModeInv.init ranges es hes)
  have hm : ∀ e ∈ es, ∀ idx, modeWeight ([] ++ bs) e.1 idx = matProd bs e.1 idx := fun e he idx =>
    modeWeight_eq_matProd bs e.1 idx (by rw [(hes e he).1, hrow.length_eq])
  refine ⟨a', h1, by simpa using h2, h3, fun idx hv => ?_, fun idx => ?_⟩
  · rw [h4 idx hv]
    exact congrArg List.sum (List.map_congr_left fun e he => by rw [hm e he])
  · rw [h5 idx]
    exact and_congr_right fun _ => exists_congr fun e => and_congr_right fun he => by rw [hm e he]

end
end PsV
