import PsV.Proofs.SchurStep
import Mathlib.Algebra.BigOperators.Intervals
import Mathlib.Algebra.BigOperators.Ring.Finset
import Mathlib.Algebra.Order.BigOperators.Ring.Finset
import Mathlib.Tactic.FieldSimp
import Mathlib.Algebra.BigOperators.Field
import Mathlib.Tactic.Positivity
/-!
# Elimination theory for C11, on entry functions

`FM = ℕ → ℕ → ℚ` is a matrix given by its entries; only the box `[0,k) × [0,k]` (augmented system) matters.
`elim F c` is one Gauss–Jordan step with pivot `(c,c)` and no row exchange, `fgj cs F` the run over the pivot
columns `cs` (`none` at a zero pivot), returning the reduced entries and the pivots.  `PsV/Proofs/NnlsBridge.lean`
shows that the executable `gaussJordan` of `PsV/Model/Nnls.lean` (arrays of arrays) computes exactly `fgj`.

Proved here, for all sizes and all entries: a run over `0,…,k−1` that succeeds solves the system, and on a symmetric
trailing block the run succeeds with all pivots `> 0` exactly when the block is positive definite (`posRun_iff_pd`).
The `LDLᵀ` step itself is `SchurStep`'s: `Qf` and `PDOn` are its `quadFrom` and `PosDefFrom` at `ℚ` word for word, so its
lemmas apply to them as they stand (here and in `NnlsSolve`, `NnlsExist`), and below the pivot `elim` is `schur`.
-/
namespace PsV.Nnls
open Finset

abbrev FM := ℕ → ℕ → ℚ

/-- one Gauss–Jordan step on the entries: row `c` is divided by the pivot, every other row `r` gets
`row_r − F r c · row_c'` -/
def elim (F : FM) (c : ℕ) : FM := fun r j =>
  if r = c then F c j / F c c else F r j - F r c * (F c j / F c c)

theorem elim_pivot (F : FM) (c j : ℕ) : elim F c c j = F c j / F c c := if_pos rfl

theorem elim_off {F : FM} {c r : ℕ} (h : r ≠ c) (j : ℕ) : elim F c r j = F r j - F r c * (F c j / F c c) :=
  if_neg h

theorem elim_sum_pivot (F : FM) (c : ℕ) (s : Finset ℕ) (x : ℕ → ℚ) :
    ∑ j ∈ s, elim F c c j * x j = (∑ j ∈ s, F c j * x j) / F c c := by
  rw [Finset.sum_div]
  exact sum_congr rfl fun j _ => by rw [elim_pivot, div_mul_eq_mul_div]

theorem elim_sum {F : FM} {c r : ℕ} (h : r ≠ c) (s : Finset ℕ) (x : ℕ → ℚ) :
    ∑ j ∈ s, elim F c r j * x j = ∑ j ∈ s, F r j * x j - F r c * ((∑ j ∈ s, F c j * x j) / F c c) := by
  rw [← elim_sum_pivot, Finset.mul_sum, ← sum_sub_distrib]
  exact sum_congr rfl fun j _ => by rw [elim_off h, sub_mul, mul_assoc, elim_pivot]

/-- the run over the pivot columns `cs` -/
def fgj : List ℕ → FM → Option (FM × List ℚ)
  | [], F => some (F, [])
  | c :: cs, F =>
    if F c c = 0 then none else
      match fgj cs (elim F c) with
      | none => none
      | some (R, ps) => some (R, F c c :: ps)

theorem fgj_cons_some {c : ℕ} {cs : List ℕ} {F R : FM} {ps : List ℚ} (h : fgj (c :: cs) F = some (R, ps)) :
    F c c ≠ 0 ∧ ∃ ps', fgj cs (elim F c) = some (R, ps') ∧ ps = F c c :: ps' := by
  unfold fgj at h
  split_ifs at h with h0
  cases hr : fgj cs (elim F c) with
  | none => rw [hr] at h; simp at h
  | some Rp =>
    rw [hr] at h
    obtain ⟨R', ps'⟩ := Rp
    simp only [Option.some.injEq, Prod.mk.injEq] at h
    refine ⟨h0, ps', ?_, h.2.symm⟩
    rw [h.1]

/-- `x` solves the augmented `k × (k+1)` system `F` -/
def Solves (k : ℕ) (F : FM) (x : ℕ → ℚ) : Prop := ∀ r, r < k → ∑ j ∈ range k, F r j * x j = F r k

theorem elim_solves {k c : ℕ} {F : FM} {x : ℕ → ℚ} (hc : c < k) (hp : F c c ≠ 0)
    (h : Solves k (elim F c) x) : Solves k F x := by
  have hrowc : ∑ j ∈ range k, F c j * x j = F c k := by
    have := h c hc
    rw [elim_sum_pivot, elim_pivot] at this
    exact (div_left_inj' hp).mp this
  intro r hr
  by_cases hrc : r = c
  · rw [hrc]; exact hrowc
  · have h2 := h r hr
    rw [elim_sum hrc, elim_off hrc, hrowc] at h2
    exact sub_left_inj.mp h2

theorem fgj_solves {k : ℕ} {x : ℕ → ℚ} : ∀ (cs : List ℕ) (F R : FM) (ps : List ℚ), (∀ c ∈ cs, c < k) →
    fgj cs F = some (R, ps) → Solves k R x → Solves k F x := by
  intro cs
  induction cs with
  | nil => intro F R ps _ h hs; simp only [fgj, Option.some.injEq, Prod.mk.injEq] at h; rw [h.1]; exact hs
  | cons c cs ih =>
    intro F R ps hcs h hs
    obtain ⟨hp, ps', hr, _⟩ := fgj_cons_some h
    exact elim_solves (hcs c (List.mem_cons_self)) hp
      (ih _ _ _ (fun d hd => hcs d (List.mem_cons_of_mem _ hd)) hr hs)

/-- the columns `< c` are unit columns -/
def IdCols (k c : ℕ) (F : FM) : Prop := ∀ j, j < c → ∀ r, r < k → F r j = if r = j then 1 else 0

theorem elim_idcols {k c : ℕ} {F : FM} (hc : c < k) (hp : F c c ≠ 0) (h : IdCols k c F) :
    IdCols k (c+1) (elim F c) := by
  intro j hj r hr
  rcases Nat.lt_succ_iff_lt_or_eq.mp hj with hjc | rfl
  · have hcj : F c j = 0 := (h j hjc c hc).trans (if_neg (Nat.ne_of_gt hjc))
    by_cases hrc : r = c
    · rw [hrc, elim_pivot, hcj, zero_div, if_neg (Nat.ne_of_gt hjc)]
    · rw [elim_off hrc, hcj, zero_div, mul_zero, sub_zero, h j hjc r hr]
  · by_cases hrc : r = j
    · rw [hrc, elim_pivot, div_self hp, if_pos rfl]
    · rw [elim_off hrc, div_self hp, mul_one, sub_self, if_neg hrc]

theorem fgj_range'_idcols {k : ℕ} : ∀ (m c : ℕ) (F R : FM) (ps : List ℚ), c + m ≤ k →
    fgj (List.range' c m) F = some (R, ps) → IdCols k c F → IdCols k (c+m) R := by
  intro m
  induction m with
  | zero =>
    intro c F R ps _ h hI
    simp only [List.range'_zero, fgj, Option.some.injEq, Prod.mk.injEq] at h
    rw [← h.1]; exact hI
  | succ m ih =>
    intro c F R ps hk h hI
    rw [List.range'_succ] at h
    obtain ⟨hp, ps', hr, _⟩ := fgj_cons_some h
    have hk' : c + 1 + m ≤ k := (Nat.add_right_comm c 1 m).le.trans hk
    have := ih (c+1) _ R ps' hk' hr (elim_idcols (Nat.lt_of_lt_of_le (Nat.lt_add_of_pos_right m.succ_pos) hk) hp hI)
    rwa [Nat.add_right_comm c 1 m] at this

theorem fgj_range_solves {k : ℕ} {F R : FM} {ps : List ℚ} (h : fgj (List.range k) F = some (R, ps)) :
    Solves k F (fun j => R j k) := by
  refine fgj_solves (List.range k) F R ps (fun c hc => List.mem_range.mp hc) h ?_
  rw [List.range_eq_range'] at h
  have hI := fgj_range'_idcols (k := k) k 0 F R ps (Nat.zero_add k).le h (fun j hj => absurd hj (Nat.not_lt_zero j))
  intro r hr
  have : ∀ j ∈ range k, R r j * R j k = if r = j then R j k else 0 := by
    intro j hj
    rw [hI j (by simpa using mem_range.mp hj) r hr]
    split <;> simp
  rw [sum_congr rfl this, Finset.sum_ite_eq, if_pos (mem_range.mpr hr)]

/-- the quadratic form of the trailing block `[c,k) × [c,k)` (`quadFrom` of `SchurStep` at `ℚ`) -/
def Qf (c k : ℕ) (F : FM) (x : ℕ → ℚ) : ℚ := ∑ i ∈ Ico c k, ∑ j ∈ Ico c k, x i * F i j * x j

def SymOn (c k : ℕ) (F : FM) : Prop := ∀ i j, c ≤ i → i < k → c ≤ j → j < k → F i j = F j i

/-- the trailing block is positive definite (`PosDefFrom` of `SchurStep` at `ℚ`) -/
def PDOn (c k : ℕ) (F : FM) : Prop := ∀ x : ℕ → ℚ, (∃ i, c ≤ i ∧ i < k ∧ x i ≠ 0) → 0 < Qf c k F x

theorem elim_eq_schur {F : FM} {c r : ℕ} (h : c < r) (j : ℕ) : elim F c r j = schur F c r j := by
  rw [elim_off (Nat.ne_of_gt h), schur, mul_div_assoc', div_mul_eq_mul_div]

theorem pdOn_elim_iff {c k : ℕ} {F : FM} : PDOn (c+1) k (elim F c) ↔ PosDefFrom (c+1) k (schur F c) :=
  ⟨posDefFrom_congr fun _ hi _ j _ _ => elim_eq_schur hi j,
    posDefFrom_congr fun _ hi _ j _ _ => (elim_eq_schur hi j).symm⟩

theorem SymOn.col {c k : ℕ} {F : FM} (hS : SymOn c k F) (hc : c < k) (i : ℕ) (hi : c < i) (hik : i < k) :
    F i c = F c i :=
  hS i c (Nat.le_of_lt hi) hik (le_refl _) hc

theorem sym_step {c k : ℕ} {F : FM} (h : SymOn c k F) : SymOn (c+1) k (elim F c) := by
  intro i j hi hik hj hjk
  rw [elim_eq_schur hi, elim_eq_schur hj]
  exact schur_symm (n := k) F (fun i hi hik j hj hjk => h i j hi hik hj hjk) i j (Nat.le_of_lt hi) hik (Nat.le_of_lt hj) hjk

/-- the cross term `Σ_{j>c} F c j x_j` -/
def crossS (c k : ℕ) (F : FM) (x : ℕ → ℚ) : ℚ := ∑ j ∈ Ico (c+1) k, F c j * x j

theorem Qf_decomp {c k : ℕ} {F : FM} (x : ℕ → ℚ) (hc : c < k) (hS : SymOn c k F) (hp : F c c ≠ 0) :
    Qf c k F x = F c c * (x c + crossS c k F x / F c c) ^ 2 + Qf (c+1) k (elim F c) x :=
  (quadFrom_complete_square hc F x (hS.col hc) hp).trans <| congrArg _ <|
    quadFrom_congr (fun _ hi _ j _ _ => (elim_eq_schur hi j).symm) fun _ _ _ => rfl

/-- the run over `cs` succeeds and all its pivots are positive -/
def PosRun (cs : List ℕ) (F : FM) : Prop := ∃ R ps, fgj cs F = some (R, ps) ∧ ∀ p ∈ ps, 0 < p

theorem posRun_nil (F : FM) : PosRun [] F := ⟨F, [], rfl, fun _ hp => nomatch hp⟩

theorem posRun_cons {c : ℕ} {cs : List ℕ} {F : FM} : PosRun (c :: cs) F ↔ 0 < F c c ∧ PosRun cs (elim F c) := by
  constructor
  · rintro ⟨R, ps, h, hpos⟩
    obtain ⟨_, ps', hr, rfl⟩ := fgj_cons_some h
    exact ⟨hpos _ List.mem_cons_self, R, ps', hr, fun p hp => hpos p (List.mem_cons_of_mem _ hp)⟩
  · rintro ⟨hp, R, ps, hr, hpos⟩
    exact ⟨R, F c c :: ps, by rw [fgj, if_neg hp.ne', hr], List.forall_mem_cons.mpr ⟨hp, hpos⟩⟩

theorem pdOn_step_iff {c k : ℕ} {F : FM} (hc : c < k) (hS : SymOn c k F) :
    PDOn c k F ↔ 0 < F c c ∧ PDOn (c+1) k (elim F c) :=
  (posDefFrom_step_iff hc (hS.col hc)).trans (and_congr_right fun _ => pdOn_elim_iff.symm)

/-- the hinge of both directions of the certificate (`spdCert_iff_spd`) -/
theorem posRun_iff_pd {k : ℕ} : ∀ (m c : ℕ) (F : FM), c + m = k → SymOn c k F →
    (PosRun (List.range' c m) F ↔ PDOn c k F)
  | 0, c, F, hk, _ => iff_of_true (posRun_nil F) (posDefFrom_of_le hk.ge F)
  | m + 1, c, F, hk, hS => by
    have hc : c < k := hk ▸ Nat.lt_add_of_pos_right m.succ_pos
    rw [List.range'_succ, posRun_cons, pdOn_step_iff hc hS,
      posRun_iff_pd m (c+1) (elim F c) ((Nat.add_right_comm c 1 m).trans hk) (sym_step hS)]

theorem fgj_pos_pd {k : ℕ} : ∀ (m c : ℕ) (F R : FM) (ps : List ℚ), c + m = k → SymOn c k F →
    fgj (List.range' c m) F = some (R, ps) → (∀ p ∈ ps, 0 < p) → PDOn c k F :=
  fun m c F R ps hk hS h hpos => (posRun_iff_pd m c F hk hS).mp ⟨R, ps, h, hpos⟩

theorem pd_fgj {k : ℕ} : ∀ (m c : ℕ) (F : FM), c + m = k → SymOn c k F → PDOn c k F →
    ∃ R ps, fgj (List.range' c m) F = some (R, ps) ∧ ∀ p ∈ ps, 0 < p :=
  fun m c F hk hS => (posRun_iff_pd m c F hk hS).mpr

end PsV.Nnls
