import PsV.Proofs.BSpline
import PsV.Proofs.BasisTheory
import PsV.Proofs.FitDiffs
import Mathlib.Algebra.BigOperators.Intervals
import Mathlib.Algebra.Order.BigOperators.Group.Finset
/-!
The two 1-d cores of C10 — non-decreasing coefficients give a non-negative first derivative and
non-decreasing *values* on the fully supported region — over `Rat`, for the Cox–de Boor functions of `Spec/BSpline.lean`.

Both are proved at an indicator that fires at exactly one non-degenerate bracketing interval (`Brk`); on the fully supported
region the indicator of the specification is one (`selInd_brk`), and its interval moves right with `x` (`selInd_brk_le`).
Derivative: summation by parts (`derivCoef_one_is_derivative`) leaves
`Σ (c_{j+1} − c_j) · (n+1)/(t_{j+n+2} − t_{j+1}) · B_{j+1,n}`; the boundary terms vanish by the support lemma.
Values, without calculus: `tailS ind t x n N j = Σ_{j ≤ l < N} B_{l,n}(x)` is
non-decreasing in `x`, by induction over the order: `S_{j,n+1} = w_{j,n} B_{j,n} + S_{j+1,n}` with
`w_{j,n}(x) = (x − t_j)/(t_{j+n+1} − t_j)` (telescoping of the recurrence, `a/0 = 0` convention included) is the convex
combination `w S_{j,n} + (1 − w) S_{j+1,n}` of two non-decreasing functions with a non-decreasing weight and
`S_{j,n} ≥ S_{j+1,n}`.  Abel summation `Σ c_j B_j = c_0 S_0 + Σ (c_{j+1} − c_j) S_{j+1}` and the partition of unity
`S_0 = 1` give the statement.
-/
namespace PsV
open Finset

theorem MonoOn.of_monotone {t : Int → Rat} (h : ∀ a b : Int, a ≤ b → t a ≤ t b) (lo hi : Int) : MonoOn t lo hi :=
  fun a b _ hab _ => h a b hab

section RatBind
variable (ind : Int → Bool) (t : Int → Rat) (x : Rat)

theorem Bind_zero_rat (i : Int) : Bind ind t x 0 i = if ind i then 1 else 0 := rfl

theorem Bind_succ_rat (n : Nat) (i : Int) :
    Bind ind t x (n+1) i
      = (x - t i) / (t (i + n + 1) - t i) * Bind ind t x n i
        + (t (i + n + 2) - x) / (t (i + n + 2) - t (i + 1)) * Bind ind t x n (i+1) := rfl

theorem Bind_support_aux (n : Nat) (i : Int) (h : Bind ind t x n i ≠ 0) :
    ∃ m, ind m = true ∧ i ≤ m ∧ m ≤ i + n :=
  Bind_fires ind t x n i h

theorem Bind_nonneg_aux (hmono : ∀ a b : Int, a ≤ b → t a ≤ t b)
    (hind : ∀ m, ind m = true → t m ≤ x ∧ x ≤ t (m+1)) (n : Nat) (i : Int) : 0 ≤ Bind ind t x n i :=
  Bind_nonneg_of_bracket ind t x n i (.of_monotone hmono _ _) (fun m _ _ => hind m)

end RatBind

theorem selInd_bracket (d : Dim Rat) (x : Rat) (q : Int) (h : selInd d x q = true) :
    d.knots q ≤ x ∧ x ≤ d.knots (q+1) := by
  by_cases hx : x < d.knots d.naxes
  · rw [selInd_of_lt hx, indR_iff] at h
    exact ⟨h.1, le_of_lt h.2⟩
  · rw [selInd_of_not_lt hx, indL_iff] at h
    exact ⟨le_of_lt h.1, h.2⟩

/-- `ind` fires exactly at the non-degenerate knot interval `m`, which brackets `x` and lies below coefficient `N` -/
structure Brk (ind : Int → Bool) (t : Int → Rat) (x : Rat) (N m : Nat) : Prop where
  iff : ∀ l : Int, ind l = true ↔ l = (m : Int)
  lo : t m ≤ x
  hi : x ≤ t ((m : Int) + 1)
  ne : t m < t ((m : Int) + 1)
  up : m + 1 ≤ N

theorem exists_bracketR (f : Int → Rat) (x : Rat) : ∀ (k a : Nat), f a ≤ x → x < f ((a : Int) + k) →
    ∃ m : Nat, a ≤ m ∧ m < a + k ∧ f m ≤ x ∧ x < f ((m : Int) + 1) := by
  intro k a h1 h2
  obtain ⟨m, hm1, hm2, hm3, hm4⟩ := exists_switch (fun i => f i ≤ x) k a h1 (not_le.mpr h2)
  lift m to Nat using by omega
  exact ⟨m, by omega, by omega, hm3, not_le.mp hm4⟩

theorem order_lt_naxes_of_knots_lt (d : Dim Rat) (hmono : ∀ a b : Int, a ≤ b → d.knots a ≤ d.knots b)
    (hlt : d.knots d.order < d.knots d.naxes) : d.order < d.naxes := by
  by_contra h
  exact absurd (hmono d.naxes d.order (by omega)) (not_le.mpr hlt)

theorem selInd_brk (d : Dim Rat) (x : Rat) (hmono : ∀ a b : Int, a ≤ b → d.knots a ≤ d.knots b)
    (hlo : d.knots d.order ≤ x) (hhi : x ≤ d.knots d.naxes) (hlt : d.knots d.order < d.knots d.naxes) :
    ∃ m : Nat, Brk (selInd d x) d.knots x d.naxes m ∧ d.order ≤ m := by
  have hon := order_lt_naxes_of_knots_lt d hmono hlt
  have hw := MonoOn.of_monotone hmono
  obtain ⟨m, m1, m2, hm, hne, c, e⟩ :=
    selInd_exists (hw d.order d.naxes) (le_refl _) (by omega) (le_refl _) (le_refl _) hlo hhi hlt
  lift m to Nat using by omega
  exact ⟨m, ⟨fun l => selInd_iff_eq (hw (min l m) (max l m + 1)) (by omega) (by omega) hm l (by omega) (by omega),
    c, e, hne, by omega⟩, by omega⟩

theorem selInd_region (d : Dim Rat) (x : Rat) (hmono : ∀ a b : Int, a ≤ b → d.knots a ≤ d.knots b)
    (hlo : d.knots d.order ≤ x) (hhi : x ≤ d.knots d.naxes) (hlt : d.knots d.order < d.knots d.naxes)
    (q : Int) (h : selInd d x q = true) : (d.order : Int) ≤ q ∧ q + 1 ≤ (d.naxes : Int) := by
  obtain ⟨m, hb, ho⟩ := selInd_brk d x hmono hlo hhi hlt
  obtain rfl := (hb.iff q).mp h
  exact ⟨Int.ofNat_le.mpr ho, by have := hb.up; omega⟩

theorem selInd_brk_le (d : Dim Rat) (x y : Rat) (hmono : ∀ a b : Int, a ≤ b → d.knots a ≤ d.knots b)
    {N mx my : Nat} (hx : Brk (selInd d x) d.knots x N mx) (hy : Brk (selInd d y) d.knots y N my)
    (hxy : x ≤ y) : mx ≤ my := by
  rcases eq_or_lt_of_le hxy with h | h
  · subst h
    have := (hy.iff mx).mp ((hx.iff mx).mpr rfl)
    omega
  · by_contra hc
    have h1 := hmono ((my : Int) + 1) mx (by omega)
    have := hx.lo
    have := hy.hi
    linarith

section Deriv
variable (ind : Int → Bool) (t : Int → Rat) (x : Rat) (n N : Nat)
  (hsup : ∀ m, ind m = true → ((n : Int) + 1 ≤ m ∧ m + 1 ≤ (N : Int)))
include hsup

theorem deriv_formula_aux (c : Nat → Rat) :
    ∑ j ∈ range N, c j * Dind ind t x 1 (n+1) (j : Int)
      = ∑ j ∈ range (N-1), ((n+1 : Nat) : Rat) * (c (j+1) - c j)
          / (t ((j : Int) + 1 + n + 1) - t ((j : Int) + 1)) * Bind ind t x n ((j : Int) + 1) := by
  rcases Nat.eq_zero_or_pos N with rfl | hN
  · rfl
  · -- the two boundary terms: `B_{0,n}` and `B_{N,n}` have no firing interval in their support
    rw [derivCoef_one_is_derivative ind t x n c N hN,
      Bind_eq_zero ind t x n 0 (fun m h1 h2 => Bool.eq_false_iff.mpr fun hm => by have := hsup m hm; omega),
      Bind_eq_zero ind t x n N (fun m h1 h2 => Bool.eq_false_iff.mpr fun hm => by have := hsup m hm; omega),
      mul_zero, mul_zero, zero_div, zero_div, add_zero, sub_zero]
    exact Finset.sum_congr rfl fun j _ => by rw [derivCoef_one]

theorem deriv_nonneg_aux (hmono : ∀ a b : Int, a ≤ b → t a ≤ t b)
    (hind : ∀ m, ind m = true → t m ≤ x ∧ x ≤ t (m+1))
    (c : Nat → Rat) (hc : ∀ j, j + 1 < N → c j ≤ c (j+1)) :
    0 ≤ ∑ j ∈ range N, c j * Dind ind t x 1 (n+1) (j : Int) := by
  rw [deriv_formula_aux ind t x n N hsup c]
  refine Finset.sum_nonneg fun j hj => mul_nonneg (div_nonneg (mul_nonneg (Nat.cast_nonneg _) ?_) ?_)
    (Bind_nonneg_aux ind t x hmono hind n _)
  · exact sub_nonneg.mpr (hc j (by have := mem_range.mp hj; omega))
  · exact sub_nonneg.mpr (hmono _ _ (by omega))

end Deriv

/-- 1-d core of the derivative statement, at the interval the indicator of the specification selects (summation by parts,
`deriv_nonneg_aux`) -/
theorem spline_deriv_nonneg_1d (d : Dim Rat) (x : Rat) (hmono : ∀ a b : Int, a ≤ b → d.knots a ≤ d.knots b)
    (hord : 1 ≤ d.order) (hlo : d.knots d.order ≤ x) (hhi : x ≤ d.knots d.naxes)
    (hlt : d.knots d.order < d.knots d.naxes) (c : Nat → Rat) (hc : ∀ j, j + 1 < d.naxes → c j ≤ c (j+1)) :
    0 ≤ ∑ j ∈ range d.naxes, c j * Bsel d x 1 j := by
  obtain ⟨n, hn⟩ : ∃ n, d.order = n + 1 := ⟨d.order - 1, by omega⟩
  unfold Bsel
  rw [hn]
  refine deriv_nonneg_aux (selInd d x) d.knots x n d.naxes (fun q hq => ?_) hmono (selInd_bracket d x) c hc
  have h := selInd_region d x hmono hlo hhi hlt q hq
  rwa [hn, Nat.cast_succ] at h

/-- `w_{j,n}(x)` -/
def wgt (t : Int → Rat) (x : Rat) (n : Nat) (j : Int) : Rat := (x - t j) / (t (j + n + 1) - t j)

/-- `Σ_{j ≤ l < N} B_{l,n}(x)` -/
def tailS (ind : Int → Bool) (t : Int → Rat) (x : Rat) (n N j : Nat) : Rat :=
  ∑ l ∈ Ico j N, Bind ind t x n (l : Int)

theorem tailS_split (ind : Int → Bool) (t : Int → Rat) (x : Rat) (n N j : Nat) (hj : j < N) :
    tailS ind t x n N j = Bind ind t x n j + tailS ind t x n N (j+1) := by
  unfold tailS
  rw [Finset.sum_eq_sum_Ico_succ_bot hj]

theorem tailS_ge (ind : Int → Bool) (t : Int → Rat) (x : Rat) (n N j : Nat) (hj : N ≤ j) :
    tailS ind t x n N j = 0 := by
  unfold tailS
  rw [Finset.Ico_eq_empty (by omega), Finset.sum_empty]

section One
variable {ind : Int → Bool} {t : Int → Rat} {x : Rat} {N m : Nat}

theorem Brk.brackets (h : Brk ind t x N m) : ∀ l, ind l = true → t l ≤ x ∧ x ≤ t (l+1) := by
  intro l hl
  have := (h.iff l).mp hl
  subst this
  exact ⟨h.lo, h.hi⟩

theorem Brk.support (h : Brk ind t x N m) (n : Nat) (i : Int) (hne : Bind ind t x n i ≠ 0) :
    i ≤ m ∧ (m : Int) ≤ i + n := by
  obtain ⟨l, hl, h1, h2⟩ := Bind_fires ind t x n i hne
  have := (h.iff l).mp hl
  subst this
  exact ⟨h1, h2⟩

theorem Brk.zero_of (h : Brk ind t x N m) (n : Nat) (i : Int) (hi : (m : Int) < i ∨ i + n < m) :
    Bind ind t x n i = 0 := by
  by_contra hne
  have := h.support n i hne
  omega

variable (hmono : ∀ a b : Int, a ≤ b → t a ≤ t b)
include hmono

theorem Brk.nonneg (h : Brk ind t x N m) (n : Nat) (i : Int) : 0 ≤ Bind ind t x n i :=
  Bind_nonneg_aux ind t x hmono h.brackets n i

theorem Brk.wB_nonneg (h : Brk ind t x N m) (n : Nat) (i : Int) : 0 ≤ wgt t x n i * Bind ind t x n i :=
  Bind_rise_nonneg ind t x n i (.of_monotone hmono _ _) (fun l _ _ => h.brackets l) (h.nonneg hmono n i)

/-- `(1 − w) B` is the other term of the recurrence: where `B ≠ 0` the support `[t_i, t_{i+n+1}]` contains the
non-degenerate firing interval, so the weights do not fall under the `a/0 = 0` convention -/
theorem Brk.oneSubW (h : Brk ind t x N m) (n : Nat) (i : Int) :
    (1 - wgt t x n i) * Bind ind t x n i = (t (i + n + 1) - x) / (t (i + n + 1) - t i) * Bind ind t x n i := by
  by_cases hB : Bind ind t x n i = 0
  · rw [hB, mul_zero, mul_zero]
  · have hs := h.support n i hB
    have hD : t (i + n + 1) - t i ≠ 0 :=
      ne_of_gt (sub_pos.mpr (lt_of_le_of_lt (hmono i m hs.1) (lt_of_lt_of_le h.ne (hmono _ _ (by omega)))))
    unfold wgt
    rw [one_sub_div hD, sub_sub_sub_cancel_right]

theorem Brk.oneSubW_nonneg (h : Brk ind t x N m) (n : Nat) (i : Int) :
    0 ≤ (1 - wgt t x n i) * Bind ind t x n i := by
  rw [h.oneSubW hmono]
  exact Bind_fall_nonneg ind t x n i (.of_monotone hmono _ _) (fun l _ _ => h.brackets l) (h.nonneg hmono n i)

theorem Brk.Bind_succ_tele (h : Brk ind t x N m) (n : Nat) (i : Int) :
    Bind ind t x (n+1) i
      = wgt t x n i * Bind ind t x n i + Bind ind t x n (i+1) - wgt t x n (i+1) * Bind ind t x n (i+1) := by
  have e : i + n + 2 = i + 1 + n + 1 := by omega
  rw [Bind_succ, e, ← h.oneSubW hmono n (i+1), one_sub_mul, add_sub_assoc]
  rfl

theorem Brk.tail_tele (h : Brk ind t x N m) (n j : Nat) : ∀ M : Nat, j ≤ M →
    ∑ l ∈ Ico j M, Bind ind t x (n+1) (l : Int)
      = wgt t x n j * Bind ind t x n j - wgt t x n M * Bind ind t x n M
        + ∑ l ∈ Ico (j+1) (M+1), Bind ind t x n (l : Int) := by
  intro M
  induction M with
  | zero =>
    intro hj
    obtain rfl : j = 0 := by omega
    rw [Finset.Ico_self, Finset.sum_empty, sub_self, zero_add, Finset.Ico_self, Finset.sum_empty]
  | succ M ih =>
    intro hj
    rcases Nat.lt_or_ge M j with hlt | hge
    · obtain rfl : j = M + 1 := by omega
      rw [Finset.Ico_self, Finset.sum_empty, sub_self, zero_add, Finset.Ico_self, Finset.sum_empty]
    · rw [Finset.sum_Ico_succ_top hge, ih hge, Finset.sum_Ico_succ_top (by omega : j + 1 ≤ M + 1),
        h.Bind_succ_tele hmono n (M : Int)]
      have e : ((M + 1 : Nat) : Int) = (M : Int) + 1 := by push_cast; rfl
      rw [e]
      ring

theorem Brk.tailS_succ (h : Brk ind t x N m) (n j : Nat) (hj : j < N) :
    tailS ind t x (n+1) N j = wgt t x n j * Bind ind t x n j + tailS ind t x n N (j+1) := by
  unfold tailS
  rw [h.tail_tele hmono n j N (by omega), Finset.sum_Ico_succ_top (by omega : j + 1 ≤ N),
    h.zero_of n (N : Int) (Or.inl (by have := h.up; omega))]
  ring

omit hmono in
theorem Brk.tailS_zero (h : Brk ind t x N m) (j : Nat) :
    tailS ind t x 0 N j = if j ≤ m then 1 else 0 := by
  unfold tailS
  have e : ∀ l ∈ Ico j N, Bind ind t x 0 (l : Int) = if l = m then 1 else 0 := by
    intro l _
    rw [Bind_zero]
    by_cases hl : l = m
    · subst hl
      rw [if_pos ((h.iff _).mpr rfl), if_pos rfl]
    · rw [if_neg hl, if_neg]
      intro hc
      exact hl (by have := (h.iff _).mp hc; omega)
  rw [Finset.sum_congr rfl e, Finset.sum_ite_eq']
  have := h.up
  by_cases hjm : j ≤ m
  · rw [if_pos hjm, if_pos (Finset.mem_Ico.mpr ⟨hjm, by omega⟩)]
  · rw [if_neg hjm, if_neg (fun hc => hjm (Finset.mem_Ico.mp hc).1)]

/-- partition of unity: under `Brk` the specification's functions are the pieces of interval `m` (`Bind_eq_Bp`), and the
`n+1` pieces that do not vanish there sum to one (`Bp_sum_one`) -/
theorem Brk.tailS_zero_eq_one (h : Brk ind t x N m) : ∀ n : Nat, n ≤ m → tailS ind t x n N 0 = 1 := by
  intro n hn
  unfold tailS
  rw [Nat.Ico_zero_eq_range, ← Bp_sum_one t x m h.ne n (.of_monotone hmono _ _),
    sum_congr rfl fun (l : Nat) _ => Bind_eq_Bp ind t x m n l fun j _ _ => h.iff j,
    sum_range_window (fun k : Nat => Bp t x m n k) N (m - n) (n + 1) (by have := h.up; omega) fun k _ hk =>
      Bp_zero_of_not_mem t x m n k (by omega)]
  exact sum_congr rfl fun k _ => by rw [Nat.cast_add, Nat.cast_sub hn]

end One

theorem tailS_mono {indx indy : Int → Bool} {t : Int → Rat} {x y : Rat} {N mx my : Nat}
    (hmono : ∀ a b : Int, a ≤ b → t a ≤ t b)
    (hx : Brk indx t x N mx) (hy : Brk indy t y N my) (hxy : x ≤ y) (hm : mx ≤ my) :
    ∀ n j : Nat, tailS indx t x n N j ≤ tailS indy t y n N j := by
  intro n
  induction n with
  | zero =>
    intro j
    rw [hx.tailS_zero j, hy.tailS_zero j]
    by_cases h1 : j ≤ mx
    · rw [if_pos h1, if_pos (by omega)]
    · rw [if_neg h1]
      split <;> norm_num
  | succ n ih =>
    intro j
    rcases Nat.lt_or_ge j N with hj | hj
    swap
    · rw [tailS_ge _ _ _ _ _ _ hj, tailS_ge _ _ _ _ _ _ hj]
    rw [hx.tailS_succ hmono n j hj, hy.tailS_succ hmono n j hj]
    have i0 := ih j
    have i1 := ih (j+1)
    have bx := hx.nonneg hmono n (j : Int)
    have by' := hy.nonneg hmono n (j : Int)
    have f2x := hx.oneSubW_nonneg hmono n (j : Int)
    have f1y := hy.wB_nonneg hmono n (j : Int)
    rw [one_sub_mul] at f2x
    rw [tailS_split indx t x n N j hj, tailS_split indy t y n N j hj] at i0
    generalize tailS indx t x n N (j+1) = Sx1 at *
    generalize tailS indy t y n N (j+1) = Sy1 at *
    generalize Bind indx t x n (j : Int) = Bx at *
    generalize Bind indy t y n (j : Int) = By at *
    rcases lt_or_ge (wgt t x n j) 0 with hwx | hwx
    · -- `x` left of the support of `B_j`: `w B ≤ 0` at `x`
      linarith only [mul_nonpos_of_nonpos_of_nonneg (le_of_lt hwx) bx, f1y, i1]
    rcases lt_or_ge 1 (wgt t y n j) with hwy | hwy
    · -- `y` right of the support of `B_j`: `w B ≥ B` at `y`
      linarith only [le_mul_of_one_le_left by' (le_of_lt hwy), f2x, i0]
    -- `0 ≤ w(x) ≤ w(y) ≤ 1`: a convex combination of two non-decreasing functions with a non-decreasing weight
    have hww : wgt t x n j ≤ wgt t y n j :=
      div_le_div_of_nonneg_right (sub_le_sub_right hxy _) (sub_nonneg.mpr (hmono _ _ (by omega)))
    calc wgt t x n j * Bx + Sx1 ≤ wgt t y n j * Bx + Sx1 := by
          linarith only [mul_le_mul_of_nonneg_right hww bx]
      _ = wgt t y n j * (Bx + Sx1) + (1 - wgt t y n j) * Sx1 := by ring
      _ ≤ wgt t y n j * (By + Sy1) + (1 - wgt t y n j) * Sy1 :=
          add_le_add (mul_le_mul_of_nonneg_left i0 (le_trans hwx hww))
            (mul_le_mul_of_nonneg_left i1 (sub_nonneg.mpr hwy))
      _ = wgt t y n j * By + Sy1 := by ring

theorem mono_sum_by_parts (c g : Nat → Rat) (M : Nat) :
    ∑ j ∈ range (M+1), c j * (g j - g (j+1))
      = c 0 * g 0 - c M * g (M+1) + ∑ j ∈ range M, (c (j+1) - c j) * g (j+1) :=
  abel_sum c g M

theorem abel_tail (ind : Int → Bool) (t : Int → Rat) (x : Rat) (n N : Nat) (hN : 0 < N) (c : Nat → Rat) :
    ∑ j ∈ range N, c j * Bind ind t x n (j : Int)
      = c 0 * tailS ind t x n N 0 + ∑ j ∈ range (N-1), (c (j+1) - c j) * tailS ind t x n N (j+1) := by
  obtain ⟨M, rfl⟩ : ∃ M, N = M + 1 := ⟨N - 1, by omega⟩
  have e : ∀ j ∈ range (M+1), c j * Bind ind t x n (j : Int)
      = c j * (tailS ind t x n (M+1) j - tailS ind t x n (M+1) (j+1)) := by
    intro j hj
    rw [tailS_split ind t x n (M+1) j (mem_range.mp hj)]
    ring
  rw [Finset.sum_congr rfl e, abel_sum c (fun j => tailS ind t x n (M+1) j) M,
    tailS_ge ind t x n (M+1) (M+1) (le_refl _), Nat.add_sub_cancel]
  ring

theorem spline1d_mono {indx indy : Int → Bool} {t : Int → Rat} {x y : Rat} {N mx my : Nat}
    (hmono : ∀ a b : Int, a ≤ b → t a ≤ t b)
    (hx : Brk indx t x N mx) (hy : Brk indy t y N my) (hxy : x ≤ y) (hm : mx ≤ my)
    (n : Nat) (hn : n ≤ mx) (c : Nat → Rat) (hc : ∀ j, j + 1 < N → c j ≤ c (j+1)) :
    ∑ j ∈ range N, c j * Bind indx t x n (j : Int) ≤ ∑ j ∈ range N, c j * Bind indy t y n (j : Int) := by
  have hN : 0 < N := by have := hx.up; omega
  rw [abel_tail indx t x n N hN c, abel_tail indy t y n N hN c,
    hx.tailS_zero_eq_one hmono n hn, hy.tailS_zero_eq_one hmono n (by omega)]
  refine add_le_add (le_refl _) (Finset.sum_le_sum fun j hj => ?_)
  exact mul_le_mul_of_nonneg_left (tailS_mono hmono hx hy hxy hm n (j+1))
    (sub_nonneg.mpr (hc j (by have := mem_range.mp hj; omega)))

/-- 1-d core of the value statement, at the indicator of the specification: `spline1d_mono` at the two intervals `selInd_brk`
finds, which move right with `x` (`selInd_brk_le`) -/
theorem spline_value_mono_1d (d : Dim Rat) (x y : Rat) (hmono : ∀ a b : Int, a ≤ b → d.knots a ≤ d.knots b)
    (hlo : d.knots d.order ≤ x) (hxy : x ≤ y) (hhi : y ≤ d.knots d.naxes) (hlt : d.knots d.order < d.knots d.naxes)
    (c : Nat → Rat) (hc : ∀ j, j + 1 < d.naxes → c j ≤ c (j+1)) :
    ∑ j ∈ range d.naxes, c j * Bsel d x 0 j ≤ ∑ j ∈ range d.naxes, c j * Bsel d y 0 j := by
  obtain ⟨mx, hbx, hox⟩ := selInd_brk d x hmono hlo (le_trans hxy hhi) hlt
  obtain ⟨my, hby, _⟩ := selInd_brk d y hmono (le_trans hlo hxy) hhi hlt
  exact spline1d_mono hmono hbx hby hxy (selInd_brk_le d x y hmono hbx hby hxy) d.order hox c hc

end PsV
