import PsV.Proofs.Fits
import PsV.Proofs.FitsCodec
/-!
# What `write_fits_core` writes is inside the byte codec's round-trip domain

`PsV/Proofs/FitsCodec.lean` proves `decodeFits (encodeFits f) = some f` for every store `f` whose HDUs satisfy
`HduOK`.  This file shows that the stores the writer model produces (`writeGen E single t`, in particular
`writeCore E t = writeGen E false t`) satisfy `HduOK` under the hypotheses `Encodable E t`, hence

  `decodeFits (encodeFits (writeCore E t)) = some (writeCore E t)`.

Each `fits_write_key` class is shown to be a `PlainCard` or `StringCard` of `PsV/Proofs/FitsCardForm.lean`
(`cardInt_form`, `cardDbl_form`, `cardStr_form`); `CardRT` here and the documented record in
`PsV/Proofs/FitsLayout.lean` are both read off that.
-/
namespace PsV.Fits.Codec

/-- Text of a `TDOUBLE` keyword value that survives the 80-column card form: a non-empty token of at most 70
    single-byte characters without blank or slash that does not start with an apostrophe. -/
structure NumText (s : Str) : Prop where
  ne : s ≠ []
  len : s.length ≤ 70
  chars : ∀ c ∈ s, c ≠ ' ' ∧ c ≠ '/' ∧ c.toNat < 256
  noQuote : s.head? ≠ some '\''

theorem numText_iff (s : Str) :
    NumText s ↔ (s ≠ [] ∧ s.length ≤ 70 ∧ (∀ c ∈ s, c ≠ ' ' ∧ c ≠ '/' ∧ c.toNat < 256) ∧ s.head? ≠ some '\'') :=
  ⟨fun h => ⟨h.ne, h.len, h.chars, h.noQuote⟩, fun ⟨a, b, c, d⟩ => ⟨a, b, c, d⟩⟩

instance (s : Str) : Decidable (NumText s) := decidable_of_iff _ (numText_iff s).symm

/-- Conditions under which the 80-column text form of what `write_fits_core` writes for `t` is faithful.
    (Nothing is required of the orders — `fits_write_key(TINT)` of any 32-bit pattern is a short integer — nor of
    the number of knot vectors: a missing one is written as an empty image.) -/
structure Encodable (E : Ext) (t : Table) : Prop where
  ndim_pos : 1 ≤ t.ndim
  /-- FITS: `NAXIS ≤ 999` (`NAXISnnn`, `ORDERnnn` stay 8-character keywords) -/
  ndim_le : t.ndim ≤ 999
  naxes_len : t.naxes.length = t.ndim
  /-- the coefficient buffer holds the `Π naxes` values that are written -/
  coef_len : prod t.naxes ≤ t.coef.length
  /-- axis lengths fit the 20-column value field -/
  naxes_lt : ∀ a ∈ t.naxes, a < 10 ^ 20
  knots_lt : ∀ k ∈ t.knots, k.length < 10 ^ 20
  /-- the extents buffer holds the `2·ndim` values that are written -/
  extents_len : ∀ e, t.extents = some e → 2 * t.ndim ≤ e.length
  /-- with periods, `PERIODnn` must stay an 8-character keyword -/
  periods_dim : t.periods ≠ none → t.ndim ≤ 100
  periods_len : ∀ p, t.periods = some p → t.ndim ≤ p.length
  /-- what cfitsio prints for a period is one plain token -/
  periods_text : ∀ p, t.periods = some p → ∀ x ∈ p, NumText (E.fmtD x)
  /-- aux keys are standard keywords, aux values single-byte text whose stored form (apostrophes doubled) fits the
      card: what `write_key` accepts for a standard keyword -/
  aux_ok : ∀ kv ∈ t.aux, KeyOK kv.1 ∧ kv.1 ≠ "END".toList ∧ Lat kv.1 ∧ Lat kv.2 ∧ storedLen kv.2 ≤ 68

theorem hdrKey_order (i : Nat) (hi : i < 1000) : HdrKey (keyN "ORDER" i) :=
  hdrKey_keyN "ORDER" 3 i (by decide) hi (by decide)

theorem hdrKey_period (i : Nat) (hi : i < 100) : HdrKey (keyN "PERIOD" i) :=
  hdrKey_keyN "PERIOD" 2 i (by decide) hi (by decide)

/-- `KNOTSn` as an `EXTNAME` value -/
theorem keyN_knots_text (i : Nat) (hi : i < 1000) : Lat (keyN "KNOTS" i) ∧ storedLen (keyN "KNOTS" i) ≤ 68 := by
  obtain ⟨hq, hl⟩ := keyN_knots_plain i hi
  refine ⟨?_, by rw [storedLen_plain _ hq]; exact hl⟩
  rw [keyN]
  simp -index only [String.toList_ofList]
  exact Lat.append (by decide) (Lat.of_digits (natStr_mem i))

theorem quotesDoubled_dbl_append (v w : Str) : quotesDoubled (dbl v ++ w) = quotesDoubled w := by
  induction v with
  | nil => rfl
  | cons c r ih =>
    by_cases hc : c = '\''
    · subst hc
      simp only [dbl, if_true, List.cons_append]
      rw [quotesDoubled, ih]
    · simp only [dbl, if_neg hc, List.cons_append]
      rw [quotesDoubled.eq_4 _ _ (fun _ h => absurd h hc) hc, ih]

theorem Lat.dbl {v : Str} (hv : Lat v) : Lat (dbl v) := by
  induction v with
  | nil => exact hv
  | cons c r ih =>
    have hc : Lat [c] := fun d hd => by rw [List.mem_singleton.mp hd]; exact hv c List.mem_cons_self
    have hr : Lat (Fits.dbl r) := ih fun d hd => hv d (List.mem_cons_of_mem _ hd)
    unfold Fits.dbl
    split
    · rename_i h; subst h; exact hc.append (hc.append hr)
    · exact hc.append hr

/-- `fits_write_key(TSTRING)` of any value whose stored form fits the card (apostrophes included), no comment -/
theorem cardStr_form (key v : Str) (hk : HdrKey key) (hv : Lat v)
    (hl : storedLen v ≤ 68) : StringCard (cardStr key v []) (dbl v ++ List.replicate (8 - storedLen v) ' ') := by
  have hval := s2c_dbl v hl
  have hq : Lat ['\''] := by decide
  refine ⟨⟨hk.ok, hval, ?_, rfl, ?_⟩, hk.notEnd, hk.lat, ?_, fun _ h => nomatch h⟩
  · rw [quotesDoubled_dbl_append]
    exact quotesDoubled_of_noQuote _ fun c hc => by rw [List.eq_of_mem_replicate hc]; decide
  · show (if ([] : Str) = [] then 10 + (s2c v).length ≤ 80 else _)
    rw [if_pos rfl, hval]
    simp only [List.length_cons, List.length_append, List.length_replicate, dbl_length, List.length_nil]
    omega
  · show Lat (s2c v)
    rw [hval]
    exact hq.append (((Lat.dbl hv).append (Lat.blanks _)).append hq)

theorem cardRT_cardStr (key v : Str) (hk : KeyOK key) (hend : key ≠ "END".toList) (hkl : Lat key)
    (hv : Lat v) (hl : storedLen v ≤ 68) : CardRT (cardStr key v []) :=
  (cardStr_form key v ⟨hk, hend, hkl⟩ hv hl).cardRT

/-- `fits_write_key(TINT)` of any `uint32_t` pattern, with any comment that fits -/
theorem cardInt_form (key : Str) (v : Nat) (com : Str) (hk : HdrKey key)
    (hc : trimRight com = com ∧ com.length ≤ 47 ∧ Lat com) : PlainCard (cardInt key v com) := by
  have h19 : (10 : Nat) ^ 19 = 10000000000000000000 := by decide
  obtain ⟨h1, h2, h3⟩ := intStr_props
    (if v % 4294967296 < 2147483648 then (v % 4294967296 : Nat) else ((v % 4294967296 : Nat) : Int) - 4294967296)
    (by rw [h19]; split <;> omega)
  exact digits_form key _ com hk h1 h2 h3 hc.1 hc.2.1 hc.2.2

/-- `fits_write_key(TDOUBLE)` when the number text is one plain token -/
theorem cardDbl_form (E : Ext) (key : Str) (x : UInt64) (hk : HdrKey key)
    (hx : NumText (E.fmtD x)) : PlainCard (cardDbl E key x) := by
  refine ⟨⟨hk.ok, hx.ne, fun ch hc => ⟨(hx.chars ch hc).1, (hx.chars ch hc).2.1⟩, hx.noQuote, rfl, ?_⟩,
    hk.notEnd, hk.lat, fun c hc => (hx.chars c hc).2.2, fun _ h => nomatch h⟩
  show 10 + max 20 (E.fmtD x).length + (if ([] : Str) = [] then 0 else _) ≤ 80
  have := hx.len
  rw [if_pos rfl]; omega

theorem cardRT_typeCard : CardRT typeCard := by
  have h : FixedForm typeCard := by
    simp -index only [typeCard, String.toList_ofList]
    decide +kernel
  exact h.cardRT

theorem orderCom_ok : trimRight "B-Spline Order".toList = "B-Spline Order".toList ∧
    "B-Spline Order".toList.length ≤ 47 ∧ Lat "B-Spline Order".toList := by
  simp -index only [String.toList_ofList]; decide

theorem cardRT_ordCards (s : Bool) (t : Table) (hnd : t.ndim ≤ 1000) : ∀ c ∈ ordCards s t, CardRT c := by
  have hcom := orderCom_ok
  intro c hc
  cases s
  · simp only [ordCards, Bool.false_eq_true, if_false, orderCards, List.mem_map, List.mem_range] at hc
    obtain ⟨i, hi, rfl⟩ := hc
    exact (cardInt_form _ _ _ (hdrKey_order i (by omega)) hcom).cardRT
  · simp only [ordCards, if_true, List.mem_singleton] at hc
    subst hc
    exact (cardInt_form _ _ _ (by decide +kernel) hcom).cardRT

theorem cardRT_periodCards (E : Ext) (t : Table) (h : Encodable E t) : ∀ c ∈ periodCards E t, CardRT c := by
  intro c hc
  unfold periodCards at hc
  cases hp : t.periods with
  | none => rw [hp] at hc; simp at hc
  | some p =>
    rw [hp] at hc
    simp only [List.mem_map, List.mem_range] at hc
    obtain ⟨i, hi, rfl⟩ := hc
    have hnd : t.ndim ≤ 100 := h.periods_dim (by rw [hp]; exact fun e => nomatch e)
    have hpl := h.periods_len p hp
    have hip : i < p.length := by omega
    exact (cardDbl_form E _ _ (hdrKey_period i (by omega)) (h.periods_text p hp _ (getD_mem hip 0))).cardRT

theorem cardRT_auxCards (E : Ext) (t : Table) (h : Encodable E t) : ∀ c ∈ auxCards t, CardRT c := by
  intro c hc
  simp only [auxCards, List.mem_map] at hc
  obtain ⟨kv, hkv, rfl⟩ := hc
  obtain ⟨h1, h2, h3, h4, h5⟩ := h.aux_ok kv hkv
  exact cardRT_cardStr _ _ h1 h2 h3 h4 h5

theorem hdrKey_extname : HdrKey "EXTNAME".toList := by
  simp -index only [String.toList_ofList]; decide +kernel

theorem hduOK_extHdu (n : Nat) (d : List UInt64) (nm : Str) (hd : d.length = n) (hn : n < 10 ^ 20)
    (hnm : Lat nm) (hl : storedLen nm ≤ 68) : HduOK (extHdu [n] (.f64 d) nm) := by
  subst hd
  refine ⟨?_, (by decide : 1 ≤ 999), fun a ha => ?_, fun c hc => ?_⟩
  · show d.length = npix [d.length]
    simp [npix, prod]
  · rw [List.mem_singleton.mp ha]; exact hn
  · rw [List.mem_singleton.mp hc]
    exact (cardStr_form _ _ hdrKey_extname hnm hl).cardRT

/-- a knot vector that is not there is written as an empty image -/
theorem Encodable.knotAt_lt {E : Ext} {t : Table} (h : Encodable E t) (i : Nat) :
    (t.knots.getD i []).length < 10 ^ 20 :=
  getD_of_forall (P := fun k : List UInt64 => k.length < 10 ^ 20) h.knots_lt (by decide) i

theorem hduOK_knotHdu (E : Ext) (t : Table) (h : Encodable E t) (i : Nat) (hi : i < t.ndim) :
    HduOK (knotHdu t i) := by
  rw [knotHdu_eq]
  obtain ⟨h1, h2⟩ := keyN_knots_text i (by have := h.ndim_le; omega)
  exact hduOK_extHdu _ _ _ rfl (h.knotAt_lt i) h1 h2

theorem extents_text_ok : Lat "EXTENTS".toList ∧ storedLen "EXTENTS".toList ≤ 68 := by
  simp -index only [String.toList_ofList]; decide +kernel

theorem hduOK_extentsHdus (E : Ext) (t : Table) (h : Encodable E t) : ∀ hdu ∈ extentsHdus t, HduOK hdu := by
  intro hdu hm
  rw [extentsHdus_eq, Option.mem_toList, Option.map_eq_some_iff] at hm
  obtain ⟨e, he, rfl⟩ := hm
  have hlen := h.extents_len e he
  have hnd := h.ndim_le
  refine hduOK_extHdu _ _ _ ?_ ?_ extents_text_ok.1 extents_text_ok.2
  · rw [List.length_take]; omega
  · have h20 : (10 : Nat) ^ 20 = 100000000000000000000 := by decide
    rw [h20]; omega

theorem hduOK_primHdu (E : Ext) (s : Bool) (t : Table) (h : Encodable E t) : HduOK (primHdu E s t) := by
  have hax : wAxes t = t.naxes.reverse := wAxes_eq t h.naxes_len
  have hpos := h.ndim_pos
  have hne : t.naxes.reverse ≠ [] := by
    intro e
    have hl := congrArg List.length e
    rw [List.length_reverse, h.naxes_len, List.length_nil] at hl
    omega
  refine ⟨?_, ?_, ?_, ?_⟩
  · show (t.coef.take (prod (wAxes t))).length = npix (wAxes t)
    have hc := h.coef_len
    rw [hax, npix_of_ne_nil hne, prod_reverse, List.length_take]
    omega
  · show (wAxes t).length ≤ 999
    rw [hax, List.length_reverse, h.naxes_len]; exact h.ndim_le
  · intro a ha
    change a ∈ wAxes t at ha
    rw [hax] at ha
    exact h.naxes_lt a (List.mem_reverse.mp ha)
  · intro c hc
    change c ∈ primaryBoiler ++ [typeCard] ++ ordCards s t ++ periodCards E t ++ auxCards t at hc
    simp only [List.mem_append, List.mem_singleton] at hc
    rcases hc with (((hc | hc) | hc) | hc) | hc
    · exact cardRT_primaryBoiler c hc
    · subst hc; exact cardRT_typeCard
    · exact cardRT_ordCards s t (by have := h.ndim_le; omega) c hc
    · exact cardRT_periodCards E t h c hc
    · exact cardRT_auxCards E t h c hc

theorem writeGen_hduOK (E : Ext) (single : Bool) (t : Table) (h : Encodable E t) :
    ∀ hdu ∈ writeGen E single t, HduOK hdu := by
  intro hdu hm
  rw [writeGen_eq, List.mem_cons, restHdus, List.mem_append, List.mem_map] at hm
  rcases hm with rfl | ⟨i, hi, rfl⟩ | hm
  · exact hduOK_primHdu E single t h
  · exact hduOK_knotHdu E t h i (List.mem_range.mp hi)
  · exact hduOK_extentsHdus E t h hdu hm

theorem writeGen_decode_encode (E : Ext) (single : Bool) (t : Table) (h : Encodable E t) :
    decodeFits (encodeFits (writeGen E single t)) = some (writeGen E single t) :=
  decode_encode _ (by rw [writeGen_eq]; exact List.cons_ne_nil _ _) (writeGen_hduOK E single t h)

theorem writeCore_hduOK (E : Ext) (t : Table) (h : Encodable E t) : ∀ hdu ∈ writeCore E t, HduOK hdu :=
  writeGen_hduOK E false t h

theorem writeCore_decode_encode (E : Ext) (t : Table) (h : Encodable E t) :
    decodeFits (encodeFits (writeCore E t)) = some (writeCore E t) :=
  writeGen_decode_encode E false t h

/-- a number formatter that prints `0.` for everything -/
def exExt0 : Ext := ⟨fun _ => ['0', '.'], fun _ => some 0, fun _ => 0, fun _ => 0⟩

/-- 2 × 3 coefficients, orders 2 and 3, extents, periods, two aux keys (a blank inside; a single apostrophe and a run of two) -/
def exT : Table :=
  { order := [2, 3]
    knots := [[0, 1, 2, 3, 4], [10, 11, 12, 13, 14, 15, 16]]
    naxes := [2, 3]
    strides := [3, 1]
    coef := [1, 2, 3, 4, 5, 6]
    extents := some [2, 2, 13, 13]
    periods := some [0, 7]
    aux := [("AUTHOR".toList, "J. Doe".toList), ("REMARK".toList, "it's ''".toList)] }

theorem exT_encodable : Encodable exExt0 exT := by
  constructor <;> decide +kernel

example : decodeFits (encodeFits (writeCore exExt0 exT)) = some (writeCore exExt0 exT) :=
  writeCore_decode_encode _ _ exT_encodable

example (E : Ext) : Encodable E { exT with periods := none, extents := none } := by
  constructor <;> first | decide +kernel | (intro p hp; cases hp)

end PsV.Fits.Codec
