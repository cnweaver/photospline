import PsV.Spec.BSpline
import PsV.Proofs.Field
import Mathlib.Algebra.BigOperators.Ring.Finset
import Mathlib.Algebra.BigOperators.Intervals
/-!
`Bind`/`Dind` see the indicator only on the intervals `i … i+n` of the function (`Bind_congr`, `Dind_congr`: no law of
arithmetic is involved), so they vanish where it does not fire and are the recursion of one polynomial piece where it fires
once (`Dind_eq_piece`); and on a window of non-decreasing knots (`MonoOn`) each convention `indR`, `indL`, `selInd` fires at
exactly one interval, which brackets `x` (`indR_piece`, `indL_piece`, `selInd_exists`, `selInd_iff_eq`).

The carrier is any field with a linear order and a lawful `Arith` bundle (`Rat` with the core instance, any field with
`Arith.ofField`); `IsStrictOrderedRing` is asked for only where a sign is concluded.  Knot hypotheses are stated on the
index window a basis function reads (`B_{i,n}` reads `t i … t (i+n+1)`), never on all of `Int`.
-/
namespace PsV
open Finset

theorem sum_range_window {α : Type} [AddCommMonoid α] (G : Nat → α) (N a m : Nat) (h : a + m ≤ N) (hz : ∀ i, i < N → (i < a ∨ a + m ≤ i) → G i = 0) :
    ∑ i ∈ range N, G i = ∑ k ∈ range m, G (a + k) := by
  have hsub : Ico a (a + m) ⊆ range N := fun k hk =>
    mem_range.mpr (lt_of_lt_of_le (mem_Ico.mp hk).2 h)
  rw [← sum_subset hsub fun i hi hn => hz i (mem_range.mp hi) (by rw [mem_Ico] at hn; omega),
    sum_Ico_eq_sum_range, Nat.add_sub_cancel_left]

/-- **the stored basis functions and the window of an interval carry the same terms**: a family `g` over all integer
indices that vanishes below `0`, from `nNew` up to `left`, and off the window `left-n … left` has the same sum over the
stored range `i < nNew` and over the window (the window may stick out of the stored range on either side). -/
theorem window_reindex {M : Type} [AddCommMonoid M] (g : Int → M) (nNew left n : Nat)
    (hneg : ∀ i : Int, i < 0 → g i = 0)
    (hlow : ∀ i : Int, i + n < left → g i = 0)
    (hhigh : ∀ i : Int, (left : Int) < i → g i = 0)
    (hbig : ∀ i : Int, (nNew : Int) ≤ i → i ≤ left → g i = 0) :
    ∑ i ∈ range nNew, g (i : Int) = ∑ k ∈ range (n+1), g ((left : Int) - n + k) := by
  -- both are the sum over 0 … left
  have hA : ∑ i ∈ range nNew, g (i : Int) = ∑ i ∈ range (left+1), g (i : Int) := by
    rcases Nat.le_total nNew (left+1) with h | h
    · apply Finset.sum_subset (range_subset_range.mpr h)
      intro i hi1 hi2
      rw [mem_range] at hi1 hi2
      exact hbig i (by omega) (by omega)
    · symm
      apply Finset.sum_subset (range_subset_range.mpr h)
      intro i hi1 hi2
      rw [mem_range] at hi1 hi2
      exact hhigh i (by omega)
  -- shifted by `n` to start at `0`, the sum over `-n … left` is both: that over `0 … left` and that over the window
  have hB : ∑ k ∈ range (left + n + 1), g ((k : Int) - n) = ∑ i ∈ range (left+1), g (i : Int) := by
    rw [sum_range_window _ (left + n + 1) n (left + 1) (by omega) fun k _ hk => hneg _ (by omega)]
    exact Finset.sum_congr rfl fun i _ => congrArg g (by omega)
  have hC : ∑ k ∈ range (left + n + 1), g ((k : Int) - n) = ∑ k ∈ range (n+1), g ((left : Int) - n + k) := by
    rw [sum_range_window _ (left + n + 1) left (n + 1) (by omega) fun k _ hk => hlow _ (by omega)]
    exact Finset.sum_congr rfl fun i _ => congrArg g (by omega)
  rw [hA, ← hB, hC]

section Mono
variable {α : Type} [LinearOrder α]

/-- `t` is non-decreasing on the index window `[lo, hi]` -/
def MonoOn (t : Int → α) (lo hi : Int) : Prop := ∀ a b : Int, lo ≤ a → a ≤ b → b ≤ hi → t a ≤ t b

theorem MonoOn.sub {t : Int → α} {lo hi lo' hi' : Int} (h : MonoOn t lo hi) (h1 : lo ≤ lo') (h2 : hi' ≤ hi) :
    MonoOn t lo' hi' := fun a b ha hab hb => h a b (by omega) hab (by omega)

theorem MonoOn.lt_across {t : Int → α} {lo hi l a b : Int} (h : MonoOn t lo hi) (hne : t l < t (l + 1))
    (ha : lo ≤ a) (hal : a ≤ l) (hlb : l + 1 ≤ b) (hb : b ≤ hi) : t a < t b :=
  lt_of_le_of_lt (h a l ha hal (by omega)) (lt_of_lt_of_le hne (h (l + 1) b (by omega) hlb hb))

end Mono

/-- the indicator of the interval `l` alone: with it `Bind`/`Dind` are the recursions of the polynomial piece `l` -/
def indAt (l : Int) : Int → Bool := fun q => decide (q = l)

theorem indAt_iff (l q : Int) : indAt l q = true ↔ q = l := decide_eq_true_iff

theorem indAt_of_ne {l q : Int} (h : q ≠ l) : indAt l q = false := decide_eq_false h

section Congr
variable {α : Type} [A : Arith α] {ind ind' : Int → Bool}

/-- no law of arithmetic is involved: the recursion reads the indicator at `i … i+n` only -/
theorem Bind_congr (t : Int → α) (x : α) :
    ∀ (n : Nat) (i : Int), (∀ j, i ≤ j → j ≤ i + n → ind j = ind' j) → Bind ind t x n i = Bind ind' t x n i
  | 0, i, h => by rw [Bind, Bind, h i (le_refl _) (by omega)]
  | n + 1, i, h => by
    rw [Bind, Bind, Bind_congr t x n i fun j h1 h2 => h j h1 (by omega),
      Bind_congr t x n (i + 1) fun j h1 h2 => h j (by omega) (by omega)]

theorem Dind_congr (t : Int → α) (x : α) :
    ∀ (k n : Nat) (i : Int), (∀ j, i ≤ j → j ≤ i + n → ind j = ind' j) →
      Dind ind t x k n i = Dind ind' t x k n i
  | 0, n, i, h => Bind_congr t x n i h
  | _ + 1, 0, _, _ => rfl
  | k + 1, n + 1, i, h => by
    rw [Dind, Dind, Dind_congr t x k n i fun j h1 h2 => h j h1 (by omega),
      Dind_congr t x k n (i + 1) fun j h1 h2 => h j (by omega) (by omega)]

theorem Dind_eq_piece (t : Int → α) (x : α) (l : Int) (k n : Nat) (i : Int)
    (hind : ∀ j, i ≤ j → j ≤ i + n → (ind j = true ↔ j = l)) :
    Dind ind t x k n i = Dind (indAt l) t x k n i :=
  Dind_congr t x k n i fun j h1 h2 => by rw [Bool.eq_iff_iff, hind j h1 h2, indAt_iff]

end Congr

section Lawful
variable {α : Type} [Field α] [LinearOrder α] [A : Arith α] [L : LawfulArith α]
variable (ind : Int → Bool) (t : Int → α) (x : α)

theorem Bind_zero (i : Int) : Bind ind t x 0 i = if ind i then 1 else 0 := by
  rw [Bind, L.one_eq, L.zero_eq]

theorem Bind_succ (n : Nat) (i : Int) :
    Bind ind t x (n+1) i
      = (x - t i) / (t (i + n + 1) - t i) * Bind ind t x n i
        + (t (i + n + 2) - x) / (t (i + n + 2) - t (i + 1)) * Bind ind t x n (i+1) := by
  rw [Bind, L.add_eq, L.mul_eq, L.mul_eq, L.div_eq, L.div_eq, L.sub_eq, L.sub_eq, L.sub_eq, L.sub_eq]

theorem Dind_succ_zero (k : Nat) (i : Int) : Dind ind t x (k+1) 0 i = 0 := by
  rw [Dind, L.zero_eq]

theorem Dind_succ (k n : Nat) (i : Int) :
    Dind ind t x (k+1) (n+1) i
      = ((n + 1 : Nat) : α) * (Dind ind t x k n i / (t (i + n + 1) - t i)
          - Dind ind t x k n (i+1) / (t (i + n + 2) - t (i + 1))) := by
  rw [Dind, L.mul_eq, L.sub_eq, L.div_eq, L.div_eq, L.sub_eq, L.sub_eq, L.ofNat_eq]

theorem indR_iff (i : Int) : indR t x i = true ↔ t i ≤ x ∧ x < t (i+1) := by
  rw [indR, Bool.and_eq_true, L.le_iff, L.lt_iff]

theorem indL_iff (i : Int) : indL t x i = true ↔ t i < x ∧ x ≤ t (i+1) := by
  rw [indL, Bool.and_eq_true, L.le_iff, L.lt_iff]

theorem selInd_of_lt {d : Dim α} {x : α} (h : x < d.knots d.naxes) : selInd d x = indR d.knots x :=
  if_pos ((L.lt_iff _ _).mpr h)

theorem selInd_of_not_lt {d : Dim α} {x : α} (h : ¬ x < d.knots d.naxes) : selInd d x = indL d.knots x :=
  if_neg fun e => h ((L.lt_iff _ _).mp e)

theorem Bind_eq_zero : ∀ (n : Nat) (i : Int), (∀ m, i ≤ m → m ≤ i + n → ind m = false) → Bind ind t x n i = 0
  | 0, i, h => by rw [Bind_zero, h i (le_refl _) (by omega)]; rfl
  | n + 1, i, h => by
    rw [Bind_succ, Bind_eq_zero n i fun m h1 h2 => h m h1 (by omega),
      Bind_eq_zero n (i + 1) fun m h1 h2 => h m (by omega) (by omega), mul_zero, mul_zero, add_zero]

theorem Dind_eq_zero : ∀ (k n : Nat) (i : Int), (∀ m, i ≤ m → m ≤ i + n → ind m = false) →
    Dind ind t x k n i = 0
  | 0, n, i, h => Bind_eq_zero ind t x n i h
  | k + 1, 0, i, _ => Dind_succ_zero ind t x k i
  | k + 1, n + 1, i, h => by
    rw [Dind_succ, Dind_eq_zero k n i fun m h1 h2 => h m h1 (by omega),
      Dind_eq_zero k n (i + 1) fun m h1 h2 => h m (by omega) (by omega), zero_div, zero_div, sub_zero, mul_zero]

theorem Bind_fires (n : Nat) (i : Int) (h : Bind ind t x n i ≠ 0) : ∃ m, ind m = true ∧ i ≤ m ∧ m ≤ i + n := by
  by_contra hc
  refine h (Bind_eq_zero ind t x n i fun m h1 h2 => ?_)
  cases hm : ind m with
  | false => rfl
  | true => exact absurd ⟨m, hm, h1, h2⟩ hc

section Sign
variable (n : Nat) (i : Int)
  (hmono : MonoOn t i (i + n + 1))
  (hind : ∀ m, i ≤ m → m ≤ i + n → ind m = true → t m ≤ x ∧ x ≤ t (m+1))
include hmono hind

theorem Bind_bracket (h : Bind ind t x n i ≠ 0) : t i ≤ x ∧ x ≤ t (i + n + 1) := by
  obtain ⟨m, hm, h1, h2⟩ := Bind_fires ind t x n i h
  exact ⟨(hmono i m (le_refl _) h1 (by omega)).trans (hind m h1 h2 hm).1,
    (hind m h1 h2 hm).2.trans (hmono (m + 1) (i + n + 1) (by omega) (by omega) (le_refl _))⟩

/-- the rising term of the recurrence for `B_{i,n+1}` … -/
theorem Bind_rise_nonneg [IsStrictOrderedRing α] (h0 : 0 ≤ Bind ind t x n i) :
    0 ≤ (x - t i) / (t (i + n + 1) - t i) * Bind ind t x n i := by
  by_cases hB : Bind ind t x n i = 0
  · rw [hB, mul_zero]
  · have hb := Bind_bracket ind t x n i hmono hind hB
    exact mul_nonneg (div_nonneg (sub_nonneg.mpr hb.1) (sub_nonneg.mpr (hb.1.trans hb.2))) h0

/-- … and the falling term of the recurrence for `B_{i-1,n+1}` -/
theorem Bind_fall_nonneg [IsStrictOrderedRing α] (h0 : 0 ≤ Bind ind t x n i) :
    0 ≤ (t (i + n + 1) - x) / (t (i + n + 1) - t i) * Bind ind t x n i := by
  by_cases hB : Bind ind t x n i = 0
  · rw [hB, mul_zero]
  · have hb := Bind_bracket ind t x n i hmono hind hB
    exact mul_nonneg (div_nonneg (sub_nonneg.mpr hb.2) (sub_nonneg.mpr (hb.1.trans hb.2))) h0

end Sign

theorem Bind_nonneg_of_bracket [IsStrictOrderedRing α] : ∀ (n : Nat) (i : Int),
    MonoOn t i (i + n + 1) →
    (∀ m, i ≤ m → m ≤ i + n → ind m = true → t m ≤ x ∧ x ≤ t (m+1)) → 0 ≤ Bind ind t x n i
  | 0, i, _, _ => by
    rw [Bind_zero]
    split
    · exact zero_le_one
    · exact le_refl _
  | n + 1, i, hmono, hind => by
    have hm0 : MonoOn t i (i + n + 1) := hmono.sub (le_refl _) (by omega)
    have hm1 : MonoOn t (i + 1) (i + 1 + n + 1) := hmono.sub (by omega) (by omega)
    have hi0 : ∀ m, i ≤ m → m ≤ i + n → ind m = true → t m ≤ x ∧ x ≤ t (m+1) :=
      fun m h1 h2 => hind m h1 (by omega)
    have hi1 : ∀ m, i + 1 ≤ m → m ≤ i + 1 + n → ind m = true → t m ≤ x ∧ x ≤ t (m+1) :=
      fun m h1 h2 => hind m (by omega) (by omega)
    rw [Bind_succ, show i + n + 2 = i + 1 + n + 1 by omega]
    exact add_nonneg (Bind_rise_nonneg ind t x n i hm0 hi0 (Bind_nonneg_of_bracket n i hm0 hi0))
      (Bind_fall_nonneg ind t x n (i + 1) hm1 hi1 (Bind_nonneg_of_bracket n (i + 1) hm1 hi1))

end Lawful

section Select
variable {α : Type} [LinearOrder α] {t : Int → α} {lo hi : Int}

theorem exists_switch (P : Int → Prop) : ∀ (k : Nat) (a : Int), P a → ¬ P (a + k) →
    ∃ m : Int, a ≤ m ∧ m < a + k ∧ P m ∧ ¬ P (m + 1)
  | 0, a, h1, h2 => absurd h1 (by simpa using h2)
  | k + 1, a, h1, h2 => by
    by_cases h : P (a + 1)
    · obtain ⟨m, hm1, hm2, hm3⟩ := exists_switch P k (a + 1) h
        (by rwa [show a + 1 + (k : Int) = a + ((k + 1 : Nat) : Int) by omega])
      exact ⟨m, by omega, by omega, hm3⟩
    · exact ⟨a, le_refl _, by omega, h1, h⟩

/-- two intervals of a non-decreasing knot window that overlap in more than a point are the same interval -/
theorem bracket_unique (hmono : MonoOn t lo hi) {l m : Int}
    (hl : lo ≤ l) (hl' : l < hi) (hm : lo ≤ m) (hm' : m < hi)
    (h1 : t l < t (m+1)) (h2 : t m < t (l+1)) : l = m := by
  by_contra hne
  rcases lt_or_gt_of_ne hne with h | h
  · exact absurd (hmono (l+1) m (by omega) (by omega) (by omega)) (not_le.mpr h2)
  · exact absurd (hmono (m+1) l (by omega) (by omega) (by omega)) (not_le.mpr h1)

end Select

section SelectLawful
variable {α : Type} [Field α] [LinearOrder α] [A : Arith α] [L : LawfulArith α] {t : Int → α} {x : α} {lo hi : Int}

theorem indR_iff_eq (hmono : MonoOn t lo hi) {l : Int} (hl : lo ≤ l) (hl' : l < hi)
    (h1 : t l ≤ x) (h2 : x < t (l+1)) (i : Int) (hi0 : lo ≤ i) (hi1 : i < hi) : indR t x i = true ↔ i = l := by
  rw [indR_iff]
  exact ⟨fun h => bracket_unique hmono hi0 hi1 hl hl' (lt_of_le_of_lt h.1 h2) (lt_of_le_of_lt h1 h.2),
    fun e => e ▸ ⟨h1, h2⟩⟩

theorem indL_iff_eq (hmono : MonoOn t lo hi) {l : Int} (hl : lo ≤ l) (hl' : l < hi)
    (h1 : t l < x) (h2 : x ≤ t (l+1)) (i : Int) (hi0 : lo ≤ i) (hi1 : i < hi) : indL t x i = true ↔ i = l := by
  rw [indL_iff]
  exact ⟨fun h => bracket_unique hmono hi0 hi1 hl hl' (lt_of_lt_of_le h.1 h2) (lt_of_lt_of_le h1 h.2),
    fun e => e ▸ ⟨h1, h2⟩⟩

theorem indR_piece (hmono : MonoOn t lo hi) {a b : Int} (ha : lo ≤ a) (hab : a ≤ b) (hb : b ≤ hi)
    (h1 : t a ≤ x) (h2 : x < t b) :
    ∃ l : Int, a ≤ l ∧ l < b ∧ t l ≤ x ∧ x < t (l+1) ∧
      ∀ i, lo ≤ i → i < hi → (indR t x i = true ↔ i = l) := by
  obtain ⟨l, l1, l2, c, d⟩ := exists_switch (fun i => t i ≤ x) (b - a).toNat a h1
    (by rw [Int.toNat_of_nonneg (by omega), add_sub_cancel]; exact not_le.mpr h2)
  rw [Int.toNat_of_nonneg (by omega), add_sub_cancel] at l2
  exact ⟨l, l1, l2, c, not_le.mp d, indR_iff_eq hmono (by omega) (by omega) c (not_le.mp d)⟩

theorem indL_piece (hmono : MonoOn t lo hi) {a b : Int} (ha : lo ≤ a) (hab : a ≤ b) (hb : b ≤ hi)
    (h1 : t a < x) (h2 : x ≤ t b) :
    ∃ l : Int, a ≤ l ∧ l < b ∧ t l < x ∧ x ≤ t (l+1) ∧
      ∀ i, lo ≤ i → i < hi → (indL t x i = true ↔ i = l) := by
  obtain ⟨l, l1, l2, c, d⟩ := exists_switch (fun i => t i < x) (b - a).toNat a h1
    (by rw [Int.toNat_of_nonneg (by omega), add_sub_cancel]; exact not_lt.mpr h2)
  rw [Int.toNat_of_nonneg (by omega), add_sub_cancel] at l2
  exact ⟨l, l1, l2, c, not_lt.mp d, indL_iff_eq hmono (by omega) (by omega) c (not_lt.mp d)⟩

theorem selInd_iff_eq {d : Dim α} (hmono : MonoOn d.knots lo hi) {l : Int}
    (hl : lo ≤ l) (hl' : l < hi) (h : selInd d x l = true) (i : Int) (hi0 : lo ≤ i) (hi1 : i < hi) :
    selInd d x i = true ↔ i = l := by
  by_cases hx : x < d.knots d.naxes
  · rw [selInd_of_lt hx, indR_iff] at h
    rw [selInd_of_lt hx]
    exact indR_iff_eq hmono hl hl' h.1 h.2 i hi0 hi1
  · rw [selInd_of_not_lt hx, indL_iff] at h
    rw [selInd_of_not_lt hx]
    exact indL_iff_eq hmono hl hl' h.1 h.2 i hi0 hi1

theorem selInd_exists {d : Dim α} (hmono : MonoOn d.knots lo hi) {a b : Int}
    (ha : lo ≤ a) (han : a ≤ d.naxes) (hnb : (d.naxes : Int) ≤ b) (hb : b ≤ hi)
    (h1 : d.knots a ≤ x) (h2 : x ≤ d.knots b) (hne : d.knots a < d.knots d.naxes) :
    ∃ l : Int, a ≤ l ∧ l < b ∧ selInd d x l = true ∧
      d.knots l < d.knots (l+1) ∧ d.knots l ≤ x ∧ x ≤ d.knots (l+1) := by
  by_cases hx : x < d.knots d.naxes
  · obtain ⟨l, l1, l2, c, e, _⟩ := indR_piece hmono ha han (by omega) h1 hx
    exact ⟨l, l1, by omega, by rw [selInd_of_lt hx, indR_iff]; exact ⟨c, e⟩, lt_of_le_of_lt c e, c, le_of_lt e⟩
  · obtain ⟨l, l1, l2, c, e, _⟩ := indL_piece hmono ha (by omega) hb (lt_of_lt_of_le hne (not_lt.mp hx)) h2
    exact ⟨l, l1, l2, by rw [selInd_of_not_lt hx, indL_iff]; exact ⟨c, e⟩, lt_of_lt_of_le c e, le_of_lt c, e⟩

end SelectLawful

end PsV
