import PsV.Model.FitsCodec
import PsV.Model.FitsLayout
/-!
# Big-endian words of the FITS byte codec

`Layout.bigEndian k n` and `fromBE` (the number a byte string spells) are inverse to each other between the numbers
below `256 ^ k` and the byte strings of length `k` (`fromBE_bigEndian`, `bigEndian_fromBE`).  The codec's 32- and 64-bit
words are the cases `k = 4` and `k = 8` (`be32_eq`, `rd32_eq`, ...), so `rd32 ∘ be32` and `be32 ∘ rd32` are the identity,
and so are, word by word, `dec32 ∘ enc32` (`dec32_enc32`) and `enc32 ∘ dec32` on the bytes consumed (`dec32_spec`).
`Pix.width` and `pixBytes` put the two widths under one name for the statements about a pixel array.  Mathlib-free.
-/
namespace PsV.Fits
open Layout

/-- the number a big-endian byte string spells -/
def fromBE (bs : Bytes) : Nat := bs.foldl (fun a b => a * 256 + b.toNat) 0

theorem fromBE_snoc (bs : Bytes) (b : UInt8) : fromBE (bs ++ [b]) = fromBE bs * 256 + b.toNat := by
  simp [fromBE]

theorem bigEndian_length (k n : Nat) : (bigEndian k n).length = k := by simp [bigEndian]

theorem bigEndian_succ (k n : Nat) : bigEndian (k + 1) n = bigEndian k (n / 256) ++ [UInt8.ofNat (n % 256)] := by
  unfold bigEndian
  rw [List.range_succ, List.map_append, List.map_singleton, Nat.add_sub_cancel, Nat.sub_self, Nat.pow_zero,
    Nat.div_one]
  congr 1
  refine List.map_congr_left fun j hj => ?_
  have hj := List.mem_range.mp hj
  rw [Nat.div_div_eq_div_mul, ← Nat.pow_succ', show k - j = k - 1 - j + 1 by omega]

theorem fromBE_bigEndian : ∀ k n, fromBE (bigEndian k n) = n % 256 ^ k
  | 0, n => by rw [Nat.pow_zero, Nat.mod_one]; rfl
  | k+1, n => by
    rw [bigEndian_succ, fromBE_snoc, fromBE_bigEndian k, UInt8.toNat_ofNat', Nat.mod_mod, Nat.pow_succ',
      Nat.mod_mul, Nat.add_comm, Nat.mul_comm]

theorem fromBE_lt : ∀ (k : Nat) (bs : Bytes), bs.length = k → fromBE bs < 256 ^ k
  | 0, bs, h => by rw [List.length_eq_zero_iff.mp h]; decide
  | k+1, bs, h => by
    obtain rfl | ⟨L, b, rfl⟩ := List.eq_nil_or_concat bs
    · cases h
    · rw [List.concat_eq_append] at h ⊢
      have := fromBE_lt k L (by simpa using h)
      have := b.toNat_lt
      rw [fromBE_snoc, Nat.pow_succ]
      omega

theorem bigEndian_fromBE : ∀ (k : Nat) (bs : Bytes), bs.length = k → bigEndian k (fromBE bs) = bs
  | 0, bs, h => by rw [List.length_eq_zero_iff.mp h]; rfl
  | k+1, bs, h => by
    obtain rfl | ⟨L, b, rfl⟩ := List.eq_nil_or_concat bs
    · cases h
    · rw [List.concat_eq_append] at h ⊢
      have hb : b.toNat < 256 := b.toNat_lt
      rw [bigEndian_succ, fromBE_snoc, show (fromBE L * 256 + b.toNat) / 256 = fromBE L by omega,
        bigEndian_fromBE k L (by simpa using h), show (fromBE L * 256 + b.toNat) % 256 = b.toNat by omega,
        UInt8.ofNat_toNat]

theorem rd32_eq (b0 b1 b2 b3 : UInt8) : rd32 b0 b1 b2 b3 = UInt32.ofNat (fromBE [b0, b1, b2, b3]) := by
  simp only [rd32, fromBE, List.foldl]; exact congrArg UInt32.ofNat (by omega)

theorem rd64_eq (b0 b1 b2 b3 b4 b5 b6 b7 : UInt8) :
    rd64 b0 b1 b2 b3 b4 b5 b6 b7 = UInt64.ofNat (fromBE [b0, b1, b2, b3, b4, b5, b6, b7]) := by
  simp only [rd64, fromBE, List.foldl]; exact congrArg UInt64.ofNat (by omega)

theorem ofNat_mod_256 (a : Nat) : UInt8.ofNat (a % 256) = UInt8.ofNat a := UInt8.toNat_inj.mp (by simp)

theorem be32_eq (x : UInt32) : be32 x = bigEndian 4 x.toNat := by
  simp [be32, bigEndian, List.range_succ, ofNat_mod_256]

theorem be64_eq (x : UInt64) : be64 x = bigEndian 8 x.toNat := by
  simp [be64, bigEndian, List.range_succ, ofNat_mod_256]

theorem rd32_be32 (x : UInt32) :
    rd32 (UInt8.ofNat (x.toNat / 16777216)) (UInt8.ofNat (x.toNat / 65536 % 256))
      (UInt8.ofNat (x.toNat / 256 % 256)) (UInt8.ofNat (x.toNat % 256)) = x := by
  rw [rd32_eq]
  show UInt32.ofNat (fromBE (be32 x)) = x
  rw [be32_eq, fromBE_bigEndian, Nat.mod_eq_of_lt (show x.toNat < 256 ^ 4 from x.toNat_lt), UInt32.ofNat_toNat]

theorem rd64_be64 (x : UInt64) :
    rd64 (UInt8.ofNat (x.toNat / 72057594037927936)) (UInt8.ofNat (x.toNat / 281474976710656 % 256))
      (UInt8.ofNat (x.toNat / 1099511627776 % 256)) (UInt8.ofNat (x.toNat / 4294967296 % 256))
      (UInt8.ofNat (x.toNat / 16777216 % 256)) (UInt8.ofNat (x.toNat / 65536 % 256))
      (UInt8.ofNat (x.toNat / 256 % 256)) (UInt8.ofNat (x.toNat % 256)) = x := by
  rw [rd64_eq]
  show UInt64.ofNat (fromBE (be64 x)) = x
  rw [be64_eq, fromBE_bigEndian, Nat.mod_eq_of_lt (show x.toNat < 256 ^ 8 from x.toNat_lt), UInt64.ofNat_toNat]

theorem be32_rd32 (b0 b1 b2 b3 : UInt8) : be32 (rd32 b0 b1 b2 b3) = [b0, b1, b2, b3] := by
  rw [be32_eq, rd32_eq, UInt32.toNat_ofNat', Nat.mod_eq_of_lt (fromBE_lt 4 [b0, b1, b2, b3] rfl)]
  exact bigEndian_fromBE 4 [b0, b1, b2, b3] rfl

theorem be64_rd64 (b0 b1 b2 b3 b4 b5 b6 b7 : UInt8) :
    be64 (rd64 b0 b1 b2 b3 b4 b5 b6 b7) = [b0, b1, b2, b3, b4, b5, b6, b7] := by
  rw [be64_eq, rd64_eq, UInt64.toNat_ofNat', Nat.mod_eq_of_lt (fromBE_lt 8 [b0, b1, b2, b3, b4, b5, b6, b7] rfl)]
  exact bigEndian_fromBE 8 [b0, b1, b2, b3, b4, b5, b6, b7] rfl

theorem Codec.be32_length (x : UInt32) : (be32 x).length = 4 := rfl
theorem Codec.be64_length (x : UInt64) : (be64 x).length = 8 := rfl

theorem enc32_length (l : List UInt32) : (enc32 l).length = 4 * l.length := by
  induction l with
  | nil => rfl
  | cons x xs ih => simp only [enc32, List.length_append, Codec.be32_length, ih, List.length_cons]; omega

theorem enc64_length (l : List UInt64) : (enc64 l).length = 8 * l.length := by
  induction l with
  | nil => rfl
  | cons x xs ih => simp only [enc64, List.length_append, Codec.be64_length, ih, List.length_cons]; omega

theorem dec32_enc32 (l : List UInt32) (rest : Bytes) : dec32 l.length (enc32 l ++ rest) = some l := by
  induction l with
  | nil => rfl
  | cons x xs ih =>
    simp only [enc32, be32, List.length_cons, List.cons_append, List.nil_append, dec32, ih, rd32_be32,
      Option.map_some]

theorem dec64_enc64 (l : List UInt64) (rest : Bytes) : dec64 l.length (enc64 l ++ rest) = some l := by
  induction l with
  | nil => rfl
  | cons x xs ih =>
    simp only [enc64, be64, List.length_cons, List.cons_append, List.nil_append, dec64, ih, rd64_be64,
      Option.map_some]

/-- bytes per pixel -/
def Pix.width : Pix → Nat
  | .f32 _ => 4
  | .f64 _ => 8

/-- the pixel array as big-endian bytes -/
def pixBytes : Pix → Bytes
  | .f32 d => enc32 d
  | .f64 d => enc64 d

theorem npix_of_ne_nil {axes : List Nat} (h : axes ≠ []) : npix axes = prod axes := if_neg h

theorem npix_le_prod (axes : List Nat) : npix axes ≤ prod axes := by
  unfold npix
  split
  · exact Nat.zero_le _
  · exact Nat.le_refl _

theorem dec32_spec : ∀ (n : Nat) (b : Bytes) (d : List UInt32), dec32 n b = some d →
    d.length = n ∧ 4 * n ≤ b.length ∧ enc32 d = b.take (4 * n)
  | 0, b, d, h => by
    simp only [dec32, Option.some.injEq] at h; subst h; simp [enc32]
  | n+1, b, d, h => by
    rcases b with _ | ⟨b0, _ | ⟨b1, _ | ⟨b2, _ | ⟨b3, r⟩⟩⟩⟩
    · simp [dec32] at h
    · simp [dec32] at h
    · simp [dec32] at h
    · simp [dec32] at h
    · simp only [dec32] at h
      cases hr : dec32 n r with
      | none => rw [hr] at h; cases h
      | some d' =>
        rw [hr] at h
        simp only [Option.map_some, Option.some.injEq] at h
        subst h
        obtain ⟨l, hl, he⟩ := dec32_spec n r d' hr
        refine ⟨by simp [l], by simp only [List.length_cons]; omega, ?_⟩
        rw [show 4 * (n + 1) = 4 * n + 1 + 1 + 1 + 1 by omega]
        simp only [enc32, be32_rd32, he, List.take_succ_cons, List.cons_append, List.nil_append]

theorem dec64_spec : ∀ (n : Nat) (b : Bytes) (d : List UInt64), dec64 n b = some d →
    d.length = n ∧ 8 * n ≤ b.length ∧ enc64 d = b.take (8 * n)
  | 0, b, d, h => by
    simp only [dec64, Option.some.injEq] at h; subst h; simp [enc64]
  | n+1, b, d, h => by
    rcases b with _ | ⟨b0, _ | ⟨b1, _ | ⟨b2, _ | ⟨b3, _ | ⟨b4, _ | ⟨b5, _ | ⟨b6, _ | ⟨b7, r⟩⟩⟩⟩⟩⟩⟩⟩
    · simp [dec64] at h
    · simp [dec64] at h
    · simp [dec64] at h
    · simp [dec64] at h
    · simp [dec64] at h
    · simp [dec64] at h
    · simp [dec64] at h
    · simp [dec64] at h
    · simp only [dec64] at h
      cases hr : dec64 n r with
      | none => rw [hr] at h; cases h
      | some d' =>
        rw [hr] at h
        simp only [Option.map_some, Option.some.injEq] at h
        subst h
        obtain ⟨l, hl, he⟩ := dec64_spec n r d' hr
        refine ⟨by simp [l], by simp only [List.length_cons]; omega, ?_⟩
        rw [show 8 * (n + 1) = 8 * n + 1 + 1 + 1 + 1 + 1 + 1 + 1 + 1 by omega]
        simp only [enc64, be64_rd64, he, List.take_succ_cons, List.cons_append, List.nil_append]

end PsV.Fits
