import PsV.Proofs.SyncLive
import PsV.Proofs.SyncEnabled
/-! Strong fairness ⇒ termination, for the repaired protocol with unboundedly many spurious wake-ups.

`prog = 3·rank + corr` is a progress measure that never increases — not even under spurious wake-ups — and strictly
decreases on every transition except the three *futile* ones of a thread whose wait predicate is still false
(spuriously woken, re-acquire the mutex, wait again).  An infinite execution therefore has a tail of futile steps only;
in that tail some thread is *pending* (its next call makes progress), keeps being pending, and is enabled whenever the
mutex is free, which happens infinitely often if the mutex holder is treated fairly.  A strongly fair scheduler must
run it — contradiction. -/
namespace PsV.Sync

/-! Where the constants come from.  A spurious wake-up raises `rank` by 2 (`rank_spur`: `waiting → woken` costs 2 in `lw`
and in `rankC`), every pthread call lowers it by at least 1.  With the factor 3 a wake-up costs 3·2 = 6 and a call
gains at least 3.  `corr` holds 6 for a thread in the wait set whose predicate is false (`waiting` with state WAIT;
the coordinator at `waiting`) and releases them at the wake-up: `prog` does not move.  The two calls that bring the
thread back build the 6 up again, 0 → 3 at the re-acquisition (`woken → hold`, coordinator `woken → condWait`) and
3 → 6 at the `cond_wait` (`hold → waiting`, `condWait → waiting`), each paid exactly by the 3 the call gains: the
futile cycle leaves `prog` where it was.  A worker that reaches `hold` with state WAIT by the ordinary path has paid
in advance, 1 at `unlock2 → lock1` and 2 at `lock1 → hold`; every such call raises `corr` by at most 2 < 3, so `prog`
drops.  The coordinator's first test (`lockB → condWait`) raises `corr` by 3 but lowers `rankC` by 2 (`prog_lockB`). -/
def corrW (p : WPc) (st : WSt) : Nat :=
  match st, p with
  | .wait, .waiting => 6 | .wait, .hold => 3 | .wait, .lock1 => 1 | _, _ => 0
def corrC : CPc → Nat
  | .waiting => 6 | .condWait => 3 | _ => 0
def corr (c : Cfg) (s : State) : Nat := corrC s.cpc + sumTo c.n (fun w => corrW (s.wpc w) (s.st w))
def prog (c : Cfg) (s : State) : Nat := 3 * rank c s + corr c s

theorem corr_eq (c : Cfg) (s : State) : corr c s = corrC s.cpc + wsum c.n corrW s := rfl

/-- thread `t` is in a futile position: its next pthread call only re-tests a predicate that is still false -/
def futile (c : Cfg) (s : State) : Nat → Bool
  | 0 => s.cpc == .condWait || (s.cpc == .woken && !allWait c s)
  | w+1 => s.st w == .wait && (s.wpc w == .hold || s.wpc w == .woken)

theorem futile_zero_iff (c : Cfg) (s : State) :
    futile c s 0 = true ↔ s.cpc = .condWait ∨ (s.cpc = .woken ∧ allWait c s = false) := by
  simp only [futile, Bool.or_eq_true, Bool.and_eq_true, beq_iff_eq, Bool.not_eq_true']

theorem futile_succ_iff (c : Cfg) (s : State) (w : Nat) :
    futile c s (w+1) = true ↔ s.st w = .wait ∧ (s.wpc w = .hold ∨ s.wpc w = .woken) := by
  simp only [futile, Bool.and_eq_true, Bool.or_eq_true, beq_iff_eq]

theorem corrC_wakeC (p : CPc) : corrC (wakeC p) ≤ corrC p := by cases p <;> simp [wakeC, corrC]
theorem corrW_wake (p : WPc) (st : WSt) : corrW (if p = .waiting then .woken else p) st ≤ corrW p st := by
  cases p <;> cases st <;> simp [corrW]
theorem corrW_run (p : WPc) : corrW p .run = 0 := by cases p <;> rfl
theorem corrW_term (p : WPc) : corrW p .term = 0 := by cases p <;> rfl

theorem corr_le_of_worker (c : Cfg) (s s' : State) (w e : Nat) (hw : w < c.n) (hC : corrC s'.cpc ≤ corrC s.cpc)
    (hother : ∀ k, k < c.n → k ≠ w → corrW (s'.wpc k) (s'.st k) ≤ corrW (s.wpc k) (s.st k))
    (hself : corrW (s'.wpc w) (s'.st w) ≤ corrW (s.wpc w) (s.st w) + e) : corr c s' ≤ corr c s + e := by
  have := wsum_move c.n corrW 0 hw (s := s) (s' := s') hother
  rw [corr_eq, corr_eq]; omega

theorem corr_le_of_pointwise (c : Cfg) (s s' : State) (e : Nat) (h1 : corrC s'.cpc ≤ corrC s.cpc + e)
    (h2 : ∀ k, k < c.n → corrW (s'.wpc k) (s'.st k) ≤ corrW (s.wpc k) (s.st k)) : corr c s' ≤ corr c s + e := by
  have := wsum_le c.n corrW 0 (s := s) (s' := s') h2
  rw [corr_eq, corr_eq]; omega

theorem corr_stepW (c : Cfg) (s s' : State) (w : Nat) (hw : w < c.n) (hs : stepW s w = some s') :
    corr c s' ≤ corr c s + (if futile c s (w+1) then 3 else 2) := by
  have weak : ∀ x, x ≤ corr c s + 2 → x ≤ corr c s + (if futile c s (w+1) then 3 else 2) := by
    intro x hx; split <;> omega
  -- only `w` moves
  have move : ∀ (q : WPc) (x : WSt) (e : Nat) (s' : State), s'.cpc = s.cpc → s'.wpc = upd s.wpc w q →
      s'.st = upd s.st w x → corrW q x ≤ corrW (s.wpc w) (s.st w) + e → corr c s' ≤ corr c s + e := by
    intro q x e s' h1 h3 h4 hle
    have := wsum_upd c.n corrW hw h3 h4
    rw [corr_eq, corr_eq, h1]; omega
  have same := (upd_same s.st w).symm
  cases stepW_cases hs with
  | lock1 hp _ => exact weak _ (move .hold _ 2 _ rfl rfl same (by rw [hp]; cases s.st w <;> simp [corrW]))
  | woken hp _ =>
    cases hst : s.st w with
    | wait =>
      rw [(futile_succ_iff c s w).mpr ⟨hst, Or.inr hp⟩]; exact move .hold _ 3 _ rfl rfl same (by rw [hp, hst]; simp [corrW])
    | _ => exact weak _ (move .hold _ 2 _ rfl rfl same (by rw [hp, hst]; simp [corrW]))
  | holdWait hp hst =>
    rw [(futile_succ_iff c s w).mpr ⟨hst, Or.inl hp⟩]; exact move .waiting _ 3 _ rfl rfl same (by rw [hp, hst]; simp [corrW])
  | holdRun hp hst => exact weak _ (move .lock2 _ 2 _ rfl rfl same (by rw [hp, hst]; simp [corrW]))
  | holdTerm hp hst => exact weak _ (move .exit _ 2 _ rfl rfl same (by rw [hp, hst]; simp [corrW]))
  | unlock2 hp => exact weak _ (move .lock1 _ 2 _ rfl rfl same (by rw [hp]; cases s.st w <;> simp [corrW]))
  | exit hp => exact weak _ (move .done _ 2 _ rfl rfl same (by rw [hp]; cases s.st w <;> simp [corrW]))
  | lock2 hp _ => exact weak _ (move .bcast .wait 2 _ rfl rfl rfl (by simp [corrW]))
  | bcast hp =>
    refine weak _ (corr_le_of_worker c s _ w 2 hw (corrC_wakeC _) (fun k _ hne => ?_) ?_)
    · show corrW (upd (wakeAll s.wpc) w .unlock2 k) (s.st k) ≤ _
      rw [upd_ne _ _ hne]; exact corrW_wake _ _
    · show corrW (upd (wakeAll s.wpc) w .unlock2 w) (s.st w) ≤ _
      rw [upd_self]; cases s.st w <;> simp [corrW]

theorem corr_stepC (c : Cfg) (s s' : State) (h : Inv c s) (hs : stepC c s = some s') (hB : s.cpc ≠ .lockB) :
    corr c s' ≤ corr c s + (if futile c s 0 then 3 else 2) := by
  have weak : ∀ x, x ≤ corr c s + 2 → x ≤ corr c s + (if futile c s 0 then 3 else 2) := by
    intro x hx; split <;> omega
  -- the workers' part does not grow and the coordinator's grows by `e`
  have quiet : ∀ (e : Nat) (s' : State), (∀ k, k < c.n → corrW (s'.wpc k) (s'.st k) ≤ corrW (s.wpc k) (s.st k)) →
      corrC s'.cpc ≤ corrC s.cpc + e → corr c s' ≤ corr c s + e := fun e s' h2 h1 =>
    corr_le_of_pointwise c s s' e h1 h2
  have hloop : ∀ i b, corrC (loopHead c i b) = 0 := fun i b => by
    rcases loopHead_cases c i b with ⟨hq, _⟩ | ⟨hq, _⟩ <;> rw [hq] <;> rfl
  cases stepC_cases hs with
  | lockB hp _ => exact absurd hp hB
  | @create k hp =>
    have hc : corrC (if k + 1 < c.n then CPc.create (k+1) else loopHead c 0 false) = 0 := by
      split
      · rfl
      · exact hloop ..
    refine weak _ (Nat.le_trans (corr_le_of_worker c s _ k 1 (h.created k hp).1 (by dsimp only; rw [hc]; exact Nat.zero_le _)
      (fun w _ hne => ?_) ?_) (by omega))
    · show corrW (upd s.wpc k .lock1 w) (s.st w) ≤ _
      rw [upd_ne _ _ hne]; exact Nat.le_refl _
    · show corrW (upd s.wpc k .lock1 k) (s.st k) ≤ _
      rw [upd_self]; cases s.st k <;> simp [corrW]
  | lockA hp _ =>
    refine weak _ (Nat.le_trans (quiet 0 _ (fun k _ => ?_) (Nat.zero_le _)) (by omega))
    show corrW (s.wpc k) (if k < c.active s.blk then WSt.run else s.st k) ≤ _
    split
    · rw [corrW_run]; exact Nat.zero_le _
    · exact Nat.le_refl _
  | lockT hp _ =>
    refine weak _ (Nat.le_trans (quiet 0 _ (fun k hk => ?_) (Nat.zero_le _)) (by omega))
    show corrW (s.wpc k) (if k < c.n then WSt.term else s.st k) ≤ _
    rw [if_pos hk, corrW_term]; exact Nat.zero_le _
  | bcastA hp => exact weak _ (Nat.le_trans (quiet 0 _ (fun k _ => corrW_wake _ _) (Nat.zero_le _)) (by omega))
  | bcastT hp => exact weak _ (Nat.le_trans (quiet 0 _ (fun k _ => corrW_wake _ _) (Nat.zero_le _)) (by omega))
  | unlockA hp => exact weak _ (Nat.le_trans (quiet 0 _ (fun k _ => Nat.le_refl _) (Nat.zero_le _)) (by omega))
  | unlockT hp => exact weak _ (Nat.le_trans (quiet 0 _ (fun k _ => Nat.le_refl _) (Nat.zero_le _)) (by omega))
  | unlockB hp =>
    exact weak _ (Nat.le_trans (quiet 0 _ (fun k _ => Nat.le_refl _) (by dsimp only; rw [hloop]; exact Nat.zero_le _))
      (by omega))
  | @join k hp _ =>
    have hc : corrC (if k + 1 < c.n then CPc.join (k+1) else CPc.final) = 0 := by split <;> rfl
    exact weak _ (Nat.le_trans (quiet 0 _ (fun k _ => Nat.le_refl _) (by dsimp only; rw [hc]; exact Nat.zero_le _))
      (by omega))
  | condWait hp =>
    rw [(futile_zero_iff c s).mpr (Or.inl hp)]; exact quiet 3 _ (fun k _ => Nat.le_refl _) (by rw [hp]; exact Nat.le_refl _)
  | woken hp _ =>
    cases ha : allWait c s with
    | false =>
      rw [(futile_zero_iff c s).mpr (Or.inr ⟨hp, ha⟩)]; exact quiet 3 _ (fun k _ => Nat.le_refl _) (by rw [hp]; exact Nat.le_refl _)
    | true => exact weak _ (Nat.le_trans (quiet 0 _ (fun k _ => Nat.le_refl _) (Nat.zero_le _)) (by omega))

theorem prog_lockB (c : Cfg) (s s' : State) (hs : stepC c s = some s') (hB : s.cpc = .lockB) :
    prog c s' < prog c s := by
  simp only [stepC, hB] at hs; split at hs
  · injection hs with hs; subst hs
    simp only [prog, rank, corr, hB]
    split <;> simp only [rankC, corrC] <;> omega
  · cases hs

theorem prog_step (c : Cfg) (s s' : State) (t : Nat) (h : Inv c s) (hs : step? c s t = some s') :
    prog c s' ≤ prog c s ∧ (futile c s t = false → prog c s' < prog c s) := by
  have hr := rank_step c s s' t h hs
  cases t with
  | zero =>
    by_cases hB : s.cpc = .lockB
    · have := prog_lockB c s s' hs hB
      exact ⟨Nat.le_of_lt this, fun _ => this⟩
    · have hc := corr_stepC c s s' h hs hB
      simp only [prog]
      constructor
      · split at hc <;> omega
      · intro hf; rw [hf] at hc; simp at hc; omega
  | succ w =>
    have hc := corr_stepW c s s' w (step_succ hs).1 (step_succ hs).2
    simp only [prog]
    constructor
    · split at hc <;> omega
    · intro hf; rw [hf] at hc; simp at hc; omega

theorem prog_spur (c : Cfg) (s s' : State) (t : Nat) (hs : spur? c s t = some s') :
    prog c s' ≤ prog c s ∧ (∀ w, t = w+1 → s.st w ≠ .wait → prog c s' < prog c s) := by
  cases spur_cases hs with
  | coord hp => exact ⟨by simp only [prog, rank, corr, hp, rankC, corrC]; omega, nofun⟩
  | @worker w hw hp =>
    -- the account of `w` in a sum over the workers: `a` is paid, `b` is gained
    have acct : ∀ (f : WPc → WSt → Nat) (a b : Nat), f .woken (s.st w) + a ≤ f .waiting (s.st w) + b →
        wsum c.n f { s with wpc := upd s.wpc w .woken } + a ≤ wsum c.n f s + b := fun f a b hab =>
      le_of_account (wsum_upd c.n f hw rfl (upd_same s.st w).symm) (by rw [hp]; exact hab)
    simp only [prog, rank_eq, corr_eq]
    cases hst : s.st w with
    | wait =>
      have := acct (lw c.n) 0 2 (by rw [hst]; exact Nat.le_refl _)
      have := acct corrW 6 0 (by rw [hst]; exact Nat.le_refl _)
      exact ⟨by omega, fun w' hw' hne => absurd (by cases hw'; exact hst) hne⟩
    | run =>
      have := acct (lw c.n) 1 0 (by rw [hst]; simp only [lw]; omega)
      have := acct corrW 0 0 (by rw [hst]; exact Nat.le_refl _)
      exact ⟨by omega, fun _ _ _ => by omega⟩
    | term =>
      have := acct (lw c.n) 1 0 (by rw [hst]; exact Nat.le_refl _)
      have := acct corrW 0 0 (by rw [hst]; exact Nat.le_refl _)
      exact ⟨by omega, fun _ _ _ => by omega⟩

theorem pend_not_futile (c : Cfg) (s : State) (t : Nat) (h : Pend c s t) : futile c s t = false :=
  eq_false_of_ne_true fun hf => by
    cases t with
    | zero =>
      rcases (futile_zero_iff c s).mp hf with hp | ⟨hp, ha⟩ <;> rcases h with h | ⟨h1, h2⟩ | ⟨k, h1, _⟩
      · rw [hp] at h; cases h
      · rw [hp] at h1; cases h1
      · rw [hp] at h1; cases h1
      · rw [hp] at h; cases h
      · rw [ha] at h2; cases h2
      · rw [hp] at h1; cases h1
    | succ w =>
      obtain ⟨hst, hp⟩ := (futile_succ_iff c s w).mp hf
      rcases h.2 with ⟨h1, _⟩ | h1
      · exact h1 hst
      · rcases hp with hp | hp <;> rw [h1] at hp <;> cases hp

theorem neutral_step (c : Cfg) (s s' : State) (t : Nat) (h : Inv c s) (hs : step? c s t = some s')
    (hne : ¬ prog c s' < prog c s) : futile c s t = true :=
  eq_true_of_ne_false fun hf => hne ((prog_step c s s' t h hs).2 hf)

/-- what a transition of thread `u` from `s` to `s'` (`sp`: a spurious wake-up) leaves unchanged when it does not
    decrease `prog` -/
structure Neutral (c : Cfg) (s s' : State) (u : Nat) (sp : Bool) : Prop where
  st : s'.st = s.st
  blk : s'.blk = s.blk
  cpc : u ≠ 0 → s'.cpc = s.cpc
  wpc : ∀ k, u ≠ k + 1 → s'.wpc k = s.wpc k
  done : ∀ k, s.wpc k = .done → s'.wpc k = .done
  notPend : ¬ Pend c s u
  owner : if sp then s'.owner = s.owner else s.owner ≠ none → s'.owner = none

/-- A transition that does not decrease `prog` is a futile step or a spurious wake-up of a thread whose predicate is
    false. -/
theorem neutral_frame (c : Cfg) (s s' : State) (u : Nat) (sp : Bool) (hi : Inv c s)
    (hs : stepL c s (u, sp) = some s') (hne : ¬ prog c s' < prog c s) : Neutral c s s' u sp := by
  have keep : ∀ {w : Nat} {p : WPc} (q : WPc), s.wpc w = p → p ≠ .done →
      (∀ k, w + 1 ≠ k + 1 → upd s.wpc w q k = s.wpc k) ∧ ∀ k, s.wpc k = .done → upd s.wpc w q k = .done :=
    fun q hp hd => ⟨fun k hk => upd_ne _ _ fun e => hk (e ▸ rfl),
      fun k hk => (upd_ne _ _ fun e => hd (by rw [← hp, ← e, hk])).trans hk⟩
  cases sp with
  | false =>
    have hs : step? c s u = some s' := hs
    have hf := neutral_step c s s' u hi hs hne
    have hnp : ¬ Pend c s u := fun hp => by rw [pend_not_futile c s u hp] at hf; cases hf
    cases u with
    | zero =>
      rcases (futile_zero_iff c s).mp hf with hp | ⟨hp, _⟩ <;> simp only [step?, stepC, hp] at hs
      · cases hs
        exact ⟨rfl, rfl, nofun, fun _ _ => rfl, fun _ h => h, hnp, fun _ => rfl⟩
      · split at hs
        · cases hs
          exact ⟨rfl, rfl, nofun, fun _ _ => rfl, fun _ h => h, hnp, fun h => absurd ‹s.owner = none› h⟩
        · cases hs
    | succ w =>
      obtain ⟨hst, hp | hp⟩ := (futile_succ_iff c s w).mp hf <;> have hs := (step_succ hs).2 <;> simp only [stepW, hp, hst] at hs
      · cases hs
        obtain ⟨k1, k2⟩ := keep .waiting hp nofun
        exact ⟨rfl, rfl, fun _ => rfl, k1, k2, hnp, fun _ => rfl⟩
      · split at hs
        · cases hs
          obtain ⟨k1, k2⟩ := keep .hold hp nofun
          exact ⟨rfl, rfl, fun _ => rfl, k1, k2, hnp, fun h => absurd ‹s.owner = none› h⟩
        · cases hs
  | true =>
    have hs : spur? c s u = some s' := hs
    cases spur_cases hs with
    | coord hp =>
      refine ⟨rfl, rfl, nofun, fun _ _ => rfl, fun _ h => h, ?_, rfl⟩
      rintro (h | ⟨h, _⟩ | ⟨k, h, _⟩) <;> rw [hp] at h <;> cases h
    | @worker w _ hp =>
      have hst : s.st w = .wait :=
        Classical.byContradiction fun hst => hne ((prog_spur c s _ (w+1) hs).2 w rfl hst)
      obtain ⟨k1, k2⟩ := keep .woken hp nofun
      refine ⟨rfl, rfl, fun _ => rfl, k1, k2, ?_, rfl⟩
      rintro ⟨_, ⟨h, _⟩ | h⟩
      · exact h hst
      · rw [hp] at h; cases h

theorem pend_stable (c : Cfg) (s s' : State) (lab : Nat × Bool) (T : Nat) (hi : Inv c s)
    (hs : stepL c s lab = some s') (hne : ¬ prog c s' < prog c s) (hp : Pend c s T) : Pend c s' T := by
  have hf := neutral_frame c s s' lab.1 lab.2 hi hs hne
  have hT : lab.1 ≠ T := fun e => hf.notPend (e ▸ hp)
  cases T with
  | zero =>
    have ha : allWait c s' = allWait c s := by simp only [allWait, hf.st, hf.blk]
    simp only [Pend, hf.cpc hT, ha] at hp ⊢
    exact hp.imp_right (Or.imp_right fun ⟨k, hk1, hk2⟩ => ⟨k, hk1, hf.done k hk2⟩)
  | succ w => simp only [Pend, hf.st, hf.wpc w hT] at hp ⊢; exact hp

theorem antitone_le (f : Nat → Nat) (h : ∀ i, f (i+1) ≤ f i) (N : Nat) : ∀ k, f (N + k) ≤ f N := by
  intro k
  induction k with
  | zero => exact Nat.le_refl _
  | succ k ih => exact Nat.le_trans (h (N + k)) ih

theorem antitone_eventually_const (f : Nat → Nat) (h : ∀ i, f (i+1) ≤ f i) :
    ∃ N, ∀ i, N ≤ i → ¬ f (i+1) < f i := by
  have key : ∀ v N, f N ≤ v → ∃ M, ∀ i, M ≤ i → ¬ f (i+1) < f i := by
    intro v
    induction v with
    | zero =>
      intro N hN
      refine ⟨N, fun i hi hlt => ?_⟩
      have := antitone_le f h N (i - N)
      have e : N + (i - N) = i := by omega
      rw [e] at this
      omega
    | succ v ih =>
      intro N hN
      by_cases hex : ∃ i, N ≤ i ∧ f (i+1) < f i
      · obtain ⟨i, hi, hlt⟩ := hex
        have := antitone_le f h N (i - N)
        have e : N + (i - N) = i := by omega
        rw [e] at this
        exact ih (i+1) (by omega)
      · exact ⟨N, fun i hi hlt => hex ⟨i, hi, hlt⟩⟩
  exact key (f 0) 0 (Nat.le_refl _)

theorem Exec.prog_antitone {c : Cfg} (hn : 0 < c.n) (e : Exec c) (i : Nat) :
    prog c (e.st (i+1)) ≤ prog c (e.st i) :=
  (stepL_cases (e.next i)).elim (fun h => (prog_spur c _ _ _ h.2).1)
    fun h => (prog_step c _ _ _ (e.inv hn i) h.2).1

/-- **No strongly fair infinite execution** of the repaired protocol: in every infinite execution some thread is
    enabled infinitely often but performs only finitely many pthread calls. -/
theorem Exec.not_strongly_fair {c : Cfg} (hn : 0 < c.n) (hr : c.repaired = true) (e : Exec c)
    (hsf : ∀ t, t ≤ c.n → e.StrongFair t) : False := by
  obtain ⟨N, hN⟩ := antitone_eventually_const (fun i => prog c (e.st i)) (e.prog_antitone hn)
  have hinv := e.inv hn
  have hframe := fun i (hi : N ≤ i) => neutral_frame c _ _ (e.lab i).1 (e.lab i).2 (hinv i) (e.next i) (hN i hi)
  -- the mutex is free infinitely often
  have hfree : ∀ i, N ≤ i → ∃ j, i ≤ j ∧ (e.st j).owner = none := by
    intro i hi
    apply Classical.byContradiction
    intro hno
    have hown : ∀ j, i ≤ j → (e.st j).owner ≠ none := fun j hj ho => hno ⟨j, hj, ho⟩
    cases hoi : (e.st i).owner with
    | none => exact hown i (Nat.le_refl _) hoi
    | some t =>
      -- a pthread call would release the mutex, so only spurious wake-ups follow and the owner stays `t`
      have hspur : ∀ j, i ≤ j → (e.st j).owner = some t → (e.lab j).2 = true ∧ (e.st (j + 1)).owner = some t := by
        intro j hj ho
        have := (hframe j (by omega)).owner
        cases hsp : (e.lab j).2 <;> rw [hsp] at this
        · exact absurd (this (hown j hj)) (hown (j + 1) (by omega))
        · exact ⟨rfl, this.trans ho⟩
      have hconst : ∀ k, (e.st (i + k)).owner = some t := by
        intro k
        induction k with
        | zero => exact hoi
        | succ k ih => exact (hspur (i + k) (by omega) ih).2
      -- but the owner is enabled all the time, so fairness makes it take a step
      have hen := fun k => holder_enabled c (e.st (i + k)) (hinv (i + k)) t (hconst k)
      obtain ⟨j, hj, hlab⟩ := hsf t (hen 0).1 (fun M => ⟨i + M, by omega, (hen M).2⟩) i
      have := (hspur j hj (by rw [show j = i + (j - i) by omega]; exact hconst (j - i))).1
      rw [hlab] at this
      cases this
  -- some thread is pending at N, stays pending, is enabled whenever the mutex is free, and must eventually run
  obtain ⟨T, hT, hpend⟩ := pend_exists c (e.st N) (hinv N) hr (e.not_final hn N)
  have hstab : ∀ k, Pend c (e.st (N + k)) T := by
    intro k
    induction k with
    | zero => exact hpend
    | succ k ih => exact pend_stable c _ _ (e.lab (N + k)) T (hinv (N + k)) (e.next (N + k)) (hN (N + k) (by omega)) ih
  have hen : ∀ M, ∃ i, M ≤ i ∧ (step? c (e.st i) T).isSome = true := by
    intro M
    obtain ⟨j, hj, ho⟩ := hfree (N + M) (by omega)
    refine ⟨j, by omega, pend_enabled c _ T ?_ ho⟩
    rw [show j = N + (j - N) by omega]; exact hstab (j - N)
  -- when it runs, the transition is not neutral
  obtain ⟨j, hj, hlab⟩ := hsf T hT hen N
  have := (hframe j hj).notPend
  rw [hlab] at this
  exact this (by rw [show j = N + (j - N) by omega]; exact hstab (j - N))

end PsV.Sync
