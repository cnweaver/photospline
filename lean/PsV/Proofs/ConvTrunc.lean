import PsV.Proofs.ConvDivDiff
import PsV.Proofs.ConvSpec
/-!
# The Cox–de Boor pieces are divided differences of truncated powers; the kernel has unit area

`bpiece τ a n j` (the polynomial that `B_{j,n}(· | τ)` is on the knot interval `[τ_a, τ_{a+1})`, built by the
specification through the Cox–de Boor recursion on coefficient lists) evaluates to
`(τ_{j+n+1} − τ_j) · [τ_j, …, τ_{j+n+1}] (· − s)_+^n`, the truncated power taken piecewise:
on interval `a` the node `τ_m` contributes `(τ_m − s)^n` exactly when `m > a`.

`kernelArea y q = Σ_b ∫_{y_b}^{y_{b+1}} (kpiece y q b)` is `1` for every `q ≥ 1` and strictly increasing kernel
knots `y_0 < … < y_q`: piece `b` of the kernel is `q · [y_0..y_q] (· − t)_+^{q−1}` (taken piecewise), its
antiderivative in `t` is `−[y_0..y_q] (· − t)_+^q`, the pieces telescope over the knot intervals, and what is left
is `[y_0..y_q] (· − y_0)^q = 1`.

Between the two stands the tool that takes an integral of such pieces: the integral passes under the divided differences
(`pintegral_dd2`, also used by `ConvSpecSum`; `pintegral_dd` for a single difference).
-/
namespace PsV
open ConvSpec

/-- the piece on knot interval `a` of `m ↦ (τ_m − s)_+^n` -/
def truncPiece (τ : Nat → Rat) (a : Nat) (s : Rat) (n : Nat) (m : Nat) : Rat :=
  if a < m then (τ m - s)^n else 0

theorem truncPiece_succ (τ : Nat → Rat) (a : Nat) (s : Rat) (n m : Nat) :
    truncPiece τ a s (n+1) m = (τ m - s) * truncPiece τ a s n m := by
  unfold truncPiece
  split <;> ring

theorem bpiece_eq_dd (τ : Nat → Rat) (a : Nat) (s : Rat) : ∀ (n j : Nat), DistinctOn τ j (n+2) →
    peval (bpiece τ a n j) s = (τ (j+n+1) - τ j) * divdiff τ (truncPiece τ a s n) (n+2) j
  | 0, j, hd => by
    rw [dd_span τ _ 1 j hd, dd_one, dd_one]
    simp only [bpiece, truncPiece, pow_zero]
    rcases Nat.lt_trichotomy a j with h | h | h
    · rw [if_neg (by omega), if_pos (by omega), if_pos h, sub_self]; rfl
    · rw [if_pos h.symm, if_pos (by omega), if_neg (by omega), sub_zero, peval_cons, peval_nil, mul_zero, add_zero]
    · rw [if_neg (by omega), if_neg (by omega), if_neg (by omega), sub_self]; rfl
  | n+1, j, hd => by
    have hl : τ (j+n+1) - τ j ≠ 0 := sub_ne_zero.mpr (Ne.symm (hd j (j+n+1) (le_refl _) (by omega) (by omega)))
    have hr : τ (j+n+2) - τ (j+1) ≠ 0 := sub_ne_zero.mpr (Ne.symm (hd (j+1) (j+n+2) (by omega) (by omega) (by omega)))
    have ih0 := bpiece_eq_dd τ a s n j (hd.mono (le_refl _) (by omega))
    have ih1 := bpiece_eq_dd τ a s n (j+1) (hd.mono (by omega) (by omega))
    rw [show j + 1 + n + 1 = j + n + 2 by omega] at ih1
    unfold bpiece
    rw [peval_padd, peval_pmulLin, peval_pmulLin, ih0, ih1,
      show truncPiece τ a s (n+1) = fun m => (τ m - s) * truncPiece τ a s n m from
        funext fun m => truncPiece_succ τ a s n m,
      dd_leibniz_lin τ _ s (n+2) j hd]
    -- what is left is the recursion of the divided difference, with the two denominators cancelled
    have s2 := dd_span τ (truncPiece τ a s n) (n+2) j hd
    rw [show j + (n + 2) = j + n + 2 by omega] at s2 ⊢
    linear_combination ((s - τ j) * divdiff τ (truncPiece τ a s n) (n+2) j) * mul_inv_cancel₀ hl
      + ((τ (j+n+2) - s) * divdiff τ (truncPiece τ a s n) (n+2) (j+1)) * mul_inv_cancel₀ hr
      - (τ (j+n+2) - s) * s2

theorem kpiece_eval (y : Nat → Rat) (q' b : Nat) (t : Rat) (hd : DistinctOn y 0 (q'+2)) :
    peval (kpiece y (q'+1) b) t = ((q' : Rat) + 1) * divdiff y (truncPiece y b t q') (q'+2) 0 := by
  have hne : y (q'+1) - y 0 ≠ 0 :=
    sub_ne_zero.mpr (Ne.symm (hd 0 (q'+1) (le_refl _) (by omega) (by omega)))
  have h := bpiece_eq_dd y b t q' 0 hd
  rw [show 0 + q' + 1 = q' + 1 by omega] at h
  unfold kpiece
  rw [peval_pscale, show q' + 1 - 1 = q' from rfl, h, ← mul_assoc, div_mul_cancel₀ _ hne, Nat.cast_succ]

open Finset Polynomial

/-- the integral passes under the divided differences; the only place where these are written out as weighted sums
(`dd_eq_sum`) -/
theorem pintegral_dd2 (P : Poly) (n : Nat) (k : Nat → ℚ) (τ y : Nat → ℚ) (nx ny oy : Nat)
    (w : Nat → Nat → ℚ) (G : Nat → Nat → ℚ[X])
    (h : ∀ t, peval P t =
      ∑ j ∈ range n, k j * dd2 τ y (fun m r => w m r * (derivative (G m r)).eval t) nx j ny oy) (lo hi : ℚ) :
    pintegral P lo hi =
      ∑ j ∈ range n, k j * dd2 τ y (fun m r => w m r * ((G m r).eval hi - (G m r).eval lo)) nx j ny oy := by
  have key : ∀ g : Nat → Nat → ℚ, ∑ j ∈ range n, k j * dd2 τ y g nx j ny oy =
      ∑ i ∈ range n ×ˢ (range (n + nx) ×ˢ range (oy + ny)),
        (k i.1 * ddW τ nx i.1 i.2.1 * ddW y ny oy i.2.2) * g i.2.1 i.2.2 := by
    intro g
    rw [Finset.sum_product]
    refine Finset.sum_congr rfl fun j hj => ?_
    unfold dd2
    rw [dd_eq_sum τ _ nx j (n + nx) (by have := mem_range.mp hj; omega), Finset.mul_sum, Finset.sum_product]
    refine Finset.sum_congr rfl fun m _ => ?_
    rw [dd_eq_sum y _ ny oy (oy + ny) le_rfl, Finset.mul_sum, Finset.mul_sum]
    exact Finset.sum_congr rfl fun r _ => by ring
  rw [key, pintegral_eq_sum (range n ×ˢ (range (n + nx) ×ˢ range (oy + ny))) P
    (fun i => k i.1 * ddW τ nx i.1 i.2.1 * ddW y ny oy i.2.2 * w i.2.1 i.2.2) (fun i => G i.2.1 i.2.2)
    (fun t => by rw [h t, key]; exact Finset.sum_congr rfl fun i _ => by ring) lo hi]
  exact Finset.sum_congr rfl fun i _ => by ring

theorem pintegral_dd (P : Poly) (y : Nat → ℚ) (ny oy : Nat) (w : Nat → ℚ) (G : Nat → ℚ[X])
    (h : ∀ t, peval P t = divdiff y (fun r => w r * (derivative (G r)).eval t) ny oy) (lo hi : ℚ) :
    pintegral P lo hi = divdiff y (fun r => w r * ((G r).eval hi - (G r).eval lo)) ny oy := by
  -- one node on the left: `dd2 y y g 1 0 ny oy` is `divdiff y (g 0) ny oy` by unfolding
  have := pintegral_dd2 P 1 (fun _ => 1) y y 1 ny oy (fun _ r => w r) (fun _ r => G r)
    (fun t => by rw [sum_range_one, one_mul, h t]; rfl) lo hi
  rw [sum_range_one, one_mul] at this
  exact this

theorem kernelArea_eq_sum (y : Nat → Rat) (q : Nat) :
    kernelArea y q = ∑ b ∈ range q, pintegral (kpiece y q b) (y b) (y (b+1)) :=
  (foldl_range_sum id _ (fun b => pintegral (kpiece y q b) (y b) (y (b+1))) (fun _ _ => rfl) q 0).trans (zero_add _)

/-- `[y_0 .. y_{q'+1}] (· − t)_+^{q'+1}`, piece `b` -/
def areaG (y : Nat → Rat) (q' b : Nat) (t : Rat) : Rat :=
  divdiff y (truncPiece y b t (q'+1)) (q'+2) 0

theorem pintegral_kpiece (y : Nat → Rat) (q' b : Nat) (lo hi : Rat) (hd : DistinctOn y 0 (q'+2)) :
    pintegral (kpiece y (q'+1) b) lo hi = areaG y q' b lo - areaG y q' b hi := by
  -- `−(y_r − t)^{q'+1}` is an antiderivative in `t` of `(q'+1)(y_r − t)^{q'}`
  rw [pintegral_dd (kpiece y (q'+1) b) y (q'+2) 0 (fun r => if b < r then 1 else 0) (fun r => -(C (y r) - X)^(q'+1))
    (fun t => ?_) lo hi]
  · unfold areaG
    rw [← dd_sub]
    refine dd_congr y _ _ _ _ fun r _ _ => ?_
    unfold truncPiece
    by_cases h : b < r
    · simp only [if_pos h, eval_neg, eval_pow, eval_sub, eval_C, eval_X]; ring
    · simp only [if_neg h, zero_mul, sub_zero]
  · rw [kpiece_eval y q' b t hd, ← dd_smul]
    refine dd_congr y _ _ _ _ fun r _ _ => ?_
    unfold truncPiece
    by_cases h : b < r
    · simp only [if_pos h, derivative_neg, derivative_pow, derivative_sub, derivative_C, derivative_X, eval_neg, eval_mul,
        eval_C, eval_pow, eval_sub, eval_X, Nat.add_sub_cancel, eval_zero, eval_one]
      push_cast
      ring
    · simp only [if_neg h, zero_mul, mul_zero]

theorem areaG_step (y : Nat → Rat) (q' b : Nat) :
    areaG y q' b (y (b+1)) = areaG y q' (b+1) (y (b+1)) := by
  unfold areaG
  apply dd_congr
  intro r _ _
  unfold truncPiece
  by_cases h : r = b + 1
  · subst h; simp
  · by_cases h1 : b < r
    · rw [if_pos h1, if_pos (by omega)]
    · rw [if_neg h1, if_neg (by omega)]

theorem areaG_last (y : Nat → Rat) (q' : Nat) (t : Rat) : areaG y q' (q'+1) t = 0 := by
  unfold areaG
  rw [dd_congr y _ (fun _ => 0) (q'+2) 0, dd_zero_fun]
  intro r _ h
  exact if_neg (by omega)

theorem areaG_first (y : Nat → Rat) (q' : Nat) (hd : DistinctOn y 0 (q'+2)) :
    areaG y q' 0 (y 0) = 1 := by
  unfold areaG
  rw [dd_congr y _ (fun r => linProd (fun _ => y 0) (q'+1) (y r)) (q'+2) 0]
  · exact dd_linProd_one y (fun _ => y 0) (q'+1) 0 hd
  · intro r _ _
    rw [linProd_const]
    unfold truncPiece
    by_cases h : 0 < r
    · rw [if_pos h]
    · have : r = 0 := by omega
      subst this; simp

/-- unit area needs only pairwise distinct kernel knots, in whatever order -/
theorem kernelArea_of_distinct (y : Nat → Rat) (q' : Nat) (hd : DistinctOn y 0 (q'+2)) :
    ConvSpec.kernelArea y (q'+1) = 1 := by
  have h : ∀ b ∈ range (q'+1), pintegral (kpiece y (q'+1) b) (y b) (y (b+1)) =
      areaG y q' b (y b) - areaG y q' (b+1) (y (b+1)) := by
    intro b _
    rw [pintegral_kpiece y q' b _ _ hd, areaG_step]
  rw [kernelArea_eq_sum, Finset.sum_congr rfl h, Finset.sum_range_sub' (fun b => areaG y q' b (y b)) (q'+1),
    areaG_first y q' hd, areaG_last]
  exact sub_zero 1

theorem kernelArea_one (y : Nat → Rat) (q : Nat) (hq : 1 ≤ q)
    (hy : ∀ a b, a < b → b ≤ q → y a < y b) : ConvSpec.kernelArea y q = 1 := by
  obtain ⟨q', rfl⟩ : ∃ q', q = q' + 1 := ⟨q - 1, by omega⟩
  exact kernelArea_of_distinct y q' ((strictBelow_of_le hy).distinctOn (by omega))

end PsV
