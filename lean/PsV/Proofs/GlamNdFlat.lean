import PsV.Proofs.Glam
import PsV.Proofs.GlamNdDefs
/-!
# C09, n dimensions: the reshape of `F` / `R` into the normal matrix and the right-hand side

`glamRowMajor` is `Permute.flat`, a bijection between the valid index tuples of `ns` and `[0, natProd ns)`, and with
C-ordered strides `comps` is its inverse `Permute.digits` (`comps_spec`).  `flatten_ndarray_to_sparse` sends the entry with
row-major number `k` to cell `(k / ncol, k % ncol)`, where `accumulate` adds up what arrives (`flattenNd_get`).  For `R`
(one column) that is row `glamRowMajor ns idx`; for `F`, after "double the dimensionality" and "even axes first", the value
of the boxed tensor at `pairIdx ns ia ib = [ia_d·n_d + ib_d]` lands in entry `(glamRowMajor ns ia, glamRowMajor ns ib)`
(`pairIdx` is a bijection from pairs of valid tuples, and the boxed weights multiply: `matProd_box`).
-/
set_option linter.unusedSectionVars false
namespace PsV

section
variable {α : Type} [Field α] [LinearOrder α] [IsStrictOrderedRing α] [A : Arith α] [L : LawfulArith α]

theorem glamRowMajor_eq_flat (ns idx : List Nat) : glamRowMajor ns idx = Permute.flat ns idx := by
  induction ns generalizing idx with
  | nil => cases idx <;> rfl
  | cons n ns ih =>
    cases idx with
    | nil => rfl
    | cons i is => rw [glamRowMajor, Permute.flat, natProd_eq_prodL, ih]

theorem glamRowMajor_lt (ns idx : List Nat) (h : IdxIn idx ns) : glamRowMajor ns idx < natProd ns := by
  rw [glamRowMajor_eq_flat, natProd_eq_prodL]
  exact Permute.flat_lt idx ns h

theorem glamRowMajor_inj (ns idx idx' : List Nat) (h : IdxIn idx ns) (h' : IdxIn idx' ns)
    (he : glamRowMajor ns idx = glamRowMajor ns idx') : idx = idx' := by
  rw [glamRowMajor_eq_flat, glamRowMajor_eq_flat] at he
  rw [← Permute.digits_flat idx ns h, ← Permute.digits_flat idx' ns h', he]

theorem glamRowMajor_append (ns ms as bs : List Nat) (h : as.length = ns.length) :
    glamRowMajor (ns ++ ms) (as ++ bs) = glamRowMajor ns as * natProd ms + glamRowMajor ms bs := by
  rw [glamRowMajor_eq_flat, glamRowMajor_eq_flat, glamRowMajor_eq_flat, natProd_eq_prodL]
  exact Permute.flat_append ns ms as bs h

theorem comps_eq_digits {dims : List (Dim α)} (hs : StridesRowMajor dims) (i : Nat) :
    comps dims i = Permute.digits (dims.map (·.naxes)) i := by
  induction dims with
  | nil => rfl
  | cons d ds ih =>
    have h := hs.eq_rowMajor
    simp only [List.map_cons, Permute.rowMajor, List.cons.injEq] at h
    rw [show comps (d :: ds) i = (i / d.stride) % d.naxes :: comps ds i from rfl, ih hs.tail, List.map_cons,
      Permute.digits, h.1]

theorem comps_spec (dims : List (Dim α)) (hs : StridesRowMajor dims) (i : Nat)
    (hi : i < natProd (dims.map (·.naxes))) :
    IdxIn (comps dims i) (dims.map (·.naxes)) ∧ glamRowMajor (dims.map (·.naxes)) (comps dims i) = i := by
  rw [natProd_eq_prodL] at hi
  rw [comps_eq_digits hs, glamRowMajor_eq_flat]
  exact ⟨Permute.digits_inBox _ _ (by omega), Permute.flat_digits _ _ hi⟩

theorem accumulate_foldl_size (es : List (Nat × α)) (arr : Array α) :
    (es.foldl (fun arr e => if h : e.1 < arr.size then arr.set e.1 (A.add arr[e.1] e.2) else arr) arr).size
      = arr.size := by
  induction es generalizing arr with
  | nil => rfl
  | cons e es ih =>
    rw [List.foldl_cons, ih]
    split <;> simp

theorem accumulate_size (size : Nat) (es : List (Nat × α)) : (accumulate size es).size = size := by
  unfold accumulate
  rw [accumulate_foldl_size, Array.size_replicate]

theorem accumulate_foldl_get (es : List (Nat × α)) (arr : Array α) (k : Nat) (hk : k < arr.size) :
    (es.foldl (fun arr e => if h : e.1 < arr.size then arr.set e.1 (A.add arr[e.1] e.2) else arr) arr)[k]?.getD 0
      = arr[k]?.getD 0 + ((es.filter (fun e => e.1 = k)).map (·.2)).sum := by
  induction es generalizing arr with
  | nil => simp
  | cons e es ih =>
    rw [List.foldl_cons, ih]
    · by_cases hek : e.1 = k
      · have he : e.1 < arr.size := by omega
        simp only [List.filter_cons, hek, decide_true, if_true, List.map_cons, List.sum_cons]
        subst hek
        simp [L.add_eq, hk, add_assoc]
      · simp only [List.filter_cons, hek, decide_false, Bool.false_eq_true, if_false]
        congr 2
        split
        · rw [Array.getElem?_set]
          simp [hek]
        · rfl
    · split <;> simpa using hk

theorem accumulate_get (size : Nat) (es : List (Nat × α)) (k : Nat) (hk : k < size) :
    (accumulate size es)[k]?.getD 0 = ((es.filter (fun e => e.1 = k)).map (·.2)).sum := by
  unfold accumulate
  rw [accumulate_foldl_get _ _ _ (by simpa using hk)]
  simp [hk, L.zero_eq]

theorem accumulate_pos_get (es : List (List Nat × α)) (pos : List Nat → Nat) (size k : Nat) (hk : k < size)
    (idx0 : List Nat) (h : ∀ e ∈ es, pos e.1 = k ↔ e.1 = idx0) :
    (accumulate size (es.map fun e => (pos e.1, e.2)))[k]?.getD 0 = entSum es idx0 := by
  rw [accumulate_get _ _ _ hk]
  unfold entSum
  induction es with
  | nil => simp
  | cons e es ih =>
    have he := h e (by simp)
    have ih' := ih (fun a ha => h a (by simp [ha]))
    by_cases hp : pos e.1 = k
    · have h0 := he.mp hp
      simp only [List.map_cons, List.filter_cons, hp, decide_true, if_true, List.sum_cons]
      rw [ih', if_pos h0]
    · have h0 : ¬ e.1 = idx0 := fun hh => hp (he.mpr hh)
      simp only [List.map_cons, List.filter_cons, hp, decide_false, Bool.false_eq_true, if_false,
        List.sum_cons]
      rw [ih', if_neg h0, zero_add]

/-- `flatten_ndarray_to_sparse`: the entry with row-major number `k` goes to cell `(k / ncol, k % ncol)` (the model's position
`(k / ncol) * ncol + k % ncol` is `k`), so that cell holds the sum of the entries numbered `k`; `f` re-indexes the entries
(the reshape of `F`; the identity for `R`) -/
theorem flattenNd_get (R : List Nat) (es : List (List Nat × α)) (f : List Nat → List Nat) (nrow ncol k : Nat)
    (hk : k < nrow * ncol) (idx0 : List Nat) (h : ∀ e ∈ es, glamRowMajor R (f e.1) = k ↔ e.1 = idx0) :
    (flattenNd ⟨R, es.map fun e => (f e.1, e.2)⟩ nrow ncol).get (k / ncol) (k % ncol) = entSum es idx0 := by
  have hc : 0 < ncol := Nat.pos_of_ne_zero fun h0 => by rw [h0] at hk; exact absurd hk (Nat.not_lt_zero _)
  unfold flattenNd
  rw [tab2_get_mk _ _ _ _ _ ((Nat.div_lt_iff_lt_mul hc).mpr hk) (Nat.mod_lt _ hc), Nat.div_add_mod', List.map_map]
  exact accumulate_pos_get es (fun q => glamRowMajor R (f q) / ncol * ncol + glamRowMajor R (f q) % ncol) _ k hk idx0
    (fun e he => by rw [Nat.div_add_mod']; exact h e he)

theorem flattenNd_R_get (R : NdSparse α) (ns : List Nat) (hr : R.ranges = ns) (hwf : R.WF)
    (idx : List Nat) (hidx : IdxIn idx ns) :
    (flattenNd R (natProd ns) 1).get (glamRowMajor ns idx) 0 = R.get idx := by
  subst hr
  have key := flattenNd_get R.ranges R.entries id (natProd R.ranges) 1 (glamRowMajor R.ranges idx)
    (by rw [Nat.mul_one]; exact glamRowMajor_lt _ idx hidx) idx
    (fun e he => ⟨glamRowMajor_inj _ e.1 idx (hwf e he) hidx, fun h => by rw [h]; rfl⟩)
  have hid : (R.entries.map fun e => (id e.1, e.2)) = R.entries :=
    (List.map_congr_left fun _ _ => rfl).trans (List.map_id _)
  rw [Nat.div_one, Nat.mod_one, hid] at key
  rw [get_eq_entSum]
  exact key

theorem zipIdx_flatMap_pair_parity {β γ : Type} (f g : γ → β) (l : List γ) (m : Nat) :
    (((l.flatMap fun x => [f x, g x]).zipIdx (2 * m)).filter fun p => p.2 % 2 == 0).map (·.1) = l.map f ∧
    (((l.flatMap fun x => [f x, g x]).zipIdx (2 * m)).filter fun p => p.2 % 2 == 1).map (·.1) = l.map g := by
  induction l generalizing m with
  | nil => simp
  | cons x xs ih =>
    have h0 : (2 * m) % 2 = 0 := Nat.mul_mod_right 2 m
    have h1 : (2 * m + 1) % 2 = 1 := Nat.mul_add_mod 2 m 1
    have h2 : 2 * m + 1 + 1 = 2 * (m + 1) := rfl
    simp only [List.flatMap_cons, List.cons_append, List.nil_append, List.zipIdx_cons, List.filter_cons,
      h0, h1, h2, beq_self_eq_true, if_true, List.map_cons]
    simp [ih (m + 1)]

theorem evensFirst_flatMap_pair {β γ : Type} (f g : γ → β) (l : List γ) :
    evensFirst (l.flatMap fun x => [f x, g x]) = l.map f ++ l.map g := by
  unfold evensFirst
  obtain ⟨h0, h1⟩ := zipIdx_flatMap_pair_parity f g l 0
  rw [Nat.mul_zero] at h0 h1
  simp only [h0, h1]

theorem evensFirst_pair {β : Type} (a b : β) : evensFirst [a, b] = [a, b] := rfl

theorem evensFirst_dup (ns : List Nat) : evensFirst (ns.flatMap fun n => [n, n]) = ns ++ ns := by
  have := evensFirst_flatMap_pair (fun n : Nat => n) (fun n : Nat => n) ns
  simpa using this

theorem evensFirst_doubleDims (ns q : List Nat) :
    evensFirst (doubleDims ns q)
      = ((q.zip ns).map fun qn => qn.1 / qn.2) ++ ((q.zip ns).map fun qn => qn.1 % qn.2) := by
  unfold doubleDims
  exact evensFirst_flatMap_pair (fun qn : Nat × Nat => qn.1 / qn.2) (fun qn : Nat × Nat => qn.1 % qn.2) (q.zip ns)

theorem pairIdx_div_mod (ns q : List Nat) (h : IdxIn q (ns.map fun n => n * n)) :
    IdxIn ((q.zip ns).map fun qn => qn.1 / qn.2) ns ∧ IdxIn ((q.zip ns).map fun qn => qn.1 % qn.2) ns ∧
      pairIdx ns ((q.zip ns).map fun qn => qn.1 / qn.2) ((q.zip ns).map fun qn => qn.1 % qn.2) = q := by
  induction ns generalizing q with
  | nil =>
    rw [List.map_nil, idxIn_nil_right] at h
    subst h
    simp [pairIdx, idxIn_nil_right]
  | cons n ns ih =>
    cases q with
    | nil => exact absurd h.1 (by simp)
    | cons a q =>
      rw [List.map_cons, idxIn_cons] at h
      obtain ⟨h1, h2, h3⟩ := ih q h.2
      have hn : 0 < n := by
        rcases Nat.eq_zero_or_pos n with h0 | h0
        · have := h.1; rw [h0] at this; simp at this
        · exact h0
      simp only [List.zip_cons_cons, List.map_cons, idxIn_cons, pairIdx]
      refine ⟨⟨(Nat.div_lt_iff_lt_mul hn).mpr h.1, h1⟩, ⟨Nat.mod_lt _ hn, h2⟩, ?_⟩
      rw [h3, Nat.div_add_mod']

theorem div_mod_pairIdx (ns ia ib : List Nat) (ha : IdxIn ia ns) (hb : IdxIn ib ns) :
    ((pairIdx ns ia ib).zip ns).map (fun qn => qn.1 / qn.2) = ia ∧
      ((pairIdx ns ia ib).zip ns).map (fun qn => qn.1 % qn.2) = ib := by
  induction ns generalizing ia ib with
  | nil =>
    rw [idxIn_nil_right] at ha hb
    subst ha; subst hb
    simp [pairIdx]
  | cons n ns ih =>
    cases ia with
    | nil => exact absurd ha.1 (by simp)
    | cons a ia =>
      cases ib with
      | nil => exact absurd hb.1 (by simp)
      | cons b ib =>
        rw [idxIn_cons] at ha hb
        obtain ⟨h1, h2⟩ := ih ia ib ha.2 hb.2
        simp only [pairIdx, List.zip_cons_cons, List.map_cons, Permute.mul_add_div a hb.1, Nat.mul_add_mod_of_lt hb.1, h1, h2,
          and_self]

theorem matProd_box (bs : List (Mat α)) (e ia ib : List Nat) (ha : ia.length = bs.length)
    (hb : IdxIn ib (bs.map fun b => b.ncol)) :
    matProd (bs.map fun b => box b b) e (pairIdx (bs.map fun b => b.ncol) ia ib)
      = matProd bs e ia * matProd bs e ib := by
  induction bs generalizing e ia ib with
  | nil =>
    have : ib = [] := by simpa [idxIn_nil_right] using hb
    subst this
    have : ia = [] := by simpa using ha
    subst this
    cases e <;> simp [matProd, pairIdx]
  | cons b bs ih =>
    cases ib with
    | nil => exact absurd hb.1 (by simp)
    | cons b0 ib' =>
      rw [List.map_cons, idxIn_cons] at hb
      cases ia with
      | nil => simp at ha
      | cons a0 ia' =>
        cases e with
        | nil => simp only [List.map_cons, pairIdx, matProd, mul_zero]
        | cons e0 e' =>
          simp only [List.map_cons, pairIdx, matProd]
          rw [ih e' ia' ib' (by simpa using ha) hb.2]
          simp only [box, Permute.mul_add_div a0 hb.1, Nat.mul_add_mod_of_lt hb.1, L.mul_eq]
          ring

theorem idxIn_pairIdx (ns ia ib : List Nat) (ha : IdxIn ia ns) (hb : IdxIn ib ns) :
    IdxIn (pairIdx ns ia ib) (ns.map fun n => n * n) := by
  induction ns generalizing ia ib with
  | nil =>
    have h1 : ia = [] := by simpa [idxIn_nil_right] using ha
    have h2 : ib = [] := by simpa [idxIn_nil_right] using hb
    subst h1; subst h2
    exact (idxIn_nil_right _).2 rfl
  | cons n ns ih =>
    cases ia with
    | nil => exact absurd ha.1 (by simp)
    | cons a0 ia' =>
      cases ib with
      | nil => exact absurd hb.1 (by simp)
      | cons b0 ib' =>
        rw [idxIn_cons] at ha hb
        simp only [pairIdx, List.map_cons]
        rw [idxIn_cons]
        exact ⟨Permute.mul_add_lt ha.1 hb.1, ih ia' ib' ha.2 hb.2⟩

/-- doubling the dimensions of F, moving the even axes first and flattening to N×N: entry
(row-major number of ia, row-major number of ib) holds the value of the boxed tensor at [ia_d·n_d + ib_d] -/
theorem flattenNd_F_get_nd (F : NdSparse α) (ns : List Nat) (hr : F.ranges = ns.map (fun n => n * n)) (hwf : F.WF)
    (ia ib : List Nat) (ha : IdxIn ia ns) (hb : IdxIn ib ns) :
    (flattenNd ⟨evensFirst (ns.flatMap fun n => [n, n]),
        F.entries.map fun e => (evensFirst (doubleDims ns e.1), e.2)⟩ (natProd ns) (natProd ns)).get
        (glamRowMajor ns ia) (glamRowMajor ns ib)
      = F.get (pairIdx ns ia ib) := by
  have hA := glamRowMajor_lt ns ia ha
  have hB := glamRowMajor_lt ns ib hb
  have key := flattenNd_get (evensFirst (ns.flatMap fun n => [n, n])) F.entries (fun q => evensFirst (doubleDims ns q))
    (natProd ns) (natProd ns) (glamRowMajor ns ia * natProd ns + glamRowMajor ns ib) (Permute.mul_add_lt hA hB)
    (pairIdx ns ia ib) (by
      intro e he
      have hv := hwf e he
      rw [hr] at hv
      obtain ⟨h1, h2, h3⟩ := pairIdx_div_mod ns e.1 hv
      obtain ⟨p1, p2⟩ := div_mod_pairIdx ns ia ib ha hb
      rw [evensFirst_dup, evensFirst_doubleDims, glamRowMajor_append ns ns _ _ h1.1]
      constructor
      · intro h
        obtain ⟨e1, e2⟩ := Permute.mul_add_inj (glamRowMajor_lt ns _ h2) hB h
        have q1 := glamRowMajor_inj ns _ ia h1 ha e1
        have q2 := glamRowMajor_inj ns _ ib h2 hb e2
        rw [← h3, q1, q2]
      · intro h
        rw [h, p1, p2])
  rw [Permute.mul_add_div _ hB, Nat.mul_add_mod_of_lt hB] at key
  rw [get_eq_entSum]
  exact key

end
end PsV
