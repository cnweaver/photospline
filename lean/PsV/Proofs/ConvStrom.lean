import PsV.Proofs.ConvTransfer
import PsV.Proofs.ConvDim
import PsV.Proofs.ConvBeta
import PsV.Proofs.ConvSpecSum
/-!
Strøm's identity: the blossom transfer matrix computes the true convolution.  The specification's integral in closed
form (`conv1_closed`: double divided differences of truncated powers) and the transfer matrix against the new basis
(`trafo_sum_closed`) are the same expression (`strom_core`: on one polynomial piece of the new knot list, at every `x` of
its closed interval).  `convolve_slices` reads this for every one-dimensional slice along `dim` of the table that
`PsV.convolve` returns; `convolve_slices_spec` puts the shared Cox–de Boor specification `PsV.Bsel` (the right- or
left-continuous convention of C01) in place of the polynomial piece, at every point of the new knot range.
-/
namespace PsV
open Finset

theorem conv1_closed (τ : Nat → ℚ) (nknots p naxes : Nat) (c : Nat → ℚ) (y : Nat → ℚ) (q' : Nat) (x : ℚ)
    (hn : naxes + p + 1 = nknots)
    (hτ : ∀ a b, a < b → b < nknots → τ a < τ b)
    (hy : ∀ a b, a < b → b ≤ q' + 1 → y a < y b)
    (hx : τ 0 + y 0 ≤ x) :
    ConvSpec.conv1 τ nknots p naxes c y (q'+1) x =
      ∑ j ∈ range naxes, c j * ((τ (j+p+1) - τ j) * (((q':ℚ) + 1) * ((p.factorial : ℚ) * q'.factorial / (p + q' + 1).factorial)) *
        dd2 τ y (fun m r => pospow (τ m + y r - x) (p + q' + 1)) (p+2) j (q'+2) 0) := by
  rw [conv1_as_dd2 τ nknots p naxes c y q' x hn hτ hy (fun m r => betaPhi p q' (x - τ m) (y r))
    (fun m r t => betaPhi_deriv p q' (x - τ m) (y r) t)]
  apply Finset.sum_congr rfl
  intro j hj
  rw [mem_range] at hj
  rw [tileSum_dd2 τ y p q' j x (StrictBelow.mono hτ (by omega)) (strictBelow_of_le hy) hx]
  ring

/-- the specification's convolution integral of the basis function `j` alone -/
def convKernel (τ : Nat → ℚ) (nknots p naxes : Nat) (y : Nat → ℚ) (q : Nat) (x : ℚ) (j : Nat) : ℚ :=
  ConvSpec.conv1 τ nknots p naxes (fun i => if i = j then 1 else 0) y q x

/-- linearity in the coefficients, read off the closed form `conv1_as_dd2`, where `c` stands outside; it lets the integral
pass under the contraction over the other dimensions in `ConvNd` -/
theorem conv1_eq_sum_kernel (τ : Nat → ℚ) (nknots p naxes : Nat) (y : Nat → ℚ) (q' : Nat) (x : ℚ)
    (hn : naxes + p + 1 = nknots) (hτ : StrictBelow τ nknots) (hy : StrictBelow y (q'+2)) (c : Nat → ℚ) :
    ConvSpec.conv1 τ nknots p naxes c y (q'+1) x =
      ∑ j ∈ range naxes, c j * convKernel τ nknots p naxes y (q'+1) x j := by
  have h := fun c => conv1_as_dd2 τ nknots p naxes c y q' x hn hτ hy.to_le (fun m r => betaPhi p q' (x - τ m) (y r))
    (fun m r t => betaPhi_deriv p q' (x - τ m) (y r) t)
  rw [h c]
  refine Finset.sum_congr rfl fun j hj => ?_
  unfold convKernel
  rw [h]
  simp only [ite_mul, one_mul, zero_mul]
  rw [Finset.sum_ite_eq' (range naxes) j, if_pos hj]

theorem cut_eq_pospow (s x lo hi : ℚ) (n : Nat) (hn : 1 ≤ n) (hlt : lo < hi) (h1 : lo ≤ x) (h2 : x ≤ hi)
    (hs : s ≤ lo ∨ hi ≤ s) :
    (if hi ≤ s then (s - x)^n else 0) = pospow (s - x) n := by
  unfold pospow
  rcases hs with h | h
  · rw [if_neg (by linarith), if_neg (by linarith)]
  · rw [if_pos h]
    by_cases hx : 0 < s - x
    · rw [if_pos hx]
    · rw [if_neg hx, show s - x = 0 by linarith, zero_pow (by omega)]

theorem strom_core (knots ck rho : List ℚ) (p q' naxes : Nat) (c : Nat → ℚ) (left : Nat) (t : Int → ℚ) (x norm : ℚ)
    (hck : ck.length = q' + 2) (hn : naxes + p + 1 = knots.length)
    (hτ : ∀ a b, a < b → b < knots.length → getK knots a < getK knots b)
    (hy : ∀ a b, a < b → b < ck.length → getK ck a < getK ck b)
    (hsorted : rho.Pairwise (· ≤ ·))
    (hmem : ∀ a b, a < knots.length → b < ck.length → getK knots a + getK ck b ∈ rho)
    (hlow : getK knots 0 + getK ck 0 ≤ getK rho 0)
    (hleft : left + 1 < rho.length) (hne : getK rho left < getK rho (left+1))
    (hx1 : getK rho left ≤ x) (hx2 : x ≤ getK rho (left+1))
    (ht : ∀ i : Nat, i < rho.length → t (i : Int) = getK rho i)
    (hnorm : norm = (((q'+1).factorial * p.factorial : Nat) : ℚ) / (((p + 1 + (q'+1) - 1).factorial : Nat) : ℚ)) :
    ∑ i ∈ range (rho.length - (p + (q'+1)) - 1),
        (∑ j ∈ range naxes, trafoEntry knots ck rho (p+1) (q'+1) norm i j * c j) * Bp t x (left : Int) (p + (q'+1)) (i : Int)
      = ConvSpec.conv1 (getK knots) knots.length p naxes c (getK ck) (q'+1) x := by
  have hx0 : getK knots 0 + getK ck 0 ≤ x :=
    le_trans hlow (le_trans (getK_mono rho hsorted 0 left (by omega) (by omega)) hx1)
  rw [conv1_closed (getK knots) knots.length p naxes c (getK ck) q' x hn hτ
    (fun a b hab hb => hy a b hab (by omega)) hx0]
  have : ∀ i ∈ range (rho.length - (p + (q'+1)) - 1),
      (∑ j ∈ range naxes, trafoEntry knots ck rho (p+1) (q'+1) norm i j * c j) * Bp t x (left : Int) (p + (q'+1)) (i : Int) =
      ∑ j ∈ range naxes, c j * (trafoEntry knots ck rho (p+1) (q'+1) norm i j * Bp t x (left : Int) (p + (q'+1)) (i : Int)) :=
    fun i _ => by
      rw [Finset.sum_mul]
      exact Finset.sum_congr rfl fun j _ => by rw [mul_comm _ (c j), mul_assoc]
  rw [Finset.sum_congr rfl this, Finset.sum_comm]
  apply Finset.sum_congr rfl
  intro j hj
  rw [mem_range] at hj
  rw [← Finset.mul_sum,
    trafo_sum_closed knots ck rho p (q'+1) norm j left t x hck (by omega) hτ hy hsorted hmem hleft hne ht]
  congr 1
  -- on the interval the cut power is the truncated power: no node lies inside it
  rw [dd2_congr (getK knots) (getK ck) _ (fun m r => pospow (getK knots m + getK ck r - x) (p + (q' + 1))) (p+2) j (q'+1+1) 0
    (fun a b _ _ _ _ => cut_eq_pospow _ x _ _ (p + (q' + 1)) (by omega) hne hx1 hx2
      (node_side rho hsorted left hleft _ (hmem a b (by omega) (by omega)))), hnorm]
  have hN : (((q' + 1).factorial * p.factorial : ℕ) : ℚ) / ((p + 1 + (q' + 1) - 1).factorial : ℕ) =
      ((q' : ℚ) + 1) * ((p.factorial : ℚ) * q'.factorial / (p + q' + 1).factorial) := by
    rw [show p + 1 + (q' + 1) - 1 = p + q' + 1 by omega, Nat.factorial_succ]; push_cast; ring
  rw [hN, mul_left_comm, ← mul_assoc]
  rfl

theorem convolve_slices (T : CTable Rat) (dim : Nat) (ck : List Rat) (d : CDim Rat)
    (hd : T.dims[dim]? = some d) (hk : d.knots.length = d.nknots) (hnax : d.naxes + d.order + 1 = d.nknots)
    (hτ : d.knots.Pairwise (· < ·)) (hy : ck.Pairwise (· < ·)) (hq : 2 ≤ ck.length)
    (h12 : d.order + ck.length - 1 ≤ 12) :
    ∃ R d', convolve T dim ck = some R ∧ R.dims[dim]? = some d' ∧
      d'.knots = sortKnots (pairSums d.knots ck) ∧ d'.order = d.order + ck.length - 1 ∧
      d'.naxes = d'.knots.length - d'.order - 1 ∧ d'.nknots = d'.knots.length ∧
      ∀ i k, i < prodL ((T.dims.map (·.naxes)).take dim) → k < prodL ((T.dims.map (·.naxes)).drop (dim+1)) →
      ∀ (t : Int → Rat), (∀ z : Nat, z < d'.knots.length → t (z : Int) = getK d'.knots z) →
      ∀ (left : Nat) (x : Rat), left + 1 < d'.knots.length → getK d'.knots left < getK d'.knots (left+1) →
        getK d'.knots left ≤ x → x ≤ getK d'.knots (left+1) →
        ∑ l ∈ range d'.naxes,
            R.coef.getD (i * prodL ((T.dims.map (·.naxes)).drop (dim+1)) * d'.naxes
              + l * prodL ((T.dims.map (·.naxes)).drop (dim+1)) + k) 0 * Bp t x (left : Int) d'.order (l : Int)
          = ConvSpec.conv1 (getK d.knots) d.nknots d.order d.naxes
              (fun j => T.coef.getD (i * prodL ((T.dims.map (·.naxes)).drop (dim+1)) * d.naxes
                + j * prodL ((T.dims.map (·.naxes)).drop (dim+1)) + k) 0)
              (getK ck) (ck.length - 1) x := by
  obtain ⟨q', hq'⟩ : ∃ q', ck.length = q' + 2 := ⟨ck.length - 2, by omega⟩
  have e1 : ck.length - 1 = q' + 1 := by omega
  have e2 : d.order + ck.length - 1 = d.order + (q' + 1) := by omega
  have hn : d.naxes + d.order + 1 = d.knots.length := by omega
  have hnorm := convNorm_eq (d.order+1) (q'+1) (by omega) (by omega)
  obtain ⟨R, hR⟩ := convolve_some T dim ck d hd
  obtain ⟨-, -, -, -, d', hd', hkn, hord, hna, hnk, hcoef⟩ := convolve_result T dim ck d R hd hk hR
  refine ⟨R, d', hR, hd', hkn, hord, hna, hnk, ?_⟩
  intro i k hi hk' t ht left x hleft hne hx1 hx2
  rw [Finset.sum_congr rfl fun l hl => by rw [hcoef i l k hi (mem_range.mp hl) hk'], hna, hord, e1, e2, ← hk]
  rw [hkn] at ht hleft hne hx1 hx2 ⊢
  have hpos : 0 < (sortKnots (pairSums d.knots ck)).length := Nat.zero_lt_of_lt hleft
  exact strom_core d.knots ck _ d.order q' d.naxes _ left t x _ hq' hn
    hτ.strictBelow hy.strictBelow
    (sortKnots_sorted _)
    (fun a b ha hb => ((sortKnots_perm _).mem_iff).mpr (mem_pairSums d.knots ck a b ha hb))
    (pairSums_lower d.knots ck hτ hy _ (((sortKnots_perm _).mem_iff).mp
      (by rw [getK_eq _ 0 hpos]; exact List.getElem_mem hpos)))
    hleft hne hx1 hx2 ht
    hnorm

/-- the smallest pairwise sum `τ_0 + y_0` occurs once: the first two knots of the new knot vector differ -/
theorem rho_first_lt (ks cks rho : List Rat) (hk : ks.Pairwise (· < ·)) (hc : cks.Pairwise (· < ·))
    (hperm : rho.Perm (pairSums ks cks)) (hs : rho.Pairwise (· ≤ ·)) (h2 : 2 ≤ rho.length) :
    getK rho 0 < getK rho 1 := by
  match ks, cks, hk, hc, hperm with
  | [], _, _, _, hperm =>
    have : rho.length = 0 := by rw [hperm.length_eq]; simp [pairSums]
    omega
  | a :: ks', [], _, _, hperm =>
    have : rho.length = 0 := by rw [hperm.length_eq]; simp [pairSums]
    omega
  | a :: ks', b :: cs', hk, hc, hperm =>
    obtain ⟨rest, hform, hrest⟩ := pairSums_head_lt a ks' b cs' hk hc
    rw [hform] at hperm
    match rho, hperm, hs, h2 with
    | r0 :: r1 :: rho'', hperm, hs, _ =>
      have hs0 := List.pairwise_cons.mp hs
      have hmem0 : a + b ∈ r0 :: r1 :: rho'' := hperm.mem_iff.mpr (List.mem_cons_self)
      have hr0 : r0 ≤ a + b := by
        rcases List.mem_cons.mp hmem0 with h | h
        · rw [h]
        · exact hs0.1 _ h
      have hr0' : a + b ≤ r0 := by
        have : r0 ∈ (a + b) :: _ := hperm.mem_iff.mp (List.mem_cons_self)
        rcases List.mem_cons.mp this with h | h
        · rw [h]
        · exact le_of_lt (hrest r0 h)
      have e0 : r0 = a + b := le_antisymm hr0 hr0'
      rw [e0] at hperm
      show r0 < r1
      rw [e0]
      exact hrest r1 (hperm.cons_inv.mem_iff.mp List.mem_cons_self)

/-- the new knot vector (`nk·n` knots, order `p+n-1`) carries at least one basis function -/
theorem new_naxes (nk n p : Nat) (hq : 2 ≤ n) (hp : p + 2 ≤ nk) :
    nk * n - (p + n - 1) - 1 + (p + n - 1) + 1 = nk * n ∧ 1 ≤ nk * n - (p + n - 1) - 1 := by
  have h1 : 2 * nk ≤ nk * n := by rw [Nat.mul_comm 2]; exact Nat.mul_le_mul_left _ hq
  have h2 : 2 * n ≤ nk * n := Nat.mul_le_mul_right _ (by omega)
  omega

theorem convolve_slices_spec (T : CTable Rat) (dim : Nat) (ck : List Rat) (d : CDim Rat)
    (hd : T.dims[dim]? = some d) (hk : d.knots.length = d.nknots) (hnax : d.naxes + d.order + 1 = d.nknots)
    (hn1 : 1 ≤ d.naxes)
    (hτ : d.knots.Pairwise (· < ·)) (hy : ck.Pairwise (· < ·)) (hq : 2 ≤ ck.length)
    (h12 : d.order + ck.length - 1 ≤ 12) :
    ∃ R d', convolve T dim ck = some R ∧ R.dims[dim]? = some d' ∧
      d'.knots = sortKnots (pairSums d.knots ck) ∧ d'.order = d.order + ck.length - 1 ∧
      d'.nknots = d'.knots.length ∧ d'.naxes + d'.order + 1 = d'.nknots ∧ 1 ≤ d'.naxes ∧
      ∀ i k, i < prodL ((T.dims.map (·.naxes)).take dim) → k < prodL ((T.dims.map (·.naxes)).drop (dim+1)) →
      ∀ (x : Rat), getK d'.knots 0 ≤ x → x ≤ getK d'.knots (d'.nknots - 1) →
        ∑ l ∈ range d'.naxes,
            R.coef.getD (i * prodL ((T.dims.map (·.naxes)).drop (dim+1)) * d'.naxes
              + l * prodL ((T.dims.map (·.naxes)).drop (dim+1)) + k) 0 * Bsel (ConvSpec.toDim d') x 0 l
          = ConvSpec.conv1 (getK d.knots) d.nknots d.order d.naxes
              (fun j => T.coef.getD (i * prodL ((T.dims.map (·.naxes)).drop (dim+1)) * d.naxes
                + j * prodL ((T.dims.map (·.naxes)).drop (dim+1)) + k) 0)
              (getK ck) (ck.length - 1) x := by
  obtain ⟨R, d', hR, hd', hkn, hord, hna, hnk, hmain⟩ := convolve_slices T dim ck d hd hk hnax hτ hy hq h12
  have hlen : d'.knots.length = d.nknots * ck.length := by
    rw [hkn, (sortKnots_perm _).length_eq, pairSums_length, hk]
  obtain ⟨hA1, hA2⟩ := new_naxes d.nknots ck.length d.order hq (by omega)
  have hnax' : d'.naxes + d'.order + 1 = d'.nknots := by rw [hna, hnk, hord, hlen]; exact hA1
  have hn1' : 1 ≤ d'.naxes := by rw [hna, hord, hlen]; exact hA2
  refine ⟨R, d', hR, hd', hkn, hord, hnk, hnax', hn1', ?_⟩
  intro i k hi hk' x hx1 hx2
  have hs : d'.knots.Pairwise (· ≤ ·) := by rw [hkn]; exact sortKnots_sorted _
  have h01 : getK d'.knots 0 < getK d'.knots 1 :=
    rho_first_lt d.knots ck d'.knots hτ hy (by rw [hkn]; exact sortKnots_perm _) hs (by omega)
  obtain ⟨left, hl1, hl2, hl3, hl4, hB⟩ := Bsel_eq_Bp d' x hnk.symm hnax' hs hn1' h01 hx1 hx2
  exact (Finset.sum_congr rfl fun l hl => by rw [hB l (mem_range.mp hl)]).trans
    (hmain i k hi hk' (ConvSpec.toDim d').knots (fun z _ => toDim_knots_nat d' z) left x (by omega) hl2 hl3 hl4)

end PsV
