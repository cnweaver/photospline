import PsV.Model.FitsCodec
import PsV.Model.FitsLayout
import PsV.Proofs.FitsText
/-!
# One 80-column card of the FITS byte codec: what `fmtCard` writes and that `parseCard` reads it back

`CardRT c` is what the file-level round trip (`PsV/Proofs/FitsCodec.lean`) needs from a card.  The three record forms
of the standard are `PlainOK` (value card), `StringOK` (string card) and the commentary form.  A form gives what
`fmtCard` writes (`PlainOK.fmt`, `StringOK.fmt`); with `HeaderText` it is a `PlainCard` / `StringCard`, which
`parseCard` reads back.  Each class of cards is shown to be such a card once; `CardRT` (`FitsBridge`) and the
documented record (`FitsLayout`) are both read off that.  A concrete card is settled by deciding `FixedForm`.

The model writes keywords as `"…".toList`.  Before one is computed with, `simp -index only [String.toList_ofList]`
turns it into the list of its characters (evaluating `String.toList` of a literal by unfolding is slow);
`keyOK_chars` and `structComment_fixed` do the same for the literals inside `KeyOK` and `structComment`.
-/
namespace PsV.Fits.Codec

theorem trimRight_nil : trimRight [] = [] := rfl

theorem trimRight_of_noBlank (s : Str) (h : ∀ c ∈ s, c ≠ ' ') : trimRight s = s := by
  cases hl : s.getLast? with
  | none => rw [List.getLast?_eq_none_iff.mp hl]; rfl
  | some c => exact trimRight_of_last s c hl (h c (List.mem_of_getLast? hl))

theorem trimRight_append_noBlank (p s : Str) (hne : s ≠ []) (h : ∀ c ∈ s, c ≠ ' ') :
    trimRight (p ++ s) = p ++ s := by
  cases hl : s.getLast? with
  | none => exact absurd (List.getLast?_eq_none_iff.mp hl) hne
  | some c =>
    exact trimRight_of_last _ c (by rw [List.getLast?_append, hl]; rfl) (h c (List.mem_of_getLast? hl))

theorem padTo_length (n : Nat) (s : Str) (h : s.length ≤ n) : (padTo n s).length = n := by
  simp only [padTo, List.length_append, List.length_replicate]; omega

theorem padTo_take (n : Nat) (s : Str) (h : s.length ≤ n) : (padTo n s).take n = padTo n s :=
  List.take_of_length_le (by rw [padTo_length n s h]; exact Nat.le_refl _)

theorem trimRight_padTo (n : Nat) (key : Str) (h : ∀ c ∈ key, c ≠ ' ') : trimRight (padTo n key) = key := by
  unfold padTo; rw [trimRight_append_blanks]; exact trimRight_of_noBlank key h

theorem parseComment_blanks_append (k : Nat) (t : Str) :
    parseComment (List.replicate k ' ' ++ t) = parseComment t := by
  unfold parseComment
  rw [dropWhile_replicate_append]

theorem parseComment_blanks (m : Nat) : parseComment (List.replicate m ' ') = [] := by
  have := parseComment_blanks_append m []
  rwa [List.append_nil] at this

theorem parseComment_slash (r : Str) : parseComment (' ' :: '/' :: ' ' :: r) = trimRight r := by
  simp [parseComment]

/-- all characters are single bytes -/
def Lat (s : Str) : Prop := ∀ c ∈ s, c.toNat < 256

instance (s : Str) : Decidable (Lat s) := inferInstanceAs (Decidable (∀ c ∈ s, c.toNat < 256))

theorem chr_byt (c : Char) (h : c.toNat < 256) : chr (byt c) = c := by
  simp only [chr, byt, UInt8.toNat_ofNat']
  rw [Nat.mod_eq_of_lt (by simpa using h)]
  exact Char.ofNat_toNat c

theorem map_chr_map_byt (s : Str) (h : Lat s) : (s.map byt).map chr = s := by
  induction s with
  | nil => rfl
  | cons c r ih =>
    simp only [List.map_cons, chr_byt c (h c (by simp)), ih (fun d hd => h d (by simp [hd]))]

theorem Lat.append {a b : Str} (ha : Lat a) (hb : Lat b) : Lat (a ++ b) := by
  intro c hc; rcases List.mem_append.mp hc with h | h
  · exact ha c h
  · exact hb c h

theorem Lat.blanks (k : Nat) : Lat (List.replicate k ' ') := by
  intro c hc; rw [List.mem_replicate] at hc; rw [hc.2]; decide

theorem Lat.take {a : Str} (ha : Lat a) (n : Nat) : Lat (a.take n) :=
  fun c hc => ha c (List.mem_of_mem_take hc)

theorem Lat.padTo {a : Str} (ha : Lat a) (n : Nat) : Lat (padTo n a) := ha.append (Lat.blanks _)

theorem Lat.ite {p : Prop} [Decidable p] {a b : Str} (ha : Lat a) (hb : Lat b) : Lat (if p then a else b) := by
  split
  · exact ha
  · exact hb

theorem digits_props : ∀ c ∈ digits, c ≠ ' ' ∧ c ≠ '/' ∧ c ≠ '\'' ∧ c ≠ '-' ∧ c.toNat < 256 := by decide

theorem Lat.of_digits {s : Str} (h : ∀ c ∈ s, c ∈ digits) : Lat s :=
  fun c hc => (digits_props c (h c hc)).2.2.2.2

theorem mem_digits_cons {s : Str} (h : ∀ c ∈ s, c ∈ digits) : ∀ c ∈ s, c ∈ '-' :: digits :=
  fun c hc => List.mem_cons_of_mem _ (h c hc)

theorem Lat.of_signed {s : Str} (h : ∀ c ∈ s, c ∈ '-' :: digits) : Lat s :=
  fun c hc => (by decide : ∀ c ∈ '-' :: digits, c.toNat < 256) c (h c hc)

theorem fmtCard_length (c : Card) : (fmtCard c).length = 80 := by
  unfold fmtCard
  split <;> (simp only [List.length_take, padTo, List.length_append, List.length_replicate]; omega)

theorem Lat.fmtCard {c : Card} (hk : Lat c.key) (hv : Lat c.val) (hc : Lat c.com) : Lat (fmtCard c) := by
  have hlit : ∀ l : Str, (∀ c ∈ l, c.toNat < 256) → Lat l := fun _ h => h
  unfold Fits.fmtCard
  split
  · exact ((hk.padTo 8).append hc).padTo 80 |>.take 80
  · have hv' : Lat (if c.val.head? = some '\'' then (if c.com = [] then c.val else Fits.padTo 20 c.val)
             else List.replicate (20 - c.val.length) ' ' ++ c.val) :=
      Lat.ite (Lat.ite hv (hv.padTo 20)) ((Lat.blanks _).append hv)
    have hb := ((hk.padTo 8).append (hlit ['=', ' '] (by decide))).append hv'
    exact (Lat.ite hb ((hb.append (hlit [' ', '/', ' '] (by decide))).append hc)).padTo 80 |>.take 80

theorem fmtCard_plain (key val com : Str) (hk : isCommentary key = false) (hk8 : key.length ≤ 8)
    (hq : val.head? ≠ some '\'')
    (hfit : 10 + max 20 val.length + (if com = [] then 0 else 3 + com.length) ≤ 80) :
    fmtCard ⟨key, val, com⟩ = padTo 80 (padTo 8 key ++ ['=', ' '] ++ (List.replicate (20 - val.length) ' ' ++ val)
      ++ (if com = [] then [] else [' ', '/', ' '] ++ com)) := by
  have hl := padTo_length 8 key hk8
  unfold fmtCard
  simp only [hk, Bool.false_eq_true, if_false, if_neg hq]
  by_cases hc : com = []
  · simp only [if_pos hc, List.append_nil] at hfit ⊢
    exact padTo_take 80 _ (by
      simp only [List.length_append, hl, List.length_replicate, List.length_cons, List.length_nil]; omega)
  · simp only [if_neg hc] at hfit ⊢
    rw [List.append_assoc (padTo 8 key ++ ['=', ' '] ++ _)]
    exact padTo_take 80 _ (by
      simp only [List.length_append, hl, List.length_replicate, List.length_cons, List.length_nil]; omega)

theorem fmtCard_quoted (key val com : Str) (hk : isCommentary key = false) (hk8 : key.length ≤ 8)
    (hq : val.head? = some '\'')
    (hfit : if com = [] then 10 + val.length ≤ 80 else 10 + max 20 val.length + 3 + com.length ≤ 80) :
    fmtCard ⟨key, val, com⟩ = padTo 80 (if com = [] then padTo 8 key ++ ['=', ' '] ++ val
      else padTo 8 key ++ ['=', ' '] ++ (val ++ List.replicate (20 - val.length) ' ') ++ [' ', '/', ' '] ++ com) := by
  have hl := padTo_length 8 key hk8
  unfold fmtCard
  simp only [hk, Bool.false_eq_true, if_false, if_pos hq]
  by_cases hc : com = []
  · simp only [if_pos hc] at hfit ⊢
    exact padTo_take 80 _ (by simp only [List.length_append, hl, List.length_cons, List.length_nil]; omega)
  · simp only [if_neg hc] at hfit ⊢
    exact padTo_take 80 _ (by
      simp only [List.length_append, padTo, List.length_replicate, List.length_cons, List.length_nil]; omega)

/-- a keyword that `parseCard` treats as an ordinary value keyword -/
structure KeyOK (key : Str) : Prop where
  len : key.length ≤ 8
  noBlank : ∀ c ∈ key, c ≠ ' '
  notCommentary : isCommentary key = false
  notHier : key ≠ "HIERARCH".toList
  notCont : key ≠ "CONTINUE".toList

/-- `KeyOK` with its keywords as character lists; the instance below decides through it -/
theorem keyOK_chars (key : Str) : KeyOK key ↔ key.length ≤ 8 ∧ (∀ c ∈ key, c ≠ ' ') ∧
    key ≠ ['C', 'O', 'M', 'M', 'E', 'N', 'T'] ∧ key ≠ ['H', 'I', 'S', 'T', 'O', 'R', 'Y'] ∧ key ≠ [] ∧
    key ≠ ['H', 'I', 'E', 'R', 'A', 'R', 'C', 'H'] ∧ key ≠ ['C', 'O', 'N', 'T', 'I', 'N', 'U', 'E'] := by
  have h : KeyOK key ↔ (key.length ≤ 8 ∧ (∀ c ∈ key, c ≠ ' ') ∧ isCommentary key = false ∧ key ≠ "HIERARCH".toList
      ∧ key ≠ "CONTINUE".toList) :=
    ⟨fun h => ⟨h.len, h.noBlank, h.notCommentary, h.notHier, h.notCont⟩, fun ⟨a, b, c, d, e⟩ => ⟨a, b, c, d, e⟩⟩
  rw [h, isCommentary]
  simp -index only [String.toList_ofList]
  simp only [Bool.or_eq_false_iff, beq_eq_false_iff_ne, ne_eq, and_assoc]

instance (key : Str) : Decidable (KeyOK key) := decidable_of_iff _ (keyOK_chars key).symm

/-- a keyword under which a value card can be written and read back: an ordinary value keyword, not `END` (which would
end the header), single bytes only -/
structure HdrKey (key : Str) : Prop where
  ok : KeyOK key
  notEnd : key ≠ "END".toList
  lat : Lat key

instance (key : Str) : Decidable (HdrKey key) :=
  decidable_of_iff (KeyOK key ∧ key ≠ "END".toList ∧ Lat key) ⟨fun ⟨a, b, c⟩ => ⟨a, b, c⟩, fun ⟨a, b, c⟩ => ⟨a, b, c⟩⟩

/-- `PREFIXn` (`keyN`): a prefix whose first letter tells it from `COMMENT`, `HISTORY`, `HIERARCH`, `CONTINUE`, `END`,
    and a running number of at most `k` digits -/
theorem hdrKey_keyN (b : String) (k i : Nat) (hk : 1 ≤ k) (hi : i < 10 ^ k)
    (hb : b.toList.length + k ≤ 8 ∧ (∀ c ∈ b.toList, c ≠ ' ' ∧ c.toNat < 256) ∧
      ∀ q ∈ [none, some 'C', some 'H', some 'E'], b.toList.head? ≠ q) : HdrKey (keyN b i) := by
  rw [keyN]
  generalize b.toList = s at hb
  obtain ⟨hlen, hch, hq⟩ := hb
  match s, hlen, hch, hq with
  | [], _, _, hq => exact absurd rfl (hq none (.head _))
  | p :: ps, hlen, hch, hq =>
    have hp : p ≠ 'C' ∧ p ≠ 'H' ∧ p ≠ 'E' :=
      ⟨fun e => hq _ (.tail _ (.head _)) (e ▸ rfl), fun e => hq _ (.tail _ (.tail _ (.head _))) (e ▸ rfl),
        fun e => hq _ (.tail _ (.tail _ (.tail _ (.head _)))) (e ▸ rfl)⟩
    have hl := natStr_length i k hk hi
    have hall : ∀ c ∈ p :: ps ++ natStr i, c ≠ ' ' ∧ c.toNat < 256 := fun c hc =>
      (List.mem_append.mp hc).elim (hch c) fun hc =>
        ⟨(digits_props c (natStr_mem i c hc)).1, (digits_props c (natStr_mem i c hc)).2.2.2.2⟩
    have hne : ∀ (q : Char) (w : Str), p ≠ q → p :: ps ++ natStr i ≠ q :: w :=
      fun q w hq h => hq (List.cons.inj h).1
    refine ⟨⟨by rw [List.length_append]; omega, fun c hc => (hall c hc).1, ?_, ?_, ?_⟩, ?_,
      fun c hc => (hall c hc).2⟩
    · rw [isCommentary]
      simp -index only [String.toList_ofList]
      rw [beq_eq_false_iff_ne.mpr (hne _ _ hp.1), beq_eq_false_iff_ne.mpr (hne _ _ hp.2.1)]
      rfl
    · simp -index only [String.toList_ofList]; exact hne _ _ hp.2.1
    · simp -index only [String.toList_ofList]; exact hne _ _ hp.1
    · simp -index only [String.toList_ofList]; exact hne _ _ hp.2.2

/-- what the file-level theorem needs from every card -/
structure CardRT (c : Card) : Prop where
  rt : parseCard (fmtCard c) = some c
  notEnd : c.key ≠ "END".toList
  lat : Lat (fmtCard c)

theorem endCard_length : endCard.length = 80 := by decide
theorem endCard_lat : Lat endCard := by decide
theorem parseCard_endCard : parseCard endCard = some ⟨"END".toList, [], []⟩ := by decide +kernel

theorem CardRT.ne_end {c : Card} (h : CardRT c) : fmtCard c ≠ endCard := by
  intro he
  have h1 := h.rt
  rw [he, parseCard_endCard] at h1
  injection h1 with h1
  exact h.notEnd (by rw [← h1])

/-- the card can stand in a header as text: its keyword is not `END` (which would close the header) and all its
    characters are single bytes.  With a form (`PlainOK`, `StringOK`) this is all that `CardRT` asks. -/
def HeaderText (c : Card) : Prop := c.key ≠ "END".toList ∧ Lat c.key ∧ Lat c.val ∧ Lat c.com

instance (c : Card) : Decidable (HeaderText c) := inferInstanceAs (Decidable (_ ∧ _ ∧ _ ∧ _))

theorem take8_padTo (key X : Str) (h : key.length ≤ 8) : (padTo 8 key ++ X).take 8 = padTo 8 key :=
  List.take_left' (padTo_length 8 key h)

theorem drop8_padTo (key X : Str) (h : key.length ≤ 8) : (padTo 8 key ++ X).drop 8 = X :=
  List.drop_left' (padTo_length 8 key h)

theorem any_blank_false (key : Str) (h : ∀ c ∈ key, c ≠ ' ') : key.any (fun c => decide (c = ' ')) = false := by
  simp only [List.any_eq_false, decide_eq_true_eq]; exact h

theorem takeWhile_dropWhile_append (p : Char → Bool) (a b : Str) (ha : ∀ c ∈ a, p c = true)
    (hb : b = [] ∨ ∃ d t, b = d :: t ∧ p d = false) :
    (a ++ b).takeWhile p = a ∧ (a ++ b).dropWhile p = b := by
  rw [List.takeWhile_append_of_pos ha, List.dropWhile_append_of_pos ha]
  rcases hb with rfl | ⟨d, t, rfl, hd⟩
  · exact ⟨List.append_nil a, rfl⟩
  · rw [List.takeWhile_cons_of_neg (Bool.eq_false_iff.mp hd), List.dropWhile_cons_of_neg (Bool.eq_false_iff.mp hd)]
    exact ⟨List.append_nil a, rfl⟩

/-- what may follow a value in a card: nothing, or text that starts with a blank -/
def BlankStart (t : Str) : Prop := t = [] ∨ ∃ u, t = ' ' :: u

theorem BlankStart.blanks (m : Nat) : BlankStart (List.replicate m ' ') := by
  cases m with
  | zero => exact Or.inl rfl
  | succ m => exact Or.inr ⟨_, List.replicate_succ⟩

theorem BlankStart.blanks_cons (k : Nat) (t : Str) : BlankStart (List.replicate k ' ' ++ ' ' :: t) := by
  cases k with
  | zero => exact Or.inr ⟨t, rfl⟩
  | succ k => exact Or.inr ⟨_, by rw [List.replicate_succ, List.cons_append]⟩

theorem parseCard_plain_shape (key val tail : Str) (k : Nat) (hk : KeyOK key)
    (hv : val ≠ []) (hvc : ∀ c ∈ val, c ≠ ' ' ∧ c ≠ '/') (hvq : val.head? ≠ some '\'')
    (ht : BlankStart tail) :
    parseCard (padTo 8 key ++ '=' :: ' ' :: (List.replicate k ' ' ++ (val ++ tail)))
      = some ⟨key, val, parseComment tail⟩ := by
  unfold parseCard
  simp only [take8_padTo _ _ hk.len, drop8_padTo _ _ hk.len, trimRight_padTo 8 key hk.noBlank]
  simp only [hk.notHier, hk.notCont, any_blank_false key hk.noBlank, hk.notCommentary]
  simp only [List.take_succ_cons, List.take_zero, bne_self_eq_false, Bool.or_self, List.drop_succ_cons, List.drop_zero,
    dropWhile_replicate_append k]
  match val, hv with
  | c0 :: vs, _ =>
    have h0 := hvc c0 (by simp)
    have hq : c0 ≠ '\'' := by intro h; subst h; simp at hvq
    have hp : ∀ c ∈ c0 :: vs, (c != ' ' && c != '/') = true := by
      intro c hc; have := hvc c hc; simp [this.1, this.2]
    have htl : tail = [] ∨ ∃ d t, tail = d :: t ∧ (d != ' ' && d != '/') = false := by
      rcases ht with h | ⟨t, h⟩
      · exact Or.inl h
      · exact Or.inr ⟨' ', t, h, by simp⟩
    have hsplit := takeWhile_dropWhile_append _ (c0 :: vs) tail hp htl
    have hbody : List.dropWhile (fun x => decide (x = ' ')) (c0 :: (vs ++ tail)) = c0 :: (vs ++ tail) := by
      simp [h0.1]
    rw [List.cons_append] at hsplit
    simp only [List.cons_append, hbody, Bool.false_eq_true, if_false, or_self]
    split
    · rename_i heq; cases heq
    · rename_i heq; injection heq with a b; exact absurd a hq
    · rename_i heq; injection heq with a b; exact absurd a h0.2
    · rw [hsplit.1, hsplit.2]

/-- a fixed-format card whose value is a plain token (integer, logical, ...) -/
structure PlainOK (c : Card) : Prop where
  key : KeyOK c.key
  valNe : c.val ≠ []
  valChars : ∀ ch ∈ c.val, ch ≠ ' ' ∧ ch ≠ '/'
  valNoQuote : c.val.head? ≠ some '\''
  comTrim : trimRight c.com = c.com
  fits : 10 + max 20 c.val.length + (if c.com = [] then 0 else 3 + c.com.length) ≤ 80

theorem parseCard_fmtCard_plain (c : Card) (h : PlainOK c) : parseCard (fmtCard c) = some c := by
  obtain ⟨key, val, com⟩ := c
  obtain ⟨hk, hne, hvc, hvq, hct, hfit⟩ := h
  rw [fmtCard_plain key val com hk.notCommentary hk.len hvq hfit, padTo]
  generalize 80 - _ = m
  by_cases hcom : com = []
  · simp only [if_pos hcom, List.append_assoc, List.cons_append, List.nil_append]
    rw [parseCard_plain_shape key val _ _ hk hne hvc hvq (.blanks m), parseComment_blanks, hcom]
  · simp only [if_neg hcom, List.append_assoc, List.cons_append, List.nil_append]
    rw [parseCard_plain_shape key val _ _ hk hne hvc hvq (Or.inr ⟨_, rfl⟩), parseComment_slash,
      trimRight_append_blanks, hct]

theorem plainOK_iff (c : Card) : PlainOK c ↔ KeyOK c.key ∧ c.val ≠ [] ∧ (∀ ch ∈ c.val, ch ≠ ' ' ∧ ch ≠ '/') ∧
    c.val.head? ≠ some '\'' ∧ trimRight c.com = c.com ∧
    10 + max 20 c.val.length + (if c.com = [] then 0 else 3 + c.com.length) ≤ 80 :=
  ⟨fun h => ⟨h.key, h.valNe, h.valChars, h.valNoQuote, h.comTrim, h.fits⟩, fun ⟨a, b, c, d, e, f⟩ => ⟨a, b, c, d, e, f⟩⟩

instance (c : Card) : Decidable (PlainOK c) := decidable_of_iff _ (plainOK_iff c).symm

theorem PlainOK.fmt {c : Card} (h : PlainOK c) : fmtCard c = Layout.valueCard c.key c.val c.com :=
  fmtCard_plain c.key c.val c.com h.key.notCommentary h.key.len h.valNoQuote h.fits

/-- a value card that can stand in a header.  Every class of value cards is shown to be this, once; that
    `parseCard` reads it back (`PlainCard.cardRT`) and what `fmtCard` writes (`PlainOK.fmt` of the first part) are
    read off it. -/
def PlainCard (c : Card) : Prop := PlainOK c ∧ HeaderText c

theorem PlainCard.cardRT {c : Card} (h : PlainCard c) : CardRT c :=
  ⟨parseCard_fmtCard_plain c h.1, h.2.1, Lat.fmtCard h.2.2.1 h.2.2.2.1 h.2.2.2.2⟩

/-- every apostrophe of a quoted-string body is doubled (what `ffs2c` produces) -/
def quotesDoubled : Str → Bool
  | [] => true
  | '\'' :: '\'' :: r => quotesDoubled r
  | '\'' :: _ => false
  | _ :: r => quotesDoubled r

theorem scanQuoted_doubled (tail : Str) (ht : BlankStart tail) (body : Str) :
    quotesDoubled body = true → scanQuoted (body ++ '\'' :: tail) = some (body ++ ['\''], tail) := by
  fun_induction quotesDoubled body with
  | case1 => rcases ht with rfl | ⟨t, rfl⟩ <;> exact fun _ => rfl
  | case2 r ih => exact fun h => by simp only [List.cons_append, scanQuoted, ih h, Option.map_some]
  | case3 r hr => exact fun h => nomatch h
  | case4 c r h1 h2 ih =>
    intro h
    rw [List.cons_append, scanQuoted.eq_4 _ _ (fun _ hc => absurd hc h2) h2, ih h]
    rfl

theorem quotesDoubled_of_noQuote (body : Str) (h : ∀ c ∈ body, c ≠ '\'') : quotesDoubled body = true := by
  fun_induction quotesDoubled body with
  | case1 => rfl
  | case2 r ih => exact absurd rfl (h '\'' List.mem_cons_self)
  | case3 r hr => exact absurd rfl (h '\'' List.mem_cons_self)
  | case4 c r h1 h2 ih => exact ih fun d hd => h d (List.mem_cons_of_mem _ hd)

theorem parseCard_string_shape (key body tail : Str) (hk : KeyOK key) (hb : quotesDoubled body = true)
    (ht : BlankStart tail) :
    parseCard (padTo 8 key ++ '=' :: ' ' :: '\'' :: (body ++ '\'' :: tail))
      = some ⟨key, '\'' :: (body ++ ['\'']), parseComment tail⟩ := by
  unfold parseCard
  simp only [take8_padTo _ _ hk.len, drop8_padTo _ _ hk.len, trimRight_padTo 8 key hk.noBlank]
  simp only [hk.notHier, hk.notCont, any_blank_false key hk.noBlank, hk.notCommentary]
  have hbody : List.dropWhile (fun x => decide (x = ' ')) ('\'' :: (body ++ '\'' :: tail))
      = '\'' :: (body ++ '\'' :: tail) := by simp
  simp only [List.take_succ_cons, List.take_zero, bne_self_eq_false, Bool.or_self, List.drop_succ_cons,
    List.drop_zero, hbody, Bool.false_eq_true, if_false, or_self, scanQuoted_doubled tail ht body hb]

/-- a fixed-format string card: quoted value whose apostrophes are all doubled (`quotesDoubled_of_noQuote` for
    a body without apostrophes), optional comment -/
structure StringOK (c : Card) (body : Str) : Prop where
  key : KeyOK c.key
  val : c.val = '\'' :: (body ++ ['\''])
  doubled : quotesDoubled body = true
  comTrim : trimRight c.com = c.com
  fits : if c.com = [] then 10 + c.val.length ≤ 80 else 10 + max 20 c.val.length + 3 + c.com.length ≤ 80

theorem stringOK_iff (c : Card) (body : Str) : StringOK c body ↔ KeyOK c.key ∧ c.val = '\'' :: (body ++ ['\'']) ∧
    quotesDoubled body = true ∧ trimRight c.com = c.com ∧
    (if c.com = [] then 10 + c.val.length ≤ 80 else 10 + max 20 c.val.length + 3 + c.com.length ≤ 80) :=
  ⟨fun h => ⟨h.key, h.val, h.doubled, h.comTrim, h.fits⟩, fun ⟨a, b, c, d, e⟩ => ⟨a, b, c, d, e⟩⟩

instance (c : Card) (body : Str) : Decidable (StringOK c body) := decidable_of_iff _ (stringOK_iff c body).symm

/-- the text of a string card: the quoted value from column 11, padded to column 30 when a comment follows -/
theorem StringOK.fmt {c : Card} {body : Str} (h : StringOK c body) :
    fmtCard c = padTo 80 (if c.com = [] then padTo 8 c.key ++ ['=', ' '] ++ c.val
      else padTo 8 c.key ++ ['=', ' '] ++ (c.val ++ List.replicate (20 - c.val.length) ' ') ++ [' ', '/', ' '] ++ c.com) :=
  fmtCard_quoted c.key c.val c.com h.key.notCommentary h.key.len (by rw [h.val]; rfl) h.fits

theorem parseCard_fmtCard_string (c : Card) (body : Str) (h : StringOK c body) : parseCard (fmtCard c) = some c := by
  obtain ⟨key, val, com⟩ := c
  obtain ⟨hk, hval, hb, hct, hfit⟩ := h
  subst hval
  rw [fmtCard_quoted key _ com hk.notCommentary hk.len rfl hfit, padTo]
  generalize 80 - _ = m
  by_cases hcom : com = []
  · simp only [if_pos hcom, List.append_assoc, List.cons_append, List.nil_append]
    rw [parseCard_string_shape key body _ hk hb (.blanks m), parseComment_blanks, hcom]
  · simp only [if_neg hcom, List.append_assoc, List.cons_append, List.nil_append]
    rw [parseCard_string_shape key body _ hk hb (.blanks_cons _ _), parseComment_blanks_append,
      parseComment_slash, trimRight_append_blanks, hct]

/-- the same for a string card whose value is `'body'` -/
def StringCard (c : Card) (body : Str) : Prop := StringOK c body ∧ HeaderText c

theorem StringCard.cardRT {c : Card} {body : Str} (h : StringCard c body) : CardRT c :=
  ⟨parseCard_fmtCard_string c body h.1, h.2.1, Lat.fmtCard h.2.2.1 h.2.2.2.1 h.2.2.2.2⟩

/-- the third form: a commentary card is its keyword field and free text from column 9 -/
theorem fmtCard_commentary (key com : Str) (hk : isCommentary key = true) (h8 : key.length ≤ 8)
    (hl : com.length ≤ 72) : fmtCard ⟨key, [], com⟩ = padTo 80 (padTo 8 key ++ com) := by
  unfold fmtCard
  simp only [hk, if_true]
  exact padTo_take 80 _ (by simp only [List.length_append, padTo_length 8 key h8]; omega)

/-- commentary cards (`COMMENT`, `HISTORY`, blank keyword): free text in columns 9-80 -/
theorem cardRT_commentary (key com : Str) (hk : isCommentary key = true) (hc : trimRight com = com)
    (hcl : com.length ≤ 72) (hclat : Lat com) : CardRT ⟨key, [], com⟩ := by
  have hkeys : key = "COMMENT".toList ∨ key = "HISTORY".toList ∨ key = [] := by
    simpa [isCommentary, or_assoc] using hk
  have hfacts : key.length ≤ 8 ∧ trimRight (padTo 8 key) = key ∧ key ≠ "HIERARCH".toList ∧ key ≠ "CONTINUE".toList
      ∧ key.any (· = ' ') = false ∧ key ≠ "END".toList ∧ Lat key := by
    rcases hkeys with rfl | rfl | rfl <;> decide +kernel
  obtain ⟨h8, htr, hh, hcn, hany, hend, hlat⟩ := hfacts
  refine ⟨?_, hend, Lat.fmtCard hlat (fun _ h => by simp at h) hclat⟩
  rw [fmtCard_commentary key com hk h8 hcl, padTo, List.append_assoc]
  unfold parseCard
  simp only [take8_padTo _ _ h8, drop8_padTo _ _ h8, htr, hh, hcn, hany, hk, Bool.true_or, if_true,
    trimRight_append_blanks, hc]
  simp

instance (c : Card) : Decidable (PlainCard c) := inferInstanceAs (Decidable (_ ∧ _))
instance (c : Card) (body : Str) : Decidable (StringCard c body) := inferInstanceAs (Decidable (_ ∧ _))

/-- **The three card forms of the standard** as one decidable test on keyword, value and comment: a value card, a
    string card (body = the value without its two quotes), or a commentary card -/
def FixedForm (c : Card) : Prop :=
  PlainCard c ∨ StringCard c (c.val.drop 1).dropLast ∨
    (isCommentary c.key = true ∧ c.val = [] ∧ trimRight c.com = c.com ∧ c.com.length ≤ 72 ∧ Lat c.com)

instance (c : Card) : Decidable (FixedForm c) := inferInstanceAs (Decidable (_ ∨ _ ∨ _))

theorem FixedForm.cardRT {c : Card} (h : FixedForm c) : CardRT c := by
  obtain hp | hs | ⟨hk, hv, hc, hl, hlat⟩ := h
  · exact hp.cardRT
  · exact hs.cardRT
  · obtain ⟨key, val, com⟩ := c
    subst hv
    exact cardRT_commentary key com hk hc hl hlat

theorem digits_form (key val com : Str) (hk : HdrKey key) (hne : val ≠ [])
    (hd : ∀ c ∈ val, c ∈ '-' :: digits) (hlen : val.length ≤ 20) (hc : trimRight com = com) (hcl : com.length ≤ 47)
    (hclat : Lat com) : PlainCard ⟨key, val, com⟩ := by
  have hprops : ∀ c ∈ '-' :: digits, c ≠ ' ' ∧ c ≠ '/' ∧ c ≠ '\'' := by decide
  refine ⟨⟨hk.ok, hne, fun ch h => ⟨(hprops ch (hd ch h)).1, (hprops ch (hd ch h)).2.1⟩, ?_, hc, ?_⟩,
    hk.notEnd, hk.lat, Lat.of_signed hd, hclat⟩
  · match val, hne with
    | c :: r, _ => exact fun h => (hprops c (hd c List.mem_cons_self)).2.2 (Option.some.inj h)
  · show 10 + max 20 val.length + (if com = [] then 0 else 3 + com.length) ≤ 80
    split <;> omega

theorem intStr_props (v : Int) (hv : v.natAbs < 10 ^ 19) :
    intStr v ≠ [] ∧ (∀ c ∈ intStr v, c ∈ '-' :: digits) ∧ (intStr v).length ≤ 20 := by
  have h1 := natStr_ne_nil v.natAbs
  have h2 := natStr_mem v.natAbs
  have h3 := natStr_length v.natAbs 19 (by omega) hv
  unfold intStr
  split
  · refine ⟨by simp, ?_, by simp only [List.length_cons]; omega⟩
    intro c hc
    rcases List.mem_cons.mp hc with rfl | hc
    · simp
    · exact List.mem_cons_of_mem _ (h2 c hc)
  · exact ⟨h1, mem_digits_cons h2, by omega⟩

example : CardRT (cardInt "ORDER0".toList 4294967295 "B-Spline Order".toList) := by
  have h : FixedForm (cardInt "ORDER0".toList 4294967295 "B-Spline Order".toList) := by
    simp -index only [String.toList_ofList]; decide +kernel
  exact h.cardRT

example : CardRT (cardStr "NAME".toList "it's".toList []) := by
  have h : FixedForm (cardStr "NAME".toList "it's".toList []) := by
    simp -index only [String.toList_ofList]; decide +kernel
  exact h.cardRT

theorem cardRT_primaryBoiler : ∀ c ∈ primaryBoiler, CardRT c := by
  have h : ∀ c ∈ primaryBoiler, FixedForm c := by
    simp -index only [primaryBoiler, String.toList_ofList]
    decide +kernel
  exact fun c hc => (h c hc).cardRT

example : ∀ c ∈ primaryBoiler, CardRT c := cardRT_primaryBoiler

end PsV.Fits.Codec
