import PsV.Proofs.FitsRead
import PsV.Proofs.FitsDecode
/-!
# `read_fits_core` hands the coefficient words over untouched (C06, NaN clause)

For any store with a `BITPIX = -32` primary image the table's coefficients are the words of the image, with no
conversion (`read_coef_verbatim`), so NaNs (quiet, signalling, either sign, any payload: `isNaN32`), infinities,
denormals and -0 are words like any other.  The byte side is `Layout.layout_coef_bytes` (`PsV/Proofs/FitsLayout.lean`)
for writing and `Codec.decodeFits_f32_bits` (`PsV/Proofs/FitsDecode.lean`) for reading.
-/
namespace PsV.Fits

/-- binary32 NaN: exponent field all ones, fraction not zero (quiet or signalling, either sign, any payload) -/
def isNaN32 (w : UInt32) : Bool := w.toNat / 8388608 % 256 == 255 && w.toNat % 8388608 != 0

/-- **`read_fits_core` hands the coefficient words over untouched**: for any store with a `BITPIX = -32` primary
    image, the table's coefficients are the first `Π axes` words of the image — no conversion, so every bit pattern
    (NaN payloads included) arrives as it is.  Only a `BITPIX = -64` primary goes through `E.d2f`. -/
theorem read_coef_verbatim (E : Ext) (h0 : Hdu) (rest : List Hdu) (t : Table)
    (h : readFixed E (h0 :: rest) = .ok t ∨ readCore E (h0 :: rest) = .ok t) :
    prod h0.axes ≤ h0.pix.length ∧
    match h0.pix with
    | .f32 d => t.coef = d.take (prod h0.axes)
    | .f64 d => t.coef = (d.take (prod h0.axes)).map E.d2f := by
  have hc := readCore_of_readFixed h
  rw [readCore_eq, readWith_ok_iff] at hc
  obtain ⟨hnd, _, coef, _, _, _, hpx, _, _, rfl⟩ := hc
  have hne : h0.axes ≠ [] := fun e => by rw [e] at hnd; exact absurd hnd (by decide)
  rw [ncoeffs_of_axes _ hne, readPixF] at hpx
  split at hpx
  · cases hpx
  · refine ⟨by omega, ?_⟩
    split at hpx <;> simp only [Option.some.injEq] at hpx <;> simp_all

end PsV.Fits
