import PsV.Proofs.SpecSum
import PsV.Proofs.BasisSpec
/-!
The model's evaluation is the specification's sum over all stored coefficients.  The coefficient-block walk adds up the
specification's sum restricted to the block (`walk_eq`), and the block sum is the sum over all coefficients because every
basis function outside the block vanishes (`specSum_window`).  In one dimension every way of producing a local basis row
gives the row of the piece the margin loops chose (`localRow_piece`), and on every basis function of the axis the
specification is that piece (`Bsel_eq_piece`).  So evaluation with any list of modes (value, single derivative,
`bspline_deriv` of order `k`) is the specification's sum over the blocks and over all coefficients
(`evalModes_eq_specEval`); the partition of unity is read off the sum over the blocks.
-/
namespace PsV
variable {α : Type} [Field α] [LinearOrder α]
attribute [local instance] Arith.ofField

/-- Well-formed axis, as far as evaluation is concerned: at least one fully supported interval, `naxes` as the knot count
says, knots non-decreasing on the valid indices (the padding is unconstrained). -/
structure Dim.WF (d : Dim α) : Prop where
  len : 2 * d.order + 2 ≤ d.nknots
  naxes_eq : d.naxes = d.nknots - d.order - 1
  mono : ∀ i j : Int, 0 ≤ i → i ≤ j → j < d.nknots → d.knots i ≤ d.knots j

/-- `naxes` without the truncated subtraction: `knots[naxes]` is `knots[nknots - order - 1]`, the upper end of the fully
supported range, which the predicates on points spell in the second way -/
theorem Dim.WF.naxes_add {d : Dim α} (h : d.WF) : d.naxes + d.order + 1 = d.nknots := by
  have := h.len; rw [h.naxes_eq]; omega

/-- the upper end of the fully supported range is not the right end of an empty interval, or `x`
is not exactly there (see DESIGN: known finding C01-degenerate-upper-end) -/
def NonDegenerate (d : Dim α) (x : α) : Prop :=
  d.knots ((d.nknots:Int) - d.order - 2) < d.knots ((d.nknots:Int) - d.order - 1) ∨
    x ≠ d.knots ((d.nknots:Int) - d.order - 1)

/-- what the exact theorems assume about one coordinate: a centre as the lookup returns it, and not the
degenerate upper end -/
def PointOK (d : Dim α) (x : α) (c : Nat) : Prop :=
  CenterOK d.knots d.nknots d.order x c ∧ NonDegenerate d x

/-- per dimension a well-formed axis and `PointOK`; the three lists have the same length -/
def AllOK : List (Dim α) → List α → List Nat → Prop
  | [], [], [] => True
  | d :: ds, x :: xs, c :: cs => (d.WF ∧ PointOK d x c) ∧ AllOK ds xs cs
  | _, _, _ => False

theorem AllOK_lengths : ∀ (ds : List (Dim α)) (xs : List α) (cs : List Nat), AllOK ds xs cs →
    ds.length = xs.length ∧ ds.length = cs.length
  | [], [], [], _ => ⟨rfl, rfl⟩
  | _ :: ds, _ :: xs, _ :: cs, ⟨_, h⟩ =>
    ⟨congrArg (· + 1) (AllOK_lengths ds xs cs h).1, congrArg (· + 1) (AllOK_lengths ds xs cs h).2⟩

def KnotFree (d : Dim α) (x : α) : Prop := ∀ j : Int, 0 ≤ j → j < d.nknots → x ≠ d.knots j

/-- modes covered by the theorem: value, single derivative, and arbitrary-order derivatives (the
recursive routine, right-continuous) below `knots[naxes]` or away from the knots -/
def ModeOK (d : Dim α) (x : α) : BasisMode → Prop
  | .value => True
  | .deriv1 => True
  | .derivK k => 1 ≤ k ∧ (x < d.knots ((d.nknots:Int) - d.order - 1) ∨ KnotFree d x)

/-- every dimension's mode is covered (`ModeOK`); one mode per dimension -/
def AllModesOK : List (Dim α) → List α → List BasisMode → Prop
  | [], [], [] => True
  | d :: ds, x :: xs, m :: ms => ModeOK d x m ∧ AllModesOK ds xs ms
  | _, _, _ => False

theorem AllModesOK_length : ∀ (ds : List (Dim α)) (xs : List α) (ms : List BasisMode), AllModesOK ds xs ms →
    ds.length = ms.length
  | [], [], [], _ => rfl
  | _ :: ds, _ :: xs, _ :: ms, ⟨_, h⟩ => congrArg (· + 1) (AllModesOK_length ds xs ms h)

/-- the stride of the last dimension is 1 (the innermost loop of the walk indexes `coefficients[tablepos + i]`); the
exact theorems need no more of the strides, the memory theorems need all of them (`RowMajor`) -/
def lastStrideOne : List (Dim α) → Prop
  | [] => False
  | [d] => d.stride = 1
  | _ :: e :: rest => lastStrideOne (e :: rest)

/-- every coordinate inside the fully supported range `[knots[order], knots[naxes]]` -/
def AllFull : List (Dim α) → List α → Prop
  | d :: ds, x :: xs => (d.knots d.order ≤ x ∧ x ≤ d.knots ((d.nknots:Int) - d.order - 1)) ∧ AllFull ds xs
  | _, _ => True

theorem walkLast_eq (coef : Int → α) (bt : α) :
    ∀ (row : List α) (pos : Int) (acc : α),
      walkLast coef bt row pos acc = acc + specSumRow (specSum coef []) 1 bt row pos := by
  intro row
  induction row with
  | nil => intro pos acc; simp [walkLast, specSumRow]
  | cons b bs ih =>
    intro pos acc
    simp only [walkLast, specSumRow, specSum, of_sadd, of_smul, of_add, of_mul, ih]
    push_cast
    ring

/-- rows whose last stride is 1 (the innermost loop indexes `coefficients[tablepos + i]`) -/
def LastStrideOne : List (Nat × List α) → Prop
  | [] => False
  | [(s, _)] => s = 1
  | _ :: r :: rest => LastStrideOne (r :: rest)

theorem walkRow_eq (coef : Int → α) (s : Nat) (rest : List (Nat × List α))
    (ih : ∀ (bt : α) (pos : Int) (acc : α), walk coef rest bt pos acc = acc + specSum coef rest bt pos) (bt : α) :
    ∀ (row : List α) (pos : Int) (acc : α),
      walkRow coef s rest bt row pos acc = acc + specSumRow (specSum coef rest) s bt row pos := by
  intro row
  induction row with
  | nil => intro pos acc; simp [walkRow, specSumRow]
  | cons b bs ihr =>
    intro pos acc
    simp only [walkRow, specSumRow, of_smul, of_add, of_mul, ih, ihr]
    ring

theorem walk_eq (coef : Int → α) :
    ∀ (rows : List (Nat × List α)), LastStrideOne rows →
      ∀ (bt : α) (pos : Int) (acc : α), walk coef rows bt pos acc = acc + specSum coef rows bt pos := by
  intro rows
  induction rows with
  | nil => intro h; exact absurd h (by simp [LastStrideOne])
  | cons r rest ih =>
    intro h bt pos acc
    obtain ⟨s, row⟩ := r
    cases rest with
    | nil =>
      have hs : s = 1 := h
      subst hs
      simp only [walk, specSum]
      exact walkLast_eq coef bt row pos acc
    | cons r2 rest2 =>
      simp only [walk, specSum]
      exact walkRow_eq coef s (r2 :: rest2) (ih h) bt row pos acc

theorem rows_lastStride : ∀ (ds : List (Dim α)) (xs : List α) (cs : List Nat) (ms : List BasisMode),
    ds.length = xs.length → ds.length = cs.length → ds.length = ms.length →
    lastStrideOne ds → LastStrideOne (rows ds xs cs ms)
  | [_], [_], [_], [_], _, _, _, h => h
  | _ :: e :: ds, _ :: x :: xs, _ :: c :: cs, _ :: m :: ms, h1, h2, h3, h =>
    rows_lastStride (e :: ds) (x :: xs) (c :: cs) (m :: ms) (Nat.succ.inj h1) (Nat.succ.inj h2) (Nat.succ.inj h3) h

/-- One dimension of the window decomposition: `count` basis functions `f 0 … f (count-1)` with coefficient
stride `stride`, of which only the block of `width` functions from index `start` can be non-zero. -/
structure DimW (α : Type) where
  stride : Nat
  count : Nat
  start : Nat
  width : Nat
  f : Nat → α

/-- the block lies among the functions, and every function outside it vanishes -/
def DimW.OK (d : DimW α) : Prop :=
  d.start + d.width ≤ d.count ∧ ∀ i, i < d.count → (i < d.start ∨ d.start + d.width ≤ i) → d.f i = 0

/-- the rows of the sum over all functions -/
def fullRows (ds : List (DimW α)) : List (Nat × List α) := ds.map fun d => (d.stride, (List.range d.count).map d.f)

/-- the rows of the sum over the blocks only -/
def winRows (ds : List (DimW α)) : List (Nat × List α) := ds.map fun d => (d.stride, (List.range' d.start d.width).map d.f)

/-- offset of the blocks' first coefficient -/
def winOff : List (DimW α) → Int
  | [] => 0
  | d :: ds => (d.start : Int) * d.stride + winOff ds

theorem specSum_window (coef : Int → α) :
    ∀ (ds : List (DimW α)), (∀ d ∈ ds, d.OK) → ∀ (p : α) (pos : Int),
      specSum coef (fullRows ds) p pos = specSum coef (winRows ds) p (pos + winOff ds)
  | [], _, p, pos => by rw [winOff, add_zero]; rfl
  | d :: ds, hok, p, pos => by
    obtain ⟨hlen, hzero⟩ := hok d List.mem_cons_self
    show specSumRow (specSum coef (fullRows ds)) d.stride p ((List.range d.count).map d.f) pos =
      specSumRow (specSum coef (winRows ds)) d.stride p ((List.range' d.start d.width).map d.f) (pos + winOff (d :: ds))
    rw [List.range_eq_range', specSumRow_map_range', specSumRow_map_range',
      sum_range_window _ d.count d.start d.width hlen fun i hi hout => by
        rw [Nat.zero_add, hzero i hi hout, mul_zero, specSum_linear, zero_mul]]
    refine Finset.sum_congr rfl fun k _ => ?_
    rw [specSum_window coef ds (fun e he => hok e (List.mem_cons_of_mem _ he)), winOff, Nat.zero_add]
    exact congrArg _ (by push_cast; ring)

/-- dimension `d` for the window decomposition: the block `[c - order, c]` among the `naxes` functions
`Bsel d x k`, `k` the derivative order of mode `m` -/
def dimW (d : Dim α) (x : α) (c : Nat) (m : BasisMode) : DimW α :=
  ⟨d.stride, d.naxes, c - d.order, d.order + 1, fun i => Bsel d x (derivOrder m) i⟩

def dimWs : List (Dim α) → List α → List Nat → List BasisMode → List (DimW α)
  | d :: ds, x :: xs, c :: cs, m :: ms => dimW d x c m :: dimWs ds xs cs ms
  | _, _, _, _ => []

theorem selInd_eq (d : Dim α) (hwf : d.WF) (x : α) :
    selInd d x = if x < d.knots ((d.nknots:Int) - d.order - 1) then indR d.knots x else indL d.knots x := by
  have hn : ((d.naxes : Nat) : Int) = (d.nknots:Int) - d.order - 1 := by have := hwf.naxes_add; omega
  simp only [selInd, of_lt, hn, decide_eq_true_eq]

theorem Bsel_value (d : Dim α) (x : α) (hwf : d.WF) (i : Nat) :
    Bsel d x 0 i = Bind (if x < d.knots ((d.nknots:Int) - d.order - 1) then indR d.knots x else indL d.knots x)
      d.knots x d.order i := by
  rw [Bsel, selInd_eq d hwf]; rfl

theorem selInd_iff (d : Dim α) (hwf : d.WF) (x : α) (c : Nat) (l : Int) (hs : ShiftOK d.knots d.nknots d.order x c l) :
    ∀ i : Int, 0 ≤ i → i ≤ (d.nknots:Int) - 2 → (selInd d x i = true ↔ i = l) := by
  have hl0 := hs.nonneg; have hl1 := hs.le
  refine fun i h0 h1 => selInd_iff_eq (mono_window hwf.mono) hl0 (by omega) ?_ i h0 (by omega)
  rw [selInd_eq d hwf]
  rcases hs.bracket with ⟨hx, b⟩ | ⟨hx, b⟩
  · rw [if_pos hx]; exact (indR_iff _ _ _).mpr b
  · rw [if_neg (not_lt.mpr hx)]; exact (indL_iff _ _ _).mpr b

/-- **The piece lemma.**  On every basis function of the axis, the specification's value and knot-difference
derivatives are those of the polynomial piece `l` the margin loops settled on. -/
theorem Bsel_eq_piece (d : Dim α) (hwf : d.WF) (x : α) (c : Nat) (l : Int) (hs : ShiftOK d.knots d.nknots d.order x c l)
    (k i : Nat) (hi : i < d.naxes) : Bsel d x k i = Dind (indAt l) d.knots x k d.order i :=
  Dind_eq_piece d.knots x l k d.order i fun q q1 q2 =>
    selInd_iff d hwf x c l hs q (by omega) (by have := hwf.naxes_add; omega)

theorem localRow_piece (d : Dim α) (x : α) (c : Nat) (m : BasisMode) (hc : CenterOK d.knots d.nknots d.order x c)
    (hs : ShiftOK d.knots d.nknots d.order x c (marginShift d.knots d.nknots x c d.order)) (hm : ModeOK d x m) :
    localRow d x c m = (List.range (d.order + 1)).map fun j : Nat =>
      Dind (indAt (marginShift d.knots d.nknots x c d.order)) d.knots x (derivOrder m) d.order
        ((c:Int) - d.order + j) := by
  cases m with
  | value => exact bsplvbSimple_piece _ _ _ x c hs.toShiftIdx
  | deriv1 => exact bsplineDerivNonzero_piece _ _ _ x c hs.toShiftIdx
  | derivK k =>
    -- the recursive routine uses the right-continuous indicator, which selects the same interval
    have hR := indR_iff_of_shift d.knots d.nknots d.order x c _ hc.mono hs
      (hm.2.imp id fun hfree => hfree _ (by have := hs.nonneg; omega) (by have := hs.le; omega))
    refine List.map_congr_left fun j hj => ?_
    rw [List.mem_range] at hj
    have := hc.lo; have := hc.hi
    rw [of_rnd, bsplineDerivRec_eq_Dind _ _ _ _ _ hm.1]
    exact Dind_eq_piece d.knots x _ k d.order _ fun q q1 q2 => hR q (by omega) (by omega)

theorem localRow_spec (d : Dim α) (x : α) (c : Nat) (m : BasisMode) (hwf : d.WF) (h : PointOK d x c)
    (hm : ModeOK d x m) :
    localRow d x c m = (List.range' (c - d.order) (d.order + 1)).map (fun i => Bsel d x (derivOrder m) i) := by
  obtain ⟨hc, hnd⟩ := h
  have hs := marginShift_spec d.knots d.nknots d.order x c hc hnd
  have := hc.lo; have := hc.hi; have := hwf.naxes_add
  rw [localRow_piece d x c m hc hs hm, List.range'_eq_map_range, List.map_map]
  refine List.map_congr_left fun j hj => ?_
  rw [List.mem_range] at hj
  rw [Function.comp, Bsel_eq_piece d hwf x c _ hs _ _ (by omega)]
  exact congrArg _ (by omega)

theorem dimW_OK (d : Dim α) (x : α) (c : Nat) (m : BasisMode) (hwf : d.WF) (h : PointOK d x c) :
    (dimW d x c m).OK := by
  obtain ⟨hc, hnd⟩ := h
  have hs := marginShift_spec d.knots d.nknots d.order x c hc hnd
  have := hc.lo; have := hc.hi; have := hwf.naxes_add
  refine ⟨by simp only [dimW]; omega, fun i hi hout => ?_⟩
  simp only [dimW] at hi hout ⊢
  -- outside the block of the centre is outside the support of the piece the margin loops chose
  rw [Bsel_eq_piece d hwf x c _ hs _ i hi]
  exact Dind_eq_zero _ _ _ _ _ _ fun q q1 q2 => indAt_of_ne (by have := hs.down; have := hs.up; omega)

theorem rows_eq_winRows : ∀ (ds : List (Dim α)) (xs : List α) (cs : List Nat) (ms : List BasisMode),
    AllOK ds xs cs → AllModesOK ds xs ms →
    rows ds xs cs ms = winRows (dimWs ds xs cs ms) ∧
    specRows ds xs ms = fullRows (dimWs ds xs cs ms) ∧
    startPos ds cs = winOff (dimWs ds xs cs ms) ∧
    (∀ e ∈ dimWs ds xs cs ms, e.OK)
  | [], [], [], [], _, _ => ⟨rfl, rfl, rfl, fun _ h => nomatch h⟩
  | d :: ds, x :: xs, c :: cs, m :: ms, ⟨⟨hwf, hp⟩, hrest⟩, ⟨hm1, hmrest⟩ => by
    obtain ⟨i1, i2, i3, i4⟩ := rows_eq_winRows ds xs cs ms hrest hmrest
    refine ⟨?_, ?_, ?_, ?_⟩
    · rw [rows, i1, localRow_spec d x c m hwf hp hm1]; rfl
    · rw [specRows, i2]; rfl
    · rw [startPos, i3, dimWs, winOff]
      have := hp.1.lo
      simp only [dimW]
      push_cast [Nat.cast_sub this]
      ring
    · intro e he
      rcases List.mem_cons.1 he with rfl | he
      · exact dimW_OK d x c m hwf hp
      · exact i4 e he

theorem evalModes_eq_windowSum (T : Table α) (xs : List α) (cs : List Nat) (ms : List BasisMode)
    (hok : AllOK T.dims xs cs) (hms : AllModesOK T.dims xs ms) (hstride : lastStrideOne T.dims) :
    evalModes T xs cs ms =
      specSum T.coef (winRows (dimWs T.dims xs cs ms)) 1 (winOff (dimWs T.dims xs cs ms)) := by
  obtain ⟨l1, l2⟩ := AllOK_lengths T.dims xs cs hok
  rw [evalModes, walk_eq T.coef _ (rows_lastStride T.dims xs cs ms l1 l2 (AllModesOK_length _ _ _ hms) hstride),
    (rows_eq_winRows T.dims xs cs ms hok hms).1, (rows_eq_winRows T.dims xs cs ms hok hms).2.2.1]
  simp only [of_rnd, of_one, of_zero, zero_add]

theorem evalModes_eq_specEval (T : Table α) (xs : List α) (cs : List Nat) (ms : List BasisMode)
    (hok : AllOK T.dims xs cs) (hms : AllModesOK T.dims xs ms) (hstride : lastStrideOne T.dims) :
    evalModes T xs cs ms = specEval T xs ms := by
  obtain ⟨_, r2, _, r4⟩ := rows_eq_winRows T.dims xs cs ms hok hms
  rw [evalModes_eq_windowSum T xs cs ms hok hms hstride, specEval, r2, specSum_window T.coef _ r4]
  simp only [of_one, zero_add]

theorem allModesOK_maskModes (ds : List (Dim α)) (xs : List α) (hl : ds.length = xs.length) (mask : Nat) :
    AllModesOK ds xs (maskModes ds.length mask) := by
  unfold maskModes
  suffices h : ∀ (ds : List (Dim α)) (xs : List α) (k : Nat), ds.length = xs.length →
      AllModesOK ds xs ((List.range' k ds.length).map fun n => if mask.testBit n then BasisMode.deriv1 else BasisMode.value) by
    have := h ds xs 0 hl
    rwa [← List.range_eq_range'] at this
  intro ds
  induction ds with
  | nil => intro xs k h; cases xs <;> simp at h; trivial
  | cons d ds ih =>
    intro xs k h
    cases xs with
    | nil => simp at h
    | cons x xs =>
      simp only [List.length_cons, List.range'_succ, List.map_cons]
      refine ⟨?_, ih xs (k+1) (by simpa using h)⟩
      by_cases hb : mask.testBit k = true
      · simp [hb, ModeOK]
      · simp [hb, ModeOK]

theorem allModesOK_replicate_value : ∀ (ds : List (Dim α)) (xs : List α), ds.length = xs.length →
    AllModesOK ds xs (List.replicate ds.length .value) :=
  fun ds xs h => maskModes_zero ds.length ▸ allModesOK_maskModes ds xs h 0

theorem ndsplineeval_mask_eq_specEval (T : Table α) (xs : List α) (cs : List Nat) (mask : Nat)
    (hok : AllOK T.dims xs cs) (hstride : lastStrideOne T.dims) :
    ndsplineeval T xs cs mask = specEval T xs (maskModes T.dims.length mask) :=
  evalModes_eq_specEval T xs cs _ hok (allModesOK_maskModes _ _ (AllOK_lengths _ _ _ hok).1 _) hstride

theorem ndsplineeval_eq_specEval (T : Table α) (xs : List α) (cs : List Nat)
    (hok : AllOK T.dims xs cs) (hstride : lastStrideOne T.dims) :
    ndsplineeval T xs cs 0 = specEval T xs (List.replicate T.dims.length .value) :=
  maskModes_zero T.dims.length ▸ ndsplineeval_mask_eq_specEval T xs cs 0 hok hstride

section Unity
open Finset

/-- in the fully supported region the margin loops do not move: the chosen interval is the centre -/
theorem shift_eq_center_of_full (d : Dim α) (hwf : d.WF) (x : α) (c : Nat) (l : Int) (h : PointOK d x c)
    (hs : ShiftOK d.knots d.nknots d.order x c l)
    (h1 : d.knots d.order ≤ x) (h2 : x ≤ d.knots ((d.nknots:Int) - d.order - 1)) : l = c := by
  obtain ⟨hc, hnd⟩ := h
  -- the centre passes the indicator that singles out `l`
  have hlo := hc.lo; have hhi := hc.hi
  refine ((selInd_iff d hwf x c l hs c (by omega) (by omega)).mp ?_).symm
  rw [selInd_eq d hwf]
  by_cases hx : x < d.knots ((d.nknots:Int) - d.order - 1)
  · rw [if_pos hx, indR_iff]
    exact hc.inside h1 hx
  · have hxe : x = d.knots ((d.nknots:Int) - d.order - 1) := le_antisymm h2 (not_lt.mp hx)
    have hcn : (c:Int) + 1 = (d.nknots:Int) - d.order - 1 := by have := hc.above (not_lt.mp hx); omega
    rw [if_neg hx, indL_iff, hcn]
    refine ⟨?_, h2⟩
    rcases hnd with hnd | hnd
    · rw [show (c:Int) = (d.nknots:Int) - d.order - 2 by omega, hxe]; exact hnd
    · exact absurd hxe hnd

theorem window_sum_one (d : Dim α) (x : α) (c : Nat) (hwf : d.WF) (h : PointOK d x c)
    (h1 : d.knots d.order ≤ x) (h2 : x ≤ d.knots ((d.nknots:Int) - d.order - 1)) :
    ∑ k ∈ range (d.order + 1), Bsel d x 0 (c - d.order + k) = 1 := by
  have hs := marginShift_spec d.knots d.nknots d.order x c h.1 h.2
  rw [shift_eq_center_of_full d hwf x c _ h hs h1 h2] at hs
  have hlo := h.1.lo; have hhi := h.1.hi; have := hwf.naxes_add
  have hne : d.knots c < d.knots ((c:Int) + 1) := by
    rcases hs.bracket with ⟨_, b1, b2⟩ | ⟨_, b1, b2⟩
    · exact lt_of_le_of_lt b1 b2
    · exact lt_of_lt_of_le b1 b2
  rw [← Bp_sum_one d.knots x c hne d.order ((mono_window h.1.mono).sub (by omega) (by omega))]
  refine sum_congr rfl fun k hk => ?_
  rw [mem_range] at hk
  rw [Bsel_eq_piece d hwf x c c hs 0 _ (by omega), Bp_eq_Bind]
  exact congrArg (Bind _ d.knots x d.order) (by omega)

theorem specSum_ones (coef : Int → α) (hones : ∀ i, coef i = 1) :
    ∀ (ws : List (DimW α)) (p : α) (pos : Int),
      specSum coef (winRows ws) p pos = p * (ws.map fun d => ∑ k ∈ range d.width, d.f (d.start + k)).prod
  | [], p, pos => by rw [List.map_nil, List.prod_nil]; exact congrArg (p * ·) (hones pos)
  | d :: ws, p, pos => by
    show specSumRow (specSum coef (winRows ws)) d.stride p ((List.range' d.start d.width).map d.f) pos = _
    simp only [specSumRow_map_range', specSum_ones coef hones ws, List.map_cons, List.prod_cons]
    rw [← sum_mul, ← mul_sum, mul_assoc]

theorem prod_window_sums : ∀ (ds : List (Dim α)) (xs : List α) (cs : List Nat),
    AllOK ds xs cs → AllFull ds xs →
    ((dimWs ds xs cs (List.replicate ds.length .value)).map fun d => ∑ k ∈ range d.width, d.f (d.start + k)).prod = 1
  | [], [], [], _, _ => rfl
  | d :: ds, x :: xs, c :: cs, ⟨⟨hwf, hp⟩, hrest⟩, ⟨⟨f1, f2⟩, frest⟩ => by
    rw [List.length_cons, List.replicate_succ, dimWs, List.map_cons, List.prod_cons,
      prod_window_sums ds xs cs hrest frest, mul_one]
    exact window_sum_one d x c hwf hp f1 f2

theorem ndsplineeval_ones (T : Table α) (xs : List α) (cs : List Nat)
    (hok : AllOK T.dims xs cs) (hstride : lastStrideOne T.dims) (hones : ∀ i, T.coef i = 1)
    (hfull : AllFull T.dims xs) : ndsplineeval T xs cs 0 = 1 := by
  rw [ndsplineeval, maskModes_zero,
    evalModes_eq_windowSum T xs cs _ hok (allModesOK_replicate_value _ _ (AllOK_lengths _ _ _ hok).1) hstride,
    specSum_ones T.coef hones, prod_window_sums T.dims xs cs hok hfull, mul_one]

end Unity

end PsV
