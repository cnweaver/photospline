import Mathlib.Algebra.BigOperators.Group.Finset.Basic
import PsV.Spec.Fit
import PsV.Proofs.Field
import PsV.Proofs.MixedRadix
/-!
Under a lawful `Arith` bundle (`LawfulArith`, `Proofs/Field.lean`) the model's small routines are what they look like:
`sumTo` is a `Finset` sum, `isZero` is `= 0`, a tabulated function (`tabOf`, `Tab2.ofFn`) reads back as the function, and
`natProd` is the product of `MixedRadix`.
-/
namespace PsV

theorem natProd_eq_prodL (ns : List Nat) : natProd ns = Permute.prodL ns := by
  induction ns with
  | nil => rfl
  | cons n ns ih => rw [natProd, Permute.prodL, ih]

theorem natProd_cons (x : Nat) (xs : List Nat) : natProd (x :: xs) = x * natProd xs := rfl

theorem ndFlat_natProd_append (ns ms : List Nat) : natProd (ns ++ ms) = natProd ns * natProd ms := by
  simp only [natProd_eq_prodL, Permute.prodL_append]

section Tab
variable {α : Type} [A : Arith α]

@[simp] theorem tab2_ofFn_n (n m : Nat) (f : Nat → Nat → α) : (Tab2.ofFn n m f).n = n := rfl
@[simp] theorem tab2_ofFn_m (n m : Nat) (f : Nat → Nat → α) : (Tab2.ofFn n m f).m = m := rfl

theorem tab2_get_ofFn {n m i j : Nat} (f : Nat → Nat → α) (hi : i < n) (hj : j < m) :
    (Tab2.ofFn n m f).get i j = f i j := by
  have hlt : i * m + j < n * m := Permute.mul_add_lt hi hj
  unfold Tab2.get Tab2.ofFn
  simp only [hi, hj, and_self, if_true]
  rw [Array.getElem?_ofFn]
  simp only [hlt, dite_true, Permute.mul_add_div i hj, Nat.mul_add_mod_of_lt hj]

theorem tab2_get_out (T : Tab2 α) {i j : Nat} (h : ¬(i < T.n ∧ j < T.m)) : T.get i j = A.zero := by
  unfold Tab2.get
  rw [if_neg h]

end Tab

section
variable {α : Type} [Field α] [LinearOrder α] [A : Arith α] [L : LawfulArith α]

theorem sumTo_eq_sum (n : Nat) (f : Nat → α) : sumTo n f = ∑ i ∈ Finset.range n, f i := by
  induction n with
  | zero => simp [sumTo, L.zero_eq]
  | succ n ih => simp [sumTo, L.add_eq, ih, Finset.sum_range_succ]

theorem isZero_iff (a : α) : isZero a = true ↔ a = 0 := by
  unfold isZero
  rw [L.zero_eq]
  constructor
  · intro h
    simp only [Bool.not_eq_true', Bool.or_eq_false_iff] at h
    have h1 : ¬ a < 0 := fun hh => by have := (L.lt_iff a 0).mpr hh; simp [this] at h
    have h2 : ¬ 0 < a := fun hh => by have := (L.lt_iff 0 a).mpr hh; simp [this] at h
    exact le_antisymm (not_lt.mp h2) (not_lt.mp h1)
  · intro h
    subst h
    have h1 : A.lt (0:α) 0 = false := by
      cases hh : A.lt (0:α) 0 with
      | false => rfl
      | true => exact absurd ((L.lt_iff 0 0).mp hh) (lt_irrefl _)
    simp [h1]
theorem tab2_get_mk (n m : Nat) (arr : Array α) (i j : Nat) (hi : i < n) (hj : j < m) :
    (Tab2.mk n m arr).get i j = arr[i * m + j]?.getD 0 := by
  unfold Tab2.get
  simp only [hi, hj, and_self, if_true]
  cases arr[i * m + j]? <;> simp [L.zero_eq]

theorem tab2_ofFn_get_div (n m : Nat) (f g : Nat → Nat → α) (k : α) (hg : ∀ r c, g r c = f r c / k) (r c : Nat) :
    (Tab2.ofFn n m g).get r c = (Tab2.ofFn n m f).get r c / k := by
  by_cases hin : r < n ∧ c < m
  · rw [tab2_get_ofFn _ hin.1 hin.2, tab2_get_ofFn _ hin.1 hin.2, hg]
  · rw [tab2_get_out (Tab2.ofFn n m g) hin, tab2_get_out (Tab2.ofFn n m f) hin, L.zero_eq, zero_div]

end

theorem tabGet_tabOf {α : Type} (n m : Nat) (f : Nat → Nat → α) : tabGet (tabOf n m f) f = f := by
  funext i j
  unfold tabGet tabOf
  split
  · rename_i row hrow
    split
    · rename_i v hv
      rw [Array.getElem?_eq_some_iff] at hrow hv
      obtain ⟨hi, hrow⟩ := hrow
      obtain ⟨hj, hv⟩ := hv
      subst hrow
      simp at hv
      exact hv.symm
    · rfl
  · rfl

theorem tabulate2_eq {α : Type} (n m : Nat) (f : Nat → Nat → α) : tabulate2 n m f = f :=
  tabGet_tabOf n m f

end PsV
