import PsV.Model.FitsReadState
import PsV.Proofs.FitsRead
/-! The object while a read is in progress (C07).  `objK nd k` is the object with everything up to `coefficients`
    allocated and `k` knot vectors assigned; `stateAt` at every stop from `readPix` on is one of these.  The storage guard
    (`release_storage`, commit 907b348) empties it for every `k ≤ nd` (`freeAll_objK`, `cleanup_objK`), hence at every
    stop (`cleanup_stateAt`) and after every failing read (`cleanup_after_readFixed`).  The step-by-step reader refines
    `readFixed` and `stateAt`: it has the verdict of `readFixed`, and at a throw of `e` its object is
    `stateAt true ndim (stopOf e)` (one equation each for the knot loop, the body and the guarded read: `readKnotsObj_eq`,
    `readBody_run`, `readGuarded_eq`).  Hence a rejected read leaves `Obj.empty`, and the next read starts from the state
    of a fresh object. -/
namespace PsV.Fits

/-- the object with everything up to `coefficients` allocated and `knots[0..k)` assigned -/
def objK (nd k : Nat) : Obj :=
  { ndim := nd, aux := .block 0, order := .block 1, periods := .block 2, knots := .block 3,
    knotEntries := (List.range k).map (fun j => .block (10 + j)) ++ List.replicate (nd - k) .null,
    nknots := .block 4, extents := .block 5, extents0 := .block 6, naxes := .block 7, strides := .block 8,
    coefficients := .block 9, live := [0, 1, 2, 3, 4, 5, 6, 7, 8, 9] ++ (List.range k).map (10 + ·) }

theorem stateAt_readPix (nd : Nat) : stateAt true nd .readPix = objK nd 0 := rfl

theorem stateAt_done (nd : Nat) : stateAt true nd .done = objK nd nd := by
  simp [stateAt, objK]

theorem freeAll_append (a b : List Ptr) (live : List Nat) :
    freeAll (a ++ b) live = (freeAll a live).bind (freeAll b) := by
  induction a generalizing live with
  | nil => rfl
  | cons p ps ih =>
    simp only [List.cons_append, freeAll]
    cases free p live with
    | error e => rfl
    | ok l => exact ih l

theorem freeAll_nulls (m : Nat) (live : List Nat) : freeAll (List.replicate m .null) live = .ok live := by
  induction m with
  | zero => rfl
  | succ m ih => simp only [List.replicate_succ, freeAll, free]; exact ih

theorem freeAll_blocks (base : List Nat) : ∀ k s, (∀ b ∈ base, b < s) →
    freeAll ((List.range' s k).map .block) (base ++ List.range' s k) = .ok base
  | 0, s, _ => by simp [freeAll]
  | k+1, s, hb => by
    have hs : s ∉ base := fun h => Nat.lt_irrefl s (hb s h)
    simp only [List.range'_succ, List.map_cons, freeAll, free]
    have hc : (base ++ s :: List.range' (s+1) k).contains s = true := by simp
    rw [if_pos hc]
    have he : (base ++ s :: List.range' (s+1) k).erase s = base ++ List.range' (s+1) k := by
      rw [List.erase_append_right _ hs]; simp
    show (Except.ok ((base ++ s :: List.range' (s+1) k).erase s)).bind _ = _
    rw [he]
    exact freeAll_blocks base k (s+1) (fun b h => Nat.lt_succ_of_lt (hb b h))

/-- the ledger of the knot loop: following `knots[0..nd)` of the object with `k` vectors assigned releases exactly the
    blocks `10 .. 10+k` -/
theorem freeAll_objK (nd k : Nat) (hk : k ≤ nd) :
    freeAll ((objK nd k).knotEntries.take nd) (objK nd k).live = .ok [0, 1, 2, 3, 4, 5, 6, 7, 8, 9] := by
  have h1 : (List.range k).map (fun j => Ptr.block (10 + j)) = (List.range' 10 k).map .block := by
    rw [List.range'_eq_map_range, List.map_map]; rfl
  show freeAll ((_ ++ List.replicate (nd - k) Ptr.null).take nd) (_ ++ (List.range k).map (10 + ·)) = _
  rw [List.take_of_length_le (by simp; omega), freeAll_append, h1, ← List.range'_eq_map_range,
    freeAll_blocks _ k 10 (by decide)]
  exact freeAll_nulls _ _

theorem cleanup_objK (nd k : Nat) (hk : k ≤ nd) : cleanup (objK nd k) = .ok Obj.empty := by
  unfold cleanup
  rw [if_neg (show ¬ (objK nd k).knots = .null from nofun)]
  show ((freeAll ((objK nd k).knotEntries.take nd) (objK nd k).live).bind _).bind _ = _
  rw [freeAll_objK nd k hk]
  rfl

/-- the storage guard empties the object at every throw site of the source (a stop inside the knot loop being one of
    an iteration that exists) -/
theorem cleanup_stateAt (nd : Nat) : ∀ s : Stop, (∀ i a, s = .knot i a → i < nd) →
    cleanup (stateAt true nd s) = .ok Obj.empty
  | .early, _ | .order, _ => rfl
  | .imgSize, _ => by
    simp only [cleanup, stateAt, if_true]
    rw [if_neg (by decide), List.take_replicate, freeAll_nulls]
    rfl
  | .readPix, _ => cleanup_objK nd 0 (Nat.zero_le _)
  | .knot i a, h => by
    have hi := h i a rfl
    cases a
    · exact cleanup_objK nd i (by omega)
    · exact cleanup_objK nd (i + 1) (by omega)
  | .extData, _ | .done, _ => (congrArg cleanup (stateAt_done nd)).trans (cleanup_objK nd nd (Nat.le_refl _))

theorem destroy_done (nd : Nat) (h : 0 < nd) : destroy (stateAt true nd .done) = .ok [] := by
  have hnd : nd ≠ 0 := by omega
  rw [stateAt_done]
  unfold destroy
  rw [if_neg (show ¬ (objK nd nd).ndim = 0 from hnd),
    if_neg (show ¬ ((objK nd nd).strides = .null ∨ (objK nd nd).naxes = .null) from fun h => h.elim nofun nofun),
    if_neg (show ¬ (objK nd nd).knots = .null from nofun)]
  show (freeAll ((objK nd nd).knotEntries.take nd) (objK nd nd).live).bind _ = _
  rw [freeAll_objK nd nd (Nat.le_refl _)]
  rfl

theorem cleanup_after_readFixed (E : Ext) (f : Fits) (e : RErr) (h : readFixed E f = .error e) :
    cleanup (stateAt true (f.headD default).axes.length (stopOf e)) = .ok Obj.empty :=
  cleanup_stateAt _ _ (readFixed_stop_valid E f e h)

/-- `knots[i] = allocate(..)` on the object with `i` knot vectors assigned -/
theorem objK_step (nd i : Nat) (hi : i < nd) :
    { objK nd i with knotEntries := (objK nd i).knotEntries.set i (.block (10 + i)),
                     live := (objK nd i).live ++ [10 + i] } = objK nd (i + 1) := by
  have hrep : List.replicate (nd - i) Ptr.null = Ptr.null :: List.replicate (nd - (i + 1)) Ptr.null := by
    rw [show nd - i = (nd - (i + 1)) + 1 by omega, List.replicate_succ]
  have hset : ((List.range i).map (fun j => Ptr.block (10 + j)) ++ List.replicate (nd - i) Ptr.null).set i (.block (10 + i))
      = (List.range (i + 1)).map (fun j => Ptr.block (10 + j)) ++ List.replicate (nd - (i + 1)) Ptr.null := by
    rw [List.set_append_right _ _ (by simp), hrep]
    simp [List.range_succ]
  simp only [objK, hset]
  simp [List.range_succ]

/-- the stop a verdict stands for (`done` for a result): with it the object of the step-by-step reader is a function
    of the verdict of the pure one -/
def stopOfR {α : Type} : Except RErr α → Stop
  | .ok _ => .done
  | .error e => stopOf e

theorem stopOfR_map {α β : Type} (g : α → β) (r : Except RErr α) : stopOfR (r.map g) = stopOfR r := by
  cases r <;> rfl

theorem readKnotsObj_eq (E : Ext) (f : Fits) (order naxes : List Nat) (nd : Nat) :
    ∀ n i, i + n = nd →
      readKnotsObj E f order naxes i n (objK nd i) =
        (stateAt true nd (stopOfR (readKnotsV E f order naxes i n)), readKnotsV E f order naxes i n)
  | 0, i, h => by
    obtain rfl : i = nd := by omega
    exact congrArg (·, _) (stateAt_done i).symm
  | n+1, i, h => by
    unfold readKnotsObj readKnotsV
    -- at a throw before / after `knots[i] = allocate` the object is `objK nd i` / `objK nd (i+1)`, which is
    -- `stateAt` at `.knot i false` / `.knot i true` by unfolding
    cases movnamHdu f (keyN "KNOTS" i) with
    | none => rfl
    | some h =>
      dsimp only
      split
      · rfl
      split
      · rfl
      rw [objK_step nd i (by omega)]
      cases readPixD E h (h.axes.headD 0) with
      | none => rfl
      | some k =>
        dsimp only
        split
        · rw [readKnotsObj_eq E f order naxes nd n (i + 1) (by omega), stopOfR_map]
        · rfl

theorem readKnotsObj_spec (E : Ext) (f : Fits) (order naxes : List Nat) (nd : Nat) :
    ∀ n i, i + n = nd →
      (readKnotsObj E f order naxes i n (objK nd i)).2 = readKnotsV E f order naxes i n ∧
      (∀ e, readKnotsV E f order naxes i n = .error e →
        (readKnotsObj E f order naxes i n (objK nd i)).1 = stateAt true nd (stopOf e)) ∧
      (∀ ks, readKnotsV E f order naxes i n = .ok ks →
        (readKnotsObj E f order naxes i n (objK nd i)).1 = objK nd nd) := by
  intro n i h
  rw [readKnotsObj_eq E f order naxes nd n i h]
  exact ⟨rfl, fun e he => by rw [he]; rfl, fun ks hk => by rw [hk]; exact stateAt_done nd⟩

theorem readBody_eq (E : Ext) (h0 : Hdu) (f : Fits) :
    readBody E h0 f =
      match ordersOf (hdrCards true h0) h0.axes.length with
      | .error e => (stateAt true h0.axes.length .order, .error e)
      | .ok order =>
        match readPixF E h0 (((partialProds 1 h0.axes).reverse).headD 0 * (h0.axes.reverse).headD 0) with
        | none => (stateAt true h0.axes.length .readPix, .error .readPix)
        | some coef =>
          match readKnotsObj E f order h0.axes.reverse 0 h0.axes.length (objK h0.axes.length 0) with
          | (o, .error e) => (o, .error e)
          | (o, .ok knots) =>
            match extentsOf E f h0.axes.length order knots with
            | .error e => (o, .error e)
            | .ok extents =>
              (o, .ok ⟨order, knots, h0.axes.reverse, (partialProds 1 h0.axes).reverse, coef, some extents,
                some ((List.range h0.axes.length).map fun i =>
                  (readKeyDbl E (hdrCards true h0) (keyN "PERIOD" i)).getD 0),
                readAux (hdrCards true h0)⟩) := by
  rw [readBody]
  generalize hdrCards true h0 = cs
  rfl

theorem readBody_run (E : Ext) (h0 : Hdu) (rest : List Hdu) (hd : ¬ h0.axes.length < 1) :
    readBody E h0 (h0 :: rest) =
      (stateAt true h0.axes.length (stopOfR (readFixed E (h0 :: rest))), readFixed E (h0 :: rest)) := by
  rw [readBody_eq, readFixed_eq, readWith, if_neg hd]
  cases hord : ordersOf (hdrCards true h0) h0.axes.length with
  | error e => exact congrArg (stateAt true _ · , _) (ordersOf_err _ _ _ hord).symm
  | ok order =>
    dsimp only
    cases readPixF E h0 (((partialProds 1 h0.axes).reverse).headD 0 * (h0.axes.reverse).headD 0) with
    | none => rfl
    | some coef =>
      dsimp only
      rw [readKnotsObj_eq E (h0 :: rest) order h0.axes.reverse h0.axes.length h0.axes.length 0 (Nat.zero_add _)]
      cases readKnotsV E (h0 :: rest) order h0.axes.reverse 0 h0.axes.length with
      | error e => rfl
      | ok knots =>
        dsimp only
        cases hex : extentsOf E (h0 :: rest) h0.axes.length order knots with
        | error e =>
          -- `stateAt` is the same object at `.extData` and `.done`
          exact congrArg (· , _) (show stateAt true _ .extData = _ from
            congrArg (stateAt true _) (extentsOf_err E _ _ _ _ _ hex).symm)
        | ok ext => rfl

theorem readBody_spec (E : Ext) (h0 : Hdu) (rest : List Hdu) (hd : ¬ h0.axes.length < 1) :
    (readBody E h0 (h0 :: rest)).2 = readFixed E (h0 :: rest) ∧
    (∀ e, readFixed E (h0 :: rest) = .error e →
      (readBody E h0 (h0 :: rest)).1 = stateAt true h0.axes.length (stopOf e)) ∧
    (∀ t, readFixed E (h0 :: rest) = .ok t →
      (readBody E h0 (h0 :: rest)).1 = stateAt true h0.axes.length .done) := by
  rw [readBody_run E h0 rest hd]
  exact ⟨rfl, fun e he => by rw [he]; rfl, fun t ht => by rw [ht]; rfl⟩

/-- `read_fits_core` as its caller sees it, for every store: the verdict of `readFixed`; with a table the completely
    populated object, with an error the empty one.  It never faults. -/
theorem readGuarded_eq (E : Ext) (f : Fits) :
    readGuarded E f = .ok (match readFixed E f with
      | .ok t => (stateAt true t.ndim .done, .ok t)
      | .error e => (Obj.empty, .error e)) := by
  cases f with
  | nil => rfl
  | cons h0 rest =>
    rw [readGuarded]
    by_cases hd : h0.axes.length < 1
    · rw [if_pos hd, readFixed_eq, readWith, if_pos hd]
    · rw [if_neg hd, readBody_run E h0 rest hd]
      cases h : readFixed E (h0 :: rest) with
      | error e =>
        have hc := cleanup_after_readFixed E (h0 :: rest) e h
        rw [List.headD_cons] at hc
        simp only [stopOfR, hc]; rfl
      | ok t =>
        have hnd : t.ndim = h0.axes.length := readFixed_ndim E _ t h
        simp only [hnd]; rfl

theorem readGuarded_error (E : Ext) (f : Fits) (e : RErr) (h : readFixed E f = .error e) :
    readGuarded E f = .ok (Obj.empty, .error e) := by
  rw [readGuarded_eq, h]

theorem readGuarded_ok (E : Ext) (f : Fits) (t : Table) (h : readFixed E f = .ok t) :
    readGuarded E f = .ok (stateAt true t.ndim .done, .ok t) ∧ destroy (stateAt true t.ndim .done) = .ok [] :=
  ⟨by rw [readGuarded_eq, h], destroy_done _ (readFixed_wf E f t h).ndim_pos⟩

/-- The two ways a read can end, for every store: a well-formed table in the completely populated object, which the
    destructor releases without fault; or an error, with the object emptied by the guard — as the step-by-step reader
    leaves it (`readGuarded`) and as `cleanup (stateAt …)` computes it. -/
theorem readFixed_total (E : Ext) (f : Fits) :
    (∃ t, readFixed E f = .ok t ∧ readGuarded E f = .ok (stateAt true t.ndim .done, .ok t) ∧ t.WF ∧
      destroy (stateAt true t.ndim .done) = .ok []) ∨
    (∃ e, readFixed E f = .error e ∧ readGuarded E f = .ok (Obj.empty, .error e) ∧
      cleanup (stateAt true (f.headD default).axes.length (stopOf e)) = .ok Obj.empty) := by
  cases hr : readFixed E f with
  | ok t => exact .inl ⟨t, rfl, (readGuarded_ok E f t hr).1, readFixed_wf E f t hr, (readGuarded_ok E f t hr).2⟩
  | error e => exact .inr ⟨e, rfl, readGuarded_error E f e hr, cleanup_after_readFixed E f e hr⟩

theorem readFits_empty_error (E : Ext) (f : Fits) (e : RErr) (h : readFixed E f = .error e) :
    readFits E Obj.empty f = .ok (Obj.empty, .error e) := by
  unfold readFits
  rw [if_neg (by decide), readGuarded_error E f e h]
  rfl

/-- rejected files leave the object as they found it -/
theorem readSeq_rejected_append (E : Ext) (gs : List Fits) : ∀ (fs : List Fits),
    (∀ f ∈ fs, ∃ e, readFixed E f = .error e) →
    readSeq E Obj.empty (fs ++ gs) = (readSeq E Obj.empty gs).map fun p => (p.1, fs.map (readFixed E) ++ p.2)
  | [], _ => by
    cases h : readSeq E Obj.empty gs with
    | error x => exact h
    | ok p => exact h
  | f :: fs, h => by
    obtain ⟨e, he⟩ := h f (by simp)
    simp only [List.cons_append, readSeq, readFits_empty_error E f e he,
      readSeq_rejected_append E gs fs (fun g hg => h g (by simp [hg])), List.map_cons, he]
    cases readSeq E Obj.empty gs with
    | error x => rfl
    | ok p => rfl

theorem readSeq_rejected (E : Ext) : ∀ (fs : List Fits), (∀ f ∈ fs, ∃ e, readFixed E f = .error e) →
    ∃ rs, readSeq E Obj.empty fs = .ok (Obj.empty, rs) ∧ rs = fs.map (readFixed E) := by
  intro fs h
  have := readSeq_rejected_append E [] fs h
  rw [List.append_nil] at this
  exact ⟨_, this.trans (congrArg (fun l => Except.ok (Obj.empty, l)) (List.append_nil _)), rfl⟩

end PsV.Fits
