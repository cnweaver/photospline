import PsV.Proofs.Sync
/-! Which thread can move.  The holder of the mutex always can; when the mutex is free a *pending* thread can (`Pend`: its
next call makes progress), and on the invariant of the repaired protocol there is one in every non-final state: no
deadlock.  `Pend` is also what the fairness argument of SyncFair follows along an execution. -/
namespace PsV.Sync

def Enabled (c : Cfg) (s : State) : Prop := ∃ t, t ≤ c.n ∧ (step? c s t).isSome = true

theorem stepW_enabled {s : State} {w : Nat} (hl : pcLive (s.wpc w) = true)
    (ho : s.owner = none ∨ wHolds (s.wpc w) = true) : (stepW s w).isSome = true := by
  cases hp : s.wpc w <;> rw [hp] at hl ho <;> simp only [stepW, hp]
  case idle | waiting | done => cases hl
  case hold => cases s.st w <;> rfl
  case lock1 | woken | lock2 => rw [if_pos (ho.resolve_right nofun)]; rfl
  all_goals rfl

theorem stepC_enabled {c : Cfg} {s : State} (ho : s.owner = none ∨ cHolds s.cpc = true)
    (hl : s.cpc ≠ .waiting ∧ s.cpc ≠ .final ∧ ∀ k, s.cpc = .join k → s.wpc k = .done) :
    (stepC c s).isSome = true := by
  cases hp : s.cpc <;> rw [hp] at hl ho <;> simp only [stepC, hp]
  case waiting => exact absurd rfl hl.1
  case final => exact absurd rfl hl.2.1
  case join k => rw [if_pos (hl.2.2 k rfl)]; rfl
  case lockA | lockB | woken | lockT => rw [if_pos (ho.resolve_right nofun)]; rfl
  all_goals rfl

theorem holder_enabled (c : Cfg) (s : State) (h : Inv c s) (t : Nat) (ho : s.owner = some t) :
    t ≤ c.n ∧ (step? c s t).isSome = true := by
  cases t with
  | zero =>
    have hc := h.own0.mp ho
    refine ⟨Nat.zero_le _, stepC_enabled (Or.inr hc) ?_⟩
    cases hp : s.cpc <;> rw [hp] at hc
    case bcastA | unlockA | condWait | unlockB | bcastT | unlockT => exact ⟨nofun, nofun, nofun⟩
    all_goals cases hc
  | succ w =>
    have hc := (h.ownW w).mp ho
    have hw : w < c.n := Nat.lt_of_not_le fun hle => by rw [h.idleOut w hle] at hc; cases hc
    refine ⟨hw, ?_⟩
    rw [step?, if_pos hw]
    refine stepW_enabled ?_ (Or.inr hc)
    cases hp : s.wpc w <;> rw [hp] at hc
    case hold | bcast | unlock2 => rfl
    all_goals cases hc

/-- where no thread can move nobody holds the mutex: its holder always can -/
theorem Inv.owner_none_of_stuck {c : Cfg} {s : State} (h : Inv c s) (hst : ∀ t, step? c s t = none) :
    s.owner = none := by
  cases ho : s.owner with
  | none => rfl
  | some t => have := (holder_enabled c s h t ho).2; rw [hst t] at this; cases this

/-- the coordinator pcs whose call neither tests the worker states nor waits for anybody: it goes through as soon as the
    mutex allows it -/
def cSimple : CPc → Bool
  | .create _ | .lockA | .bcastA | .unlockA | .lockB | .unlockB | .lockT | .bcastT | .unlockT => true
  | _ => false

/-- thread `t` is pending: its next pthread call makes progress.  It stays pending along the transitions that do not lower
    `prog` (`pend_stable` in SyncFair), which is what the fairness argument needs. -/
def Pend (c : Cfg) (s : State) : Nat → Prop
  | 0 => cSimple s.cpc = true ∨ (s.cpc = .woken ∧ allWait c s = true) ∨ (∃ k, s.cpc = .join k ∧ s.wpc k = .done)
  | w+1 => w < c.n ∧ ((s.st w ≠ .wait ∧ pcLive (s.wpc w) = true) ∨ s.wpc w = .bcast)

theorem pend_enabled (c : Cfg) (s : State) (t : Nat) (h : Pend c s t) (ho : s.owner = none) :
    (step? c s t).isSome = true := by
  cases t with
  | zero =>
    refine stepC_enabled (Or.inl ho) ?_
    rcases h with h | ⟨h, _⟩ | ⟨k, h, hd⟩
    · cases hp : s.cpc <;> rw [hp] at h
      case condWait | waiting | woken | join | final => cases h
      all_goals exact ⟨nofun, nofun, nofun⟩
    · rw [h]; exact ⟨nofun, nofun, nofun⟩
    · rw [h]; exact ⟨nofun, nofun, fun k' e => by cases e; exact hd⟩
  | succ w =>
    rw [step?, if_pos h.1]
    exact stepW_enabled (h.2.elim And.right fun hb => by rw [hb]; rfl) (Or.inl ho)

theorem pend_exists (c : Cfg) (s : State) (h : Inv c s) (hr : c.repaired = true) (hf : s.cpc ≠ .final) :
    ∃ t, t ≤ c.n ∧ Pend c s t := by
  have live : ∀ j, j < c.n → isCreate s.cpc = false → s.wpc j ≠ .waiting → s.wpc j ≠ .done →
      pcLive (s.wpc j) = true := fun j hj hc h1 h2 => by
    have h0 := h.createdAll hc j hj
    cases hq : s.wpc j
    case idle => exact absurd hq h0
    case waiting => exact absurd hq h1
    case done => exact absurd hq h2
    all_goals rfl
  -- an active worker in state RUN has a next call: it is neither in the wait set nor gone
  have hrun : ∀ j, j < c.active s.blk → s.st j = .run → isCreate s.cpc = false → isBcast s.cpc = false →
      termPhase s.cpc = false → ∃ t, t ≤ c.n ∧ Pend c s t := fun j hj hst hc hb ht =>
    have hjn := Nat.lt_of_lt_of_le hj (active_le c _)
    ⟨j+1, hjn, hjn, Or.inl ⟨by rw [hst]; nofun, live j hjn hc
      (fun hw => by have := (h.waitSt j hw).resolve_right (ne_true_of_eq_false hb); rw [hst] at this; cases this)
      fun hd => ne_true_of_eq_false ht (h.exitTerm j (Or.inr hd))⟩⟩
  cases hp : s.cpc with
  | final => exact absurd hp hf
  | condWait =>
    obtain ⟨j, hj, hst⟩ := h.condRun hr hp
    exact hrun j hj hst (by rw [hp]; rfl) (by rw [hp]; rfl) (by rw [hp]; rfl)
  | waiting =>
    rcases h.waitRun hr hp with ⟨j, hj, hst⟩ | ⟨w, hw⟩
    · exact hrun j hj hst (by rw [hp]; rfl) (by rw [hp]; rfl) (by rw [hp]; rfl)
    · have hwn : w < c.n := Nat.lt_of_not_le fun hle => by rw [h.idleOut w hle] at hw; cases hw
      exact ⟨w+1, hwn, hwn, Or.inr hw⟩
  | woken =>
    cases ha : allWait c s with
    | true => exact ⟨0, Nat.zero_le _, Or.inr (Or.inl ⟨hp, ha⟩)⟩
    | false =>
      obtain ⟨j, hj, hst⟩ := h.exists_run (by rw [hp]; rfl) ha
      exact hrun j hj hst (by rw [hp]; rfl) (by rw [hp]; rfl) (by rw [hp]; rfl)
  | join k =>
    have hk := h.joinLt k hp
    by_cases hd : s.wpc k = .done
    · exact ⟨0, Nat.zero_le _, Or.inr (Or.inr ⟨k, hp, hd⟩)⟩
    · have hst := h.allTerm (by rw [hp]; rfl) k hk
      refine ⟨k+1, hk, hk, Or.inl ⟨by rw [hst]; nofun, live k hk (by rw [hp]; rfl) (fun hw => ?_) hd⟩⟩
      have := (h.waitSt k hw).resolve_right (by rw [hp]; nofun)
      rw [hst] at this; cases this
  | _ => exact ⟨0, Nat.zero_le _, Or.inl (by rw [hp]; rfl)⟩

theorem enabled_of_inv (c : Cfg) (s : State) (h : Inv c s) (hr : c.repaired = true)
    (hf : s.cpc ≠ .final) : Enabled c s := by
  cases ho : s.owner with
  | some t => exact ⟨t, holder_enabled c s h t ho⟩
  | none =>
    obtain ⟨t, ht, hp⟩ := pend_exists c s h hr hf
    exact ⟨t, ht, pend_enabled c s t hp ho⟩

theorem anyEnabled_iff (c : Cfg) (s : State) : anyEnabled c s = true ↔ Enabled c s := by
  simp only [anyEnabled, List.any_eq_true, List.mem_range, Enabled]
  constructor
  · rintro ⟨t, ht, h⟩; exact ⟨t, by omega, h⟩
  · rintro ⟨t, ht, h⟩; exact ⟨t, by omega, h⟩

theorem isFinal_iff {s : State} : isFinal s = true ↔ s.cpc = .final := beq_iff_eq

theorem Inv.anyEnabled {c : Cfg} {s : State} (h : Inv c s) (hr : c.repaired = true) (hf : isFinal s = false) :
    anyEnabled c s = true :=
  (anyEnabled_iff c s).mpr (enabled_of_inv c s h hr fun e => Bool.false_ne_true (hf.symm.trans (isFinal_iff.mpr e)))

/-- the repaired protocol stops only when `walk_descents` has returned -/
theorem final_of_stuck (c : Cfg) (hn : 0 < c.n) (hr : c.repaired = true) {s : State} (h : Reach c s)
    (hne : anyEnabled c s = false) : isFinal s = true := by
  cases hf : isFinal s with
  | true => rfl
  | false => rw [(reach_inv c hn h).anyEnabled hr hf] at hne; cases hne

end PsV.Sync
