import PsV.Proofs.CApiWrapper
import PsV.Proofs.CApi
/-!
# C18 — the C machine refines the C++ twin

Core Lean only.  `cstep` against its two projections: forgetting the objects (`erase`) it is the ownership machine of
Proofs/CApi.lean, forgetting handles and ledger (`abs`) it is the C++ program `tstep`, and the return codes are those of
Proofs/CApiWrapper.lean: one call in `cstep_refines`, histories in `crun_refines`.
-/
namespace PsV.CApi

section
variable {Obj Arg Val : Type}

theorem hget_erase (s : CSt Obj Val) (h : Nat) : hget s.erase h = (hptr s h).st := getD_map HPtr.st (l := s.hs) (d := .null)
theorem rget_erase (s : CSt Obj Val) (r : Nat) : rget s.erase r = (rslot s r).isSome := getD_map Option.isSome (d := none)
theorem tobj_abs (s : CSt Obj Val) (h : Nat) : tobj s.abs h = (hptr s h).obj? := getD_map HPtr.obj? (l := s.hs) (d := .null)

theorem erase_hs_length (s : CSt Obj Val) : s.erase.hs.length = s.hs.length := List.length_map ..
theorem erase_rs_length (s : CSt Obj Val) : s.erase.rs.length = s.rs.length := List.length_map ..

theorem hptr_cases {s : CSt Obj Val} (hi : Inv s.erase) (h : Nat) : hptr s h = .null ∨ ∃ x, hptr s h = .live x := by
  cases hh : hptr s h with
  | null => exact .inl rfl
  | live x => exact .inr ⟨x, rfl⟩
  | dangling => exact absurd ((hget_erase s h).trans (congrArg HPtr.st hh)) (getD_ne_dangling hi.nodangling h)

theorem erase_set (s : CSt Obj Val) (h : Nat) (p : HPtr Obj) (led : Ledger) :
    CSt.erase ⟨s.hs.set h p, s.rs, led, s.ub⟩ = ⟨s.erase.hs.set h p.st, s.erase.rs, led, s.ub⟩ := by
  simp only [CSt.erase, List.map_set]

theorem abs_set (s : CSt Obj Val) (h : Nat) (p : HPtr Obj) (rs : List (Option Val)) (led : Ledger) (ub : Bool) :
    CSt.abs ⟨s.hs.set h p, rs, led, ub⟩ = ⟨s.abs.objs.set h p.obj?, rs, led.buffers⟩ := by
  simp only [CSt.abs, List.map_set]

/-- a live handle stays live: the ownership state does not see which object it holds -/
theorem erase_set_live {s : CSt Obj Val} {h : Nat} {x : Obj} (hh : hptr s h = .live x) (y : Obj)
    (rs : List (Option Val)) (led : Ledger) (ub : Bool) :
    CSt.erase ⟨s.hs.set h (.live y), rs, led, ub⟩ = ⟨s.erase.hs, rs.map Option.isSome, led, ub⟩ := by
  rw [CSt.erase, List.map_set]
  exact congrArg (St.mk · _ _ _) (set_getD_self ((hget_erase s h).trans (hh ▸ rfl)))

theorem cfree_erase (F : LifeFacts) (s : CSt Obj Val) (h : Nat) : (cfree F s h).erase = freeStep F s.erase h := by
  unfold cfree freeStep
  rw [hget_erase]
  cases hh : hptr s h with
  | null => rfl
  | dangling => rfl
  | live x =>
    cases F.freeDeletesTyped <;> cases F.freeResetsHandle <;>
      simp only [CSt.erase, List.map_set, HPtr.st, Bool.false_eq_true, ↓reduceIte]

/-- `delete W[h]; W[h] = nullptr;` — where the handle holds no object nothing changes; whatever the facts, the twin
    sees neither the ledger nor the flag -/
theorem cfree_abs (F : LifeFacts) (s : CSt Obj Val) (h : Nat) :
    (cfree F s h).abs = { s.abs with objs := s.abs.objs.set h none } := by
  have none_set : ∀ {p}, hptr s h = p → p.obj? = none → (s.hs.map HPtr.obj?).set h none = s.hs.map HPtr.obj? :=
    fun hh hp => set_getD_self ((tobj_abs s h).trans (hh ▸ hp))
  unfold cfree
  cases hh : hptr s h with
  | null => simp only [CSt.abs, none_set hh rfl]
  | dangling => simp only [CSt.abs, none_set hh rfl]
  | live x =>
    cases F.freeDeletesTyped <;> cases F.freeResetsHandle <;>
      simp only [CSt.abs, List.map_set, HPtr.obj?, Bool.false_eq_true, ↓reduceIte]

/-- a result that is the faithful one is in particular not an escaping exception -/
theorem agrees_of_eq {e : CCall Arg} {c : CObs Val} {t : TObs Val} (h : c.ret = expected e.retTy (t.out.getD .fail))
    (hv : c.val = t.val) : agrees e c t :=
  ⟨h, h ▸ expected_ne_escapes _ _, hv⟩

/-- the calls of the defined scope obey the usage rule of the ownership machine: every list `opOf` gives is one operation
    of the call's kind on the call's handle and slot (or none), whatever the handle holds -/
theorem opOf_valid (F : LifeFacts) {T : List Wrapper} (sem : Sem Obj Arg Val) {s : CSt Obj Val} {e : CCall Arg}
    (hd : cDefined T s e = true) : validRun F s.erase (opOf sem s e) = true := by
  have one : ∀ op, opValid s.erase op = true → validRun F s.erase [op] = true := fun op h => (validRun_single F _ op).trans h
  cases e with
  | init h oom => exact one _ (by rw [opValid, erase_hs_length, hget_erase]; exact hd)
  | free h => exact one _ (by rw [opValid, erase_hs_length]; exact hd)
  | readFile h a oom => exact one _ (by rw [opValid, erase_hs_length]; exact hd)
  | readMem h a oom =>
    simp only [cDefined, Bool.and_eq_true, decide_eq_true_eq] at hd
    have hv : ∀ op, opValid s.erase op = decide (h < s.erase.hs.length) → validRun F s.erase [op] = true :=
      fun op e => one op (e.trans (by rw [erase_hs_length]; exact decide_eq_true hd.1))
    simp only [opOf]
    split
    · split <;> exact hv _ rfl
    · exact hv _ rfl
    · exact hv _ rfl
  | member w h a sel oom =>
    simp only [cDefined, Bool.and_eq_true, decide_eq_true_eq] at hd
    exact one _ (by rw [opValid, erase_hs_length]; exact decide_eq_true hd.1.1.1.1)
  | grideval nt h slot a oom =>
    simp only [cDefined, Bool.and_eq_true, decide_eq_true_eq, Option.isNone_iff_eq_none] at hd
    have hv : ∀ o, validRun F s.erase [.grideval h slot o] = true := fun o => one _ (by
      simp only [opValid, erase_hs_length, erase_rs_length, rget_erase, hd.1.1, hd.1.2, hd.2, decide_true,
        Option.isSome_none, Bool.not_false, Bool.and_self])
    simp only [opOf]
    split
    · exact hv _
    · split
      · split <;> exact hv _
      · exact hv _
  | destroy slot => exact one _ (by rw [opValid, erase_rs_length]; exact hd)
  | writeMem h a oom =>
    simp only [cDefined, Bool.and_eq_true, decide_eq_true_eq] at hd
    have hv : ∀ op, opValid s.erase op = decide (h < s.erase.hs.length) → validRun F s.erase [op] = true :=
      fun op e => one op (e.trans (by rw [erase_hs_length]; exact decide_eq_true hd.1))
    simp only [opOf]
    split
    · split <;> exact hv _ rfl
    · exact hv _ rfl
  | freeBuffer => exact one _ hd
  | nullArg w p h => rfl

/-- The four parts of one call: its ownership effect is that of the `step`s of Model/CApi.lean, these obey the usage
    rule (`opOf_valid`), the objects / results / buffers afterwards are the twin's, and the C caller sees what a faithful
    wrapper shows for the twin's outcome.  One case per call kind, split by the state of the handle, `oom` and the outcome
    of the C++ operation; in each, `cstep`, `tstep`, `opOf` and `step` are unfolded with the facts of the case, and what
    remains is `erase_set_live`, `erase_set`, `abs_set`, and `agrees_of_eq` with the return literal from `LifeRetsOk` or
    `wrapperOk_sound`. -/
theorem cstep_refines {F : LifeFacts} (hF : F.Good) {T : List Wrapper} (hT : ∀ w ∈ T, wrapperOk w = true) (hL : LifeRetsOk T)
    (sem : Sem Obj Arg Val) (hsem : sem.WF) (s : CSt Obj Val) (hi : Inv s.erase) (e : CCall Arg) (hd : cDefined T s e = true) :
    (cstep F T sem s e).1.erase = run F s.erase (opOf sem s e) ∧ validRun F s.erase (opOf sem s e) = true ∧
    (cstep F T sem s e).1.abs = (tstep sem s.abs e).1 ∧
    agrees e (cstep F T sem s e).2 (tstep sem s.abs e).2 := by
  suffices h : (cstep F T sem s e).1.erase = run F s.erase (opOf sem s e) ∧
      (cstep F T sem s e).1.abs = (tstep sem s.abs e).1 ∧ agrees e (cstep F T sem s e).2 (tstep sem s.abs e).2 from
    ⟨h.1, opOf_valid F sem hd, h.2⟩
  have hA := cfree_abs F s
  cases hF.eq
  cases e with
  | init h oom =>
    cases oom
    · simp only [cstep, tstep, opOf, Bool.false_eq_true, ↓reduceIte, run_single, step]
      exact ⟨erase_set .., abs_set ..,
        agrees_of_eq hL.init_ok rfl⟩
    · simp only [cstep, tstep, opOf, ↓reduceIte, run_single, step]
      exact ⟨trivial, trivial, agrees_of_eq hL.init_throws rfl⟩
  | free h =>
    exact ⟨cfree_erase _ s h, hA h, agrees_of_eq hL.free_ok rfl⟩
  | readFile h a oom =>
    have hA := hA h
    have hE := fun F => cfree_erase F s h
    simp only [cstep, tstep, opOf, ↓reduceIte, run_single, step]
    cases (if oom = true then none else sem.load a) with
    | some x =>
      simp only [← hE]
      refine ⟨erase_set .., ?_, agrees_of_eq hL.readFile_ok rfl⟩
      have hA' := hA
      simp only [CSt.abs, TSt.mk.injEq] at hA'
      simp only [CSt.abs, List.map_set, hA', List.set_set, HPtr.obj?]
    | none => exact ⟨hE _, hA, agrees_of_eq hL.readFile_throws rfl⟩
  | readMem h a oom =>
    simp only [cDefined, Bool.and_eq_true, decide_eq_true_eq] at hd
    have hr := fun x => expected_status_of_ok_throws (op := .readFitsMem) rfl (hsem .readFitsMem a x) hL.readMem_ok hL.readMem_throws
    have hTo := tobj_abs s h
    have hG := hget_erase s h
    rcases hptr_cases hi h with hh | ⟨x, hh⟩
    · rw [hh] at hTo hG
      cases oom
      · simp only [cstep, tstep, opOf, hh, hTo, hG, HPtr.obj?, HPtr.st, Bool.false_eq_true, ↓reduceIte, run_single,
        step]
        exact ⟨erase_set .., abs_set ..,
          agrees_of_eq (hr _) rfl⟩
      · simp only [cstep, tstep, opOf, hh, hTo, hG, HPtr.obj?, HPtr.st, ↓reduceIte, run_single, step]
        exact ⟨trivial, trivial, agrees_of_eq hL.readMem_oom rfl⟩
    · rw [hh] at hTo hG
      simp only [cstep, tstep, opOf, hh, hTo, hG, HPtr.obj?, HPtr.st, ↓reduceIte, run_single, step]
      exact ⟨erase_set_live hh .., abs_set ..,
          agrees_of_eq (hr _) rfl⟩
  | member w h a sel oom =>
    simp only [cDefined, Bool.and_eq_true, decide_eq_true_eq] at hd
    obtain ⟨⟨⟨⟨hlt, hmem⟩, _⟩, hpr⟩, hcase⟩ := hd
    have hw := hT w (List.contains_iff_mem.mp hmem)
    have hTo := tobj_abs s h
    have hG := hget_erase s h
    rcases hptr_cases hi h with hh | ⟨x, hh⟩
    · rw [hh] at hTo hG
      simp only [cstep, tstep, opOf, hh, hTo, hG, HPtr.obj?, HPtr.st, run_single, step]
      exact ⟨trivial, trivial, agrees_of_eq (guardRet_sound hw) rfl⟩
    · rw [hh] at hTo hG hcase
      cases oom
      · cases hp : principal w sel with
        | none => rw [hp] at hpr; cases hpr
        | some c =>
          simp only [cstep, tstep, opOf, hh, hTo, hp, hG, HPtr.obj?, HPtr.st, Bool.false_eq_true, ↓reduceIte,
            run_single, step]
          exact ⟨erase_set_live hh .., abs_set ..,
            agrees_of_eq ((wrapperOk_sound hw).1 c (principal_mem hp) _ (hsem c.op a x)).2 rfl⟩
      · simp only [cstep, tstep, opOf, hh, hTo, hG, HPtr.obj?, HPtr.st, ↓reduceIte, run_single, step]
        exact ⟨trivial, trivial, agrees_of_eq (oomRet_sound hw (by simpa using hcase)).1 rfl⟩
  | grideval nt h slot a oom =>
    simp only [cDefined, Bool.and_eq_true, decide_eq_true_eq, Option.isNone_iff_eq_none] at hd
    obtain ⟨⟨hlt, hslt⟩, hnone⟩ := hd
    have hTo := tobj_abs s h
    have hR : rget s.erase slot = false := by rw [rget_erase, hnone]; rfl
    have hg : agrees (.grideval nt h slot a oom : CCall Arg) ⟨lifeGuardRet T "splinetable_grideval", (none : Option Val)⟩ ⟨none, none⟩ :=
      agrees_of_eq hL.grideval_guard rfl
    cases nt
    case true =>
      simp only [cstep, tstep, opOf, hnone, hR, Bool.false_eq_true, ↓reduceIte, run_single, step,
        Option.isSome_none, Bool.and_false]
      exact ⟨trivial, trivial, hg⟩
    case false =>
    rcases hptr_cases hi h with hh | ⟨x, hh⟩
    · rw [hh] at hTo
      simp only [cstep, tstep, opOf, hnone, hh, hTo, hR, HPtr.obj?, Bool.false_eq_true, ↓reduceIte, run_single,
        step, Option.isSome_none, Bool.and_false]
      exact ⟨trivial, trivial, hg⟩
    · rw [hh] at hTo
      cases oom
      case true =>
        simp only [cstep, tstep, opOf, hnone, hh, hTo, hR, HPtr.obj?, Bool.false_eq_true, ↓reduceIte, run_single,
          step, Option.isSome_none, Bool.and_false]
        exact ⟨trivial, trivial, agrees_of_eq hL.grideval_oom rfl⟩
      case false =>
        have hr := expected_status_of_ok_throws (op := .grideval) rfl (hsem .grideval a x) hL.grideval_ok hL.grideval_throws
        generalize hm : sem.member .grideval a x = r at hr
        obtain ⟨o, x', v⟩ := r
        cases o with
        | ok =>
          simp only [cstep, tstep, opOf, hnone, hh, hTo, hm, hR, HPtr.obj?, Bool.false_eq_true,
            ↓reduceIte, run_single, step, Option.isSome_none, Bool.and_false]
          exact ⟨(erase_set_live hh ..).trans (by simp only [CSt.erase, List.map_set, Option.isSome_some]),
            abs_set .., agrees_of_eq hr rfl⟩
        | fail | throws =>
          simp only [cstep, tstep, opOf, hnone, hh, hTo, hm, hR, HPtr.obj?, Bool.false_eq_true, ↓reduceIte,
            run_single, step, Option.isSome_none, Bool.and_false]
          exact ⟨erase_set_live hh .., abs_set ..,
            agrees_of_eq hr rfl⟩
  | destroy slot =>
    have hR := rget_erase s slot
    cases hs : rslot s slot with
    | none =>
      rw [hs] at hR
      simp only [cstep, tstep, opOf, hs, hR, Bool.false_eq_true, ↓reduceIte, run_single, step,
        Option.isSome_none]
      exact ⟨trivial, by simp only [CSt.abs, set_getD_self (show s.rs.getD slot none = none from hs)], agrees_of_eq hL.destroy_ok rfl⟩
    | some v =>
      rw [hs] at hR
      simp only [cstep, tstep, opOf, hs, hR, ↓reduceIte, run_single, step, Option.isSome_some]
      exact ⟨by simp [CSt.erase, List.map_set], by simp only [CSt.abs], agrees_of_eq hL.destroy_ok rfl⟩
  | writeMem h a oom =>
    simp only [cDefined, Bool.and_eq_true, decide_eq_true_eq, beq_iff_eq] at hd
    obtain ⟨hlt, hlive⟩ := hd
    have hTo := tobj_abs s h
    rcases hptr_cases hi h with hh | ⟨x, hh⟩
    · rw [hh] at hlive; cases hlive
    · rw [hh] at hTo
      cases oom
      case true =>
        simp only [cstep, tstep, opOf, hh, hTo, HPtr.obj?, ↓reduceIte, run_single, step]
        exact ⟨trivial, trivial, agrees_of_eq hL.writeMem_oom rfl⟩
      case false =>
        have hr := expected_status_of_ok_throws (op := .writeFitsMem) rfl (hsem .writeFitsMem a x) hL.writeMem_ok hL.writeMem_throws
        generalize hm : sem.member .writeFitsMem a x = r at hr
        obtain ⟨o, x', v⟩ := r
        cases o with
        | ok =>
          simp only [cstep, tstep, opOf, hh, hTo, hm, HPtr.obj?, Bool.false_eq_true, ↓reduceIte, run_single,
            step]
          exact ⟨erase_set_live hh .., abs_set ..,
            agrees_of_eq hr rfl⟩
        | fail | throws =>
          simp only [cstep, tstep, opOf, hh, hTo, hm, HPtr.obj?, Bool.false_eq_true, ↓reduceIte, run_single,
            step]
          exact ⟨erase_set_live hh .., abs_set ..,
            agrees_of_eq hr rfl⟩
  | freeBuffer =>
    exact ⟨rfl, rfl, agrees_of_eq rfl rfl⟩
  | nullArg w p h =>
    simp only [cDefined, Bool.and_eq_true] at hd
    exact ⟨rfl, rfl, agrees_of_eq (guardRet_sound (hT w (List.contains_iff_mem.mp hd.1.1))) rfl⟩

theorem countP_objs {Obj : Type} (l : List (HPtr Obj)) :
    (l.map HPtr.st).count .live = (l.map HPtr.obj?).countP Option.isSome := by
  rw [List.count_eq_countP, List.countP_map, List.countP_map]
  exact List.countP_congr fun a _ => by cases a <;> rfl

theorem countP_res {Val : Type} (l : List (Option Val)) : (l.map Option.isSome).count true = l.countP Option.isSome := by
  rw [List.count_eq_countP, List.countP_map]
  exact List.countP_congr fun a _ => by cases a <;> rfl

/-- the ledger invariant in the twin's terms -/
theorem inv_abs {s : CSt Obj Val} (hi : Inv s.erase) :
    s.ub = false ∧ (∀ h, hptr s h = .null ∨ ∃ x, hptr s h = .live x) ∧
    s.led.tables = s.abs.objs.countP Option.isSome ∧ s.led.ndObjs = s.abs.res.countP Option.isSome ∧
    s.led.ndArrays = s.abs.res.countP Option.isSome ∧ s.led.buffers = s.abs.bufs := by
  exact ⟨hi.noub, hptr_cases hi, hi.tables.trans (countP_objs _), hi.ndObjs.trans (countP_res _),
    hi.ndArrays.trans (countP_res _), rfl⟩

theorem CSt.init_erase (nh nr : Nat) : (CSt.init nh nr : CSt Obj Val).erase = St.init nh nr := by
  simp only [CSt.init, CSt.erase, St.init, List.map_replicate, HPtr.st, Option.isSome_none]

theorem CSt.init_abs (nh nr : Nat) : (CSt.init nh nr : CSt Obj Val).abs = TSt.init nh nr := by
  simp only [CSt.init, CSt.abs, TSt.init, List.map_replicate, HPtr.obj?]

/-- the history `ops` is the `opOf` of the calls, one after the other; `run_inv` carries `Inv` across each call -/
theorem crun_refines {F : LifeFacts} (hF : F.Good) {T : List Wrapper} (hT : ∀ w ∈ T, wrapperOk w = true) (hL : LifeRetsOk T)
    (sem : Sem Obj Arg Val) (hsem : sem.WF) : ∀ (es : List (CCall Arg)) (s : CSt Obj Val), Inv s.erase → cDefinedRun F T sem s es = true →
    (crun F T sem s es).1.abs = (trun sem s.abs es).1 ∧
    agreesAll es (crun F T sem s es).2 (trun sem s.abs es).2 ∧
    Inv (crun F T sem s es).1.erase ∧
    (∃ ops, validRun F s.erase ops = true ∧ (crun F T sem s es).1.erase = run F s.erase ops)
  | [], s, hi, _ => ⟨rfl, trivial, hi, [], rfl, rfl⟩
  | e :: es, s, hi, hd => by
    simp only [cDefinedRun, Bool.and_eq_true] at hd
    obtain ⟨h1, h2, h3, h4⟩ := cstep_refines hF hT hL sem hsem s hi e hd.1
    obtain ⟨i1, _, _⟩ := run_inv hF (opOf sem s e) s.erase hi h2
    rw [← h1] at i1
    obtain ⟨k1, k2, k3, ops, k4, k5⟩ := crun_refines hF hT hL sem hsem es (cstep F T sem s e).1 i1 hd.2
    simp only [crun, trun]
    rw [← h3]
    refine ⟨k1, ⟨h4, k2⟩, k3, opOf sem s e ++ ops, ?_, ?_⟩
    · rw [validRun_append, h2, ← h1, k4]; rfl
    · rw [run_append, ← h1, k5]

end

end PsV.CApi
