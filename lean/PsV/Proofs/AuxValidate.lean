import PsV.Model.AuxKeys
/-!
What `write_key` accepts (C16): `validate_none_iff` says in plain terms when `validate key val = none`, through the
tests on the key alone (`keyCheck`: an exception or `maxdatalen`) and the tests on the value (`valueCheck`); the two name
tests of the source in plain terms (`reserved_eq`, `writeReserved_false_iff`); an accepted key is a `PlainKey`, an
accepted value a `PlainVal` (`validate_plain`).  On the model alone; nothing here looks at the text of a card.
-/
namespace PsV.Aux
open PsV.Gen

/-! key names the tests of `write_key` and `read_fits_core` single out -/

def endKey : Str := ['E', 'N', 'D']
def historyKey : Str := ['H', 'I', 'S', 'T', 'O', 'R', 'Y']
def continueKey : Str := ['C', 'O', 'N', 'T', 'I', 'N', 'U', 'E']
def extnameKey : Str := ['E', 'X', 'T', 'N', 'A', 'M', 'E']
def hdunameKey : Str := ['H', 'D', 'U', 'N', 'A', 'M', 'E']
def pcountKey : Str := ['P', 'C', 'O', 'U', 'N', 'T']
def gcountKey : Str := ['G', 'C', 'O', 'U', 'N', 'T']
def commentKey : Str := ['C', 'O', 'M', 'M', 'E', 'N', 'T']

/-- printable ASCII: the characters `ffprec` leaves alone -/
def printable (c : Char) : Bool := decide (32 ≤ c.toNat) && decide (c.toNat ≤ 126)

/-- values which `ffprec` does not alter -/
def PlainVal (v : Str) : Prop := ∀ c ∈ v, printable c = true

instance (v : Str) : Decidable (PlainVal v) := by unfold PlainVal; infer_instance

theorem plainVal_append {a b : List Char} : PlainVal (a ++ b) ↔ PlainVal a ∧ PlainVal b := List.forall_mem_append

theorem alnum_facts (c : Char) (h : (c.isUpper || c.isDigit) = true) :
    printable c = true ∧ c ≠ ' ' ∧ c ≠ '=' ∧ stdKeyChar c = true := by
  refine ⟨?_, ?_, ?_, ?_⟩
  · simp only [Char.isUpper, Char.isDigit, Bool.or_eq_true, Bool.and_eq_true, decide_eq_true_eq, UInt32.le_iff_toNat_le,
      Char.reduceVal, UInt32.reduceToNat] at h
    simp only [printable, Char.toNat, Bool.and_eq_true, decide_eq_true_eq]
    omega
  · rintro rfl; exact absurd h (by decide)
  · rintro rfl; exact absurd h (by decide)
  · exact Bool.or_eq_true_iff.mpr (Or.inl (Bool.or_eq_true_iff.mpr (Or.inl h)))

/-- keys made of upper-case letters and digits only -/
def Alnum (k : Str) : Prop := ∀ c ∈ k, (c.isUpper || c.isDigit) = true

theorem Alnum.printable {k : Str} (h : Alnum k) : ∀ c ∈ k, printable c = true := fun c hc => (alnum_facts c (h c hc)).1

theorem Alnum.not_blank {k : Str} (h : Alnum k) : ' ' ∉ k := fun hm => (alnum_facts _ (h _ hm)).2.1 rfl

theorem Alnum.not_eq {k : Str} (h : Alnum k) : '=' ∉ k := fun hm => (alnum_facts _ (h _ hm)).2.2.1 rfl

theorem Alnum.stdKeyChar {k : Str} (h : Alnum k) : k.all stdKeyChar = true :=
  List.all_eq_true.mpr fun c hc => (alnum_facts c (h c hc)).2.2.2

/-- what the name tests of `write_key` leave of a key, in the terms of the card reader: not empty and no blank at either end
    (cfitsio strips them), no `HIERARCH ` prefix (the marker of the long-keyword convention), not END / HISTORY / CONTINUE
    (read back as the end of the header or as commentary), printable ASCII (`ffprec` blanks anything else).  Every accepted
    key is one (`validate_plain`); for a card to hold the key verbatim it must also be free of `=`, which acceptance gives
    separately (`validate_none_iff`). -/
structure PlainKey (k : Str) : Prop where
  ne : k ≠ []
  head : k.head? ≠ some ' '
  last : k.getLast? ≠ some ' '
  noHier : hierPrefix.isPrefixOf k = false
  notEnd : k ≠ endKey
  notHistory : k ≠ historyKey
  notContinue : k ≠ continueKey
  print : ∀ c ∈ k, printable c = true

theorem outOfRange_key (c : Char) : outOfRange C16.keyCharRange c = !printable c := by
  simp only [outOfRange, C16.keyCharRange, printable, Bool.not_and, ← decide_not, Nat.not_le]

theorem outOfRange_value (c : Char) : outOfRange C16.valueCharRange c = !printable c := outOfRange_key c

theorem longKeyScan_none_iff (k : Str) :
    longKeyScan k = none ↔ (∀ c ∈ k, printable c = true) ∧ '=' ∉ k ∧ ∀ c ∈ k, c.isLower = false := by
  induction k with
  | nil => exact ⟨fun _ => ⟨List.forall_mem_nil _, List.not_mem_nil, List.forall_mem_nil _⟩, fun _ => rfl⟩
  | cons c r ih =>
    rw [longKeyScan, outOfRange_key, List.forall_mem_cons, List.forall_mem_cons, List.mem_cons, not_or]
    cases hp : printable c
    · exact ⟨nofun, fun h => nomatch h.1.1⟩
    rw [if_neg nofun]
    by_cases he : c = '='
    · subst he; exact ⟨nofun, fun h => absurd rfl h.2.1.1⟩
    rw [if_neg (by simpa using he)]
    cases hl : c.isLower
    · rw [if_neg nofun, ih]
      exact ⟨fun ⟨a, b, d⟩ => ⟨⟨rfl, a⟩, ⟨Ne.symm he, b⟩, rfl, d⟩, fun ⟨a, b, d⟩ => ⟨a.2, b.2, d.2⟩⟩
    · exact ⟨nofun, fun h => nomatch h.2.2.1⟩

theorem longKeyScan_none (k : Str) (h : longKeyScan k = none) : '=' ∉ k := ((longKeyScan_none_iff k).mp h).2.1

theorem any_outOfRange_value (v : Str) : v.any (outOfRange C16.valueCharRange) = false ↔ PlainVal v := by
  simp only [List.any_eq_false, outOfRange_value, Bool.not_eq_true', Bool.not_eq_false, PlainVal]

theorem edgeBlank_false_iff (k : Str) :
    edgeBlank k = false ↔ k ≠ [] ∧ k.head? ≠ some ' ' ∧ k.getLast? ≠ some ' ' := by
  cases k <;> simp [edgeBlank]

theorem strncmpEq_prefix (lit key : List Char) (hl : '\x00' ∉ lit) :
    strncmpEq lit.length (cstr lit) (cstr key) = lit.isPrefixOf key := by
  induction lit generalizing key with
  | nil => rfl
  | cons a r ih =>
    have ha : a ≠ '\x00' := fun x => hl (x ▸ List.mem_cons_self)
    cases key with
    | nil => simp only [cstr, List.cons_append, List.nil_append, List.length_cons, strncmpEq, ne_eq, ha, not_false_eq_true,
        if_true, List.isPrefixOf]
    | cons b s =>
      simp only [cstr, List.cons_append, List.length_cons, strncmpEq, List.isPrefixOf]
      by_cases hab : a = b
      · subst hab
        simp only [ne_eq, not_true_eq_false, if_false, ha, BEq.rfl, Bool.true_and]
        exact ih s fun x => hl (List.mem_cons_of_mem _ x)
      · simp [hab]

theorem reserved_table_facts : ∀ p ∈ C16.reservedPrefixes, p.2 = p.1.length ∧ '\x00' ∉ p.1 := by decide +kernel

theorem reserved_eq (key : Str) : reserved key = C16.reservedPrefixes.any fun p => p.1.isPrefixOf key := by
  rw [reserved, Bool.eq_iff_iff, List.any_eq_true, List.any_eq_true]
  refine exists_congr fun p => and_congr_right fun hp => ?_
  obtain ⟨h1, h2⟩ := reserved_table_facts p hp
  show strncmpEq p.2 (cstr p.1) (cstr key) = true ↔ _
  rw [h1, strncmpEq_prefix p.1 key h2]

theorem reserved_iff_prefix (key : Str) : reserved key = true ↔ ∃ p ∈ C16.reservedPrefixes, p.1 <+: key := by
  simp only [reserved_eq, List.any_eq_true, List.isPrefixOf_iff_prefix]

theorem writeReserved_table : C16.writeReservedPrefixes = [(hierPrefix, 9)] ∧
    C16.writeReservedExact = [endKey, historyKey, continueKey, extnameKey, hdunameKey, pcountKey, gcountKey] := ⟨rfl, rfl⟩

theorem writeReserved_false_iff (k : Str) :
    writeReserved k = false ↔ hierPrefix.isPrefixOf k = false ∧ k ≠ endKey ∧ k ≠ historyKey ∧ k ≠ continueKey ∧
      k ≠ extnameKey ∧ k ≠ hdunameKey ∧ k ≠ pcountKey ∧ k ≠ gcountKey := by
  unfold writeReserved
  rw [writeReserved_table.1, writeReserved_table.2]
  simp only [List.any_cons, List.any_nil, Bool.or_false, show strncmpEq 9 (cstr hierPrefix) (cstr k) = _ from
    strncmpEq_prefix hierPrefix k (by decide), Bool.or_eq_false_iff, beq_eq_false_iff_ne, ne_comm (b := k)]

theorem badShortChar_false_iff (c : Char) : badShortChar c = false ↔ (c.isUpper || c.isDigit) = true := by
  unfold badShortChar
  constructor
  · intro h
    simp only [Bool.or_eq_false_iff, Bool.not_eq_false'] at h
    exact h.1.1
  · intro h
    have hd : c ≠ '-' := by rintro rfl; exact absurd h (by decide)
    have hu : c ≠ '_' := by rintro rfl; exact absurd h (by decide)
    simp [h, hd, hu]

theorem any_badShortChar_false_iff (k : Str) : k.any badShortChar = false ↔ Alnum k := by
  simp only [List.any_eq_false, Bool.not_eq_true, badShortChar_false_iff, Alnum]

/-- the syntax and length tests of `write_key` on the key alone: an exception, or `maxdatalen` -/
def keyCheck (key : Str) : Sum WErr Nat :=
  if key.length + 1 ≤ C16.shortKeylenMax then
    if key.any badShortChar then .inl .shortChar else .inr C16.shortMaxData
  else
    match longKeyScan key with
    | some e => .inl e
    | none =>
      match C16.longKeyGuard with
      | some (b, a) => if b + (key.length + 1) - 1 ≥ a then .inl .keyTooLong else .inr (longMaxData (key.length + 1))
      | none => .inr (longMaxData (key.length + 1))

/-- the tests on the value, given `maxdatalen` -/
def valueCheck (val : Str) (maxdatalen : Nat) : Option WErr :=
  if val.any (outOfRange C16.valueCharRange) then some .valueNonPrintable else
  if val.length + countQuotes val > maxdatalen then some .valueTooLong else none

theorem validate_eq (key val : Str) :
    validate key val =
      if reserved key then some .reserved else
      if C16.edgeBlankCheck && edgeBlank key then some .edgeBlank else
      if writeReserved key then some .reserved else
      match keyCheck key with
      | .inl e => some e
      | .inr maxdatalen => valueCheck val maxdatalen := rfl

theorem ite_some_eq_none {α : Type} {c : Prop} [Decidable c] {e : α} {x : Option α} :
    (if c then some e else x) = none ↔ ¬ c ∧ x = none := by
  by_cases h : c
  · rw [if_pos h]; exact ⟨nofun, fun h' => absurd h h'.1⟩
  · rw [if_neg h]; exact ⟨fun hx => ⟨h, hx⟩, And.right⟩

theorem valueCheck_none_iff (val : Str) (m : Nat) :
    valueCheck val m = none ↔ val.length + countQuotes val ≤ m ∧ PlainVal val := by
  rw [valueCheck, ite_some_eq_none, ite_some_eq_none, Bool.not_eq_true, any_outOfRange_value, Nat.not_lt]
  exact ⟨fun h => ⟨h.2.1, h.1⟩, fun h => ⟨h.2, h.1, rfl⟩⟩

/-- in the range the guard lets through, the `size_t` subtraction does not wrap -/
theorem longMaxData_eq (n : Nat) (h : n ≤ 66) : longMaxData (n + 1) = 67 - n := by
  have hx : 13 + n ≤ 80 := Nat.add_le_add_left (Nat.le_trans h (by decide : 66 ≤ 67)) 13
  show (80 + 2 ^ 64 - (13 + n + 1 - 1) % 2 ^ 64) % 2 ^ 64 = 67 - n
  rw [Nat.add_sub_cancel, Nat.mod_eq_of_lt (Nat.lt_of_le_of_lt hx (by decide)), Nat.add_comm 80, Nat.add_sub_assoc hx,
    Nat.add_mod_left, Nat.sub_add_eq, Nat.mod_eq_of_lt (Nat.lt_of_le_of_lt (Nat.sub_le ..) (by decide))]

theorem keyCheck_short (key : Str) (h : key.length ≤ 8) :
    keyCheck key = if key.any badShortChar then .inl .shortChar else .inr 68 :=
  if_pos (Nat.succ_le_succ h)

theorem keyCheck_long (key : Str) (h : 9 ≤ key.length) :
    keyCheck key = match longKeyScan key with
      | some e => .inl e
      | none => if 67 ≤ key.length then .inl .keyTooLong else .inr (67 - key.length) := by
  rw [keyCheck, if_neg (c := key.length + 1 ≤ C16.shortKeylenMax) (Nat.not_le.mpr (Nat.succ_le_succ h))]
  cases longKeyScan key with
  | some e => rfl
  | none =>
    show (if 13 + (key.length + 1) - 1 ≥ 80 then _ else _) = _
    by_cases hg : 67 ≤ key.length
    · rw [if_pos hg, if_pos (c := 13 + (key.length + 1) - 1 ≥ 80) (Nat.add_le_add_left hg 13)]
    · rw [if_neg hg, if_neg (c := 13 + (key.length + 1) - 1 ≥ 80) fun h' => hg (Nat.le_of_add_le_add_left (a := 13) h'),
        longMaxData_eq _ (Nat.le_of_lt_succ (Nat.not_le.mp hg))]

theorem validate_none_iff (key val : Str) :
    validate key val = none ↔
      reserved key = false ∧ edgeBlank key = false ∧ writeReserved key = false ∧
      (key.length ≤ 8 → Alnum key ∧ val.length + countQuotes val ≤ 68) ∧
      (9 ≤ key.length → ((∀ c ∈ key, printable c = true) ∧ '=' ∉ key ∧ ∀ c ∈ key, c.isLower = false) ∧
        key.length ≤ 66 ∧ key.length + (val.length + countQuotes val) ≤ 67) ∧
      PlainVal val := by
  rw [validate_eq, ite_some_eq_none, ite_some_eq_none, ite_some_eq_none, Bool.not_eq_true, Bool.not_eq_true,
    Bool.not_eq_true, show C16.edgeBlankCheck = true from rfl, Bool.true_and]
  refine and_congr_right fun _ => and_congr_right fun _ => and_congr_right fun _ => ?_
  by_cases hlen : key.length ≤ 8
  · have hn9 : ¬ 9 ≤ key.length := Nat.not_le.mpr (Nat.lt_succ_of_le hlen)
    rw [keyCheck_short key hlen, ← any_badShortChar_false_iff]
    cases key.any badShortChar
    · exact (valueCheck_none_iff val 68).trans
        ⟨fun h => ⟨fun _ => ⟨rfl, h.1⟩, fun h9 => absurd h9 hn9, h.2⟩, fun h => ⟨(h.1 hlen).2, h.2.2⟩⟩
    · exact ⟨nofun, fun h => nomatch (h.1 hlen).1⟩
  · have h9 : 9 ≤ key.length := Nat.not_le.mp hlen
    rw [keyCheck_long key h9, ← longKeyScan_none_iff]
    cases longKeyScan key with
    | some e => exact ⟨nofun, fun h => nomatch (h.2.1 h9).1⟩
    | none =>
      by_cases hg : 67 ≤ key.length
      · rw [if_pos hg]; exact ⟨nofun, fun h => absurd (Nat.le_trans hg (h.2.1 h9).2.1) (by decide)⟩
      · rw [if_neg hg]
        have h66 : key.length ≤ 66 := Nat.le_of_lt_succ (Nat.not_le.mp hg)
        exact (valueCheck_none_iff val _).trans
          ⟨fun h => ⟨fun h8 => absurd h8 hlen, fun _ => ⟨rfl, h66,
              Nat.add_comm .. ▸ Nat.add_le_of_le_sub (Nat.le_succ_of_le h66) h.1⟩, h.2⟩,
            fun h => ⟨Nat.le_sub_of_add_le' (h.2.1 h9).2.2, h.2.2⟩⟩

theorem validate_plain (key val : Str) (h : validate key val = none) : PlainKey key ∧ PlainVal val := by
  obtain ⟨_, he, hw, hshort, hlong, hv⟩ := (validate_none_iff key val).mp h
  obtain ⟨h1, h2, h3⟩ := (edgeBlank_false_iff key).mp he
  obtain ⟨h4, h5, h6, h7, _⟩ := (writeReserved_false_iff key).mp hw
  refine ⟨⟨h1, h2, h3, h4, h5, h6, h7, ?_⟩, hv⟩
  by_cases hlen : key.length ≤ 8
  · exact (hshort hlen).1.printable
  · exact (hlong (Nat.not_le.mp hlen)).1.1

/-- every entry was accepted by `write_key` -/
def Accepted (st : Store) : Prop := ∀ e ∈ st, validate e.1 e.2 = none

end PsV.Aux
