import PsV.Proofs.Rounding
import PsV.Proofs.GlamCont
import PsV.Proofs.GlamGrid
/-!
# Forward error of grid evaluation under rounding

The model definitions of `Model/Glam.lean` (`bsplineG`, `bsplineBasis`, `sliceMultiply`, `coefTensor`,
`gridLoop`, `gridEval`, `NdSparse.get`) are run at two instances of the arithmetic bundle on one ordered
field `F` (as in `Proofs/Rounding.lean` for the pointwise routine):

* `Arith.ofField F` — exact;
* `Arith.rounded fl st` — every `+ − × ÷` is followed by the rounding `fl`, comparisons exact
  (the array kernels never store into a `Float`-typed variable, so `st` does not occur).

Three tensors are carried through the chain of slice multiplications, entry by entry: the exact one, the
rounded one and the **majorant** (exact arithmetic, coefficients replaced by their magnitudes; the basis
values are non-negative, so the basis matrices are their own majorants).  `EntsRel ε k` says that the
three entry lists list the same index tuples in the same order and that every rounded value is within
`gfac ε k · majorant` of the exact one.  One call is `sliceMultiply_rel`; a sequence of calls with any two lists of
matrices related matrix by matrix (`MatsRel`) is `modeLoop_rel`, and the loop of `grideval` is its instance on
`gridBases` (`gridBases_rel`, through `gridLoop_eq_modeLoop` as on the exact side).

The file ends with the concrete data at `Rat` (the table `exGrid2`, the sparse tensor of `exSparse_wf`, C01's example
table `exTable1_*`, all with integer knots) and the rounding that is not the identity (`relErr_scale`) on which the
examples of `Props/C17.lean` show the hypotheses can be met.
-/
namespace PsV
set_option linter.unusedSectionVars false
variable {F : Type} [Field F] [LinearOrder F] [IsStrictOrderedRing F]
variable {ε : F} {fl st : F → F}

theorem isZero_of (a : F) : @isZero F (Arith.ofField F) a = decide (a = 0) :=
  Bool.eq_iff_iff.2 ((@isZero_iff F _ _ (Arith.ofField F) _ a).trans decide_eq_true_iff.symm)

/-- the zero test reads `lt` and `zero` only, which the rounded arithmetic shares with the exact one -/
theorem isZero_rd (a : F) : @isZero F (Arith.rounded fl st) a = decide (a = 0) := isZero_of a

section
attribute [local instance] Arith.ofField

/-- sign and support of the exact recursion: it is `Bind` at the right-continuous indicator (`bsplineG_eq_Bind`), which
fires only at an interval `[t_m, t_{m+1})` that holds `x` -/
theorem bsplineG_nonneg_support (t : Int → F) (x : F) (n : Nat) (i : Int) (hm : MonoOn t i (i + n + 1)) :
    0 ≤ bsplineG t x n i ∧ (bsplineG t x n i ≠ 0 → t i ≤ x ∧ x < t (i + n + 1)) := by
  rw [bsplineG_eq_Bind]
  have hind := fun m => (indR_iff t x m).1
  refine ⟨Bind_nonneg_of_bracket _ t x n i hm fun m _ _ h => ⟨(hind m h).1, (hind m h).2.le⟩, fun h => ?_⟩
  obtain ⟨m, hf, h1, h2⟩ := Bind_fires _ t x n i h
  exact ⟨(hm i m (le_refl _) h1 (by omega)).trans (hind m hf).1,
    (hind m hf).2.trans_le (hm (m + 1) (i + n + 1) (by omega) (by omega) (le_refl _))⟩

end

/-- one term `(u−v)·g/(p−q)` of the recursion of `bspline()` (skipped when `p = q`): on top of the roundings of `g`, one
each for `u − v`, the product, `p − q` and the quotient; the term is non-negative -/
theorem bsplineTerm_relerr (hε : 0 ≤ ε) (hfl : ∀ a, RelErr ε 1 a (fl a)) {k : Nat} {u v p q g gR : F}
    (hg : RelErr ε k g gR) (hg0 : 0 ≤ g) (ha : g ≠ 0 → v ≤ u) (hd : q ≤ p) :
    RelErr ε (k + 4) (if p - q = 0 then 0 else (u - v) * g / (p - q))
        (if p - q = 0 then 0 else fl (fl (fl (u - v) * gR) / fl (p - q))) ∧
      0 ≤ (if p - q = 0 then 0 else (u - v) * g / (p - q)) := by
  by_cases h : p - q = 0
  · simp only [if_pos h]
    exact ⟨RelErr.of_zero hε _, le_refl _⟩
  · simp only [if_neg h]
    refine ⟨?_, ?_⟩
    · exact (RelErr.round hε hfl (RelErr.div hε (RelErr.round hε hfl (RelErr.mul hε (hfl _) hg)) (hfl _))).mono hε
        (by omega)
    · by_cases hg' : g = 0
      · rw [hg', mul_zero, zero_div]
      · exact div_nonneg (mul_nonneg (sub_nonneg.2 (ha hg')) hg0) (sub_nonneg.2 hd)

/-- **`bspline(knots, x, i, n)` under rounding**: on a non-decreasing knot window the value carries at most
`5n` roundings (per level: one subtraction `x − t_i` resp. `t_{i+n+1} − x`, one product, one knot
difference, one quotient, one sum), is non-negative, and vanishes outside `[t_i, t_{i+n+1})`.  Only the count is
proved here; sign and support are those of the exact function (`bsplineG_nonneg_support`), and they are what keeps
every term of the recursion free of cancellation. -/
theorem bsplineG_relerr (hε : 0 ≤ ε) (hfl : ∀ a, RelErr ε 1 a (fl a)) (t : Int → F) (x : F) (n : Nat) :
    ∀ i : Int, MonoOn t i (i + n + 1) →
      RelErr ε (5 * n) (@bsplineG F (Arith.ofField F) t x n i) (@bsplineG F (Arith.rounded fl st) t x n i) ∧
      0 ≤ @bsplineG F (Arith.ofField F) t x n i ∧
      (@bsplineG F (Arith.ofField F) t x n i ≠ 0 → t i ≤ x ∧ x < t (i + n + 1)) := by
  suffices h : ∀ i : Int, MonoOn t i (i + n + 1) →
      RelErr ε (5 * n) (@bsplineG F (Arith.ofField F) t x n i) (@bsplineG F (Arith.rounded fl st) t x n i) from
    fun i hm => ⟨h i hm, bsplineG_nonneg_support t x n i hm⟩
  induction n with
  | zero =>
    intro i _
    simp only [bsplineG, of_le, of_lt, of_one, of_zero, rd_le, rd_lt, rd_one, rd_zero]
    exact RelErr.refl _
  | succ n ih =>
    intro i hm
    have e3 : i + ((n + 1 : Nat) : Int) + 1 = i + n + 2 := by push_cast; ring
    rw [e3] at hm
    have hm1 : MonoOn t i (i + n + 1) := hm.sub (le_refl _) (by omega)
    have hm2 : MonoOn t (i + 1) (i + 1 + n + 1) := hm.sub (by omega) (by omega)
    obtain ⟨p1, s1⟩ := bsplineG_nonneg_support t x n i hm1
    obtain ⟨p2, s2⟩ := bsplineG_nonneg_support t x n (i + 1) hm2
    rw [show i + 1 + (n : Int) + 1 = i + n + 2 by ring] at s2
    obtain ⟨T1, N1⟩ := bsplineTerm_relerr hε hfl (u := x) (ih i hm1) p1 (fun h => (s1 h).1)
      (hm i (i + n + 1) (le_refl _) (by omega) (by omega))
    obtain ⟨T2, N2⟩ := bsplineTerm_relerr hε hfl (v := x) (ih (i + 1) hm2) p2 (fun h => le_of_lt (s2 h).2)
      (hm (i + 1) (i + n + 2) (by omega) (by omega) (le_refl _))
    have z1 : (fl (t (i + n + 1) - t i) = 0) ↔ (t (i + n + 1) - t i = 0) := (hfl _).eq_zero_iff hε
    have z2 : (fl (t (i + n + 2) - t (i + 1)) = 0) ↔ (t (i + n + 2) - t (i + 1) = 0) := (hfl _).eq_zero_iff hε
    simp only [bsplineG, isZero_of, isZero_rd, of_sub, of_mul, of_div, of_add, of_zero, rd_sub, rd_mul, rd_div,
      rd_add, rd_zero, decide_eq_true_eq, z1, z2]
    rw [show 5 * (n + 1) = 5 * n + 4 + 1 by ring]
    by_cases h2 : t (i + n + 2) - t (i + 1) = 0
    · rw [if_pos h2, if_pos h2]
      exact T1.mono hε (by omega)
    · simp only [if_neg h2] at T2 N2
      rw [if_neg h2, if_neg h2]
      exact RelErr.round hε hfl (RelErr.add_nonneg hε T1 T2 N1 N2)

/-- the three lists list the same index tuples in the same order; every rounded value `w` is within
`gfac ε k · m` of the exact value `v`, and `|v| ≤ m` -/
inductive EntsRel (ε : F) (k : Nat) :
    List (List Nat × F) → List (List Nat × F) → List (List Nat × F) → Prop
  | nil : EntsRel ε k [] [] []
  | cons {i : List Nat} {v w m : F} {lE lR lM : List (List Nat × F)} :
      Acc ε k m v w → EntsRel ε k lE lR lM → EntsRel ε k ((i, v) :: lE) ((i, w) :: lR) ((i, m) :: lM)

theorem EntsRel.append {k : Nat} {a1 a2 a3 b1 b2 b3 : List (List Nat × F)}
    (h : EntsRel ε k a1 a2 a3) (h' : EntsRel ε k b1 b2 b3) :
    EntsRel ε k (a1 ++ b1) (a2 ++ b2) (a3 ++ b3) := by
  induction h with
  | nil => simpa using h'
  | cons hacc _ ih => exact EntsRel.cons hacc ih

theorem EntsRel.mono (hε : 0 ≤ ε) {k k' : Nat} {a b c : List (List Nat × F)} (hk : k ≤ k')
    (h : EntsRel ε k a b c) : EntsRel ε k' a b c := by
  induction h with
  | nil => exact .nil
  | cons hacc _ ih => exact .cons (hacc.mono hε hk) ih

theorem EntsRel.filterMap {k : Nat} (I : Nat → List Nat) (cE cR cM vE vR vM : Nat → F) (gs : List Nat)
    (hR : ∀ g ∈ gs, cR g = 0 ↔ cE g = 0) (hM : ∀ g ∈ gs, cM g = 0 ↔ cE g = 0)
    (hacc : ∀ g ∈ gs, cE g ≠ 0 → Acc ε k (vM g) (vE g) (vR g)) :
    EntsRel ε k
      (gs.filterMap fun g => if @isZero F (Arith.ofField F) (cE g) then none else some (I g, vE g))
      (gs.filterMap fun g => if @isZero F (Arith.rounded fl st) (cR g) then none else some (I g, vR g))
      (gs.filterMap fun g => if @isZero F (Arith.ofField F) (cM g) then none else some (I g, vM g)) := by
  induction gs with
  | nil => exact .nil
  | cons g gs ih =>
    have ih' := ih (fun a ha => hR a (by simp [ha])) (fun a ha => hM a (by simp [ha]))
      (fun a ha => hacc a (by simp [ha]))
    simp only [List.filterMap_cons, isZero_of, isZero_rd, decide_eq_true_eq, hR g (by simp), hM g (by simp)] at ih' ⊢
    by_cases hz : cE g = 0
    · simp only [hz, if_true]
      exact ih'
    · simp only [hz, if_false]
      exact .cons (hacc g (by simp) hz) ih'

/-- the three tensors have the same index ranges and aligned entries -/
structure TRel (ε : F) (k : Nat) (E R M : NdSparse F) : Prop where
  rR : R.ranges = E.ranges
  rM : M.ranges = E.ranges
  ents : EntsRel ε k E.entries R.entries M.entries

/-- **reading a cell**: `get` adds the `N` listed values up (`fl` after every addition), so the cell
carries `N` more roundings than its entries -/
theorem TRel.get (hε : 0 ≤ ε) (hfl : ∀ a, RelErr ε 1 a (fl a)) {k : Nat} {E R M : NdSparse F}
    (h : TRel ε k E R M) (idx : List Nat) :
    Acc ε (k + E.nlisted idx) (@NdSparse.get F (Arith.ofField F) M idx)
      (@NdSparse.get F (Arith.ofField F) E idx) (@NdSparse.get F (Arith.rounded fl st) R idx) := by
  obtain ⟨rE, lE⟩ := E
  obtain ⟨rR, lR⟩ := R
  obtain ⟨rM, lM⟩ := M
  have he := h.ents
  simp only at he
  unfold NdSparse.get NdSparse.nlisted
  simp only [of_add, of_zero, rd_add, rd_zero]
  clear h
  induction he with
  | nil => exact Acc.zero _
  | @cons i v w m lE lR lM hacc _ ih =>
    simp only [List.foldr_cons]
    by_cases hi : i = idx
    · simp only [if_pos hi]
      have := Acc.add_round hε hfl (hacc.mono hε (Nat.le_add_right k _)) ih
      simpa [Nat.add_assoc] using this
    · simp only [if_neg hi]
      exact ih

theorem TRel.wfM {k : Nat} {E R M : NdSparse F} (h : TRel ε k E R M) (hwf : E.WF) : M.WF := by
  obtain ⟨rE, lE⟩ := E
  obtain ⟨rR, lR⟩ := R
  obtain ⟨rM, lM⟩ := M
  have he := h.ents
  have hr : rM = rE := h.rM
  subst hr
  simp only at he
  unfold NdSparse.WF at hwf ⊢
  simp only at hwf ⊢
  clear h
  induction he with
  | nil => intro e he; simp at he
  | @cons i v w m lE lR lM _ _ ih =>
    intro e he
    rcases List.mem_cons.mp he with rfl | he'
    · exact hwf (i, v) (by simp)
    · exact ih (fun e' he'' => hwf e' (by simp [he''])) e he'

theorem TRel.ofExact (a : NdSparse F) : TRel ε 0 a a ⟨a.ranges, a.entries.map fun e => (e.1, |e.2|)⟩ := by
  refine ⟨rfl, rfl, ?_⟩
  simp only
  induction a.entries with
  | nil => exact .nil
  | cons e es ih => exact .cons (Acc.refl _) ih

theorem slice_entry_rel (hε : 0 ≤ ε) (hfl : ∀ a, RelErr ε 1 a (fl a)) {k kb : Nat} {m v w : F}
    (hacc : Acc ε k m v w) (I : Nat → List Nat) (βE βR : Nat → F) (gs : List Nat)
    (hb : ∀ g ∈ gs, RelErr ε kb (βE g) (βR g) ∧ 0 ≤ βE g) :
    EntsRel ε (k + kb + 1)
      (gs.filterMap fun g => if @isZero F (Arith.ofField F) (βE g) then none
        else some (I g, @Arith.mul F (Arith.ofField F) (βE g) v))
      (gs.filterMap fun g => if @isZero F (Arith.rounded fl st) (βR g) then none
        else some (I g, @Arith.mul F (Arith.rounded fl st) (βR g) w))
      (gs.filterMap fun g => if @isZero F (Arith.ofField F) (βE g) then none
        else some (I g, @Arith.mul F (Arith.ofField F) (βE g) m)) :=
  EntsRel.filterMap I βE βR βE (fun g => βE g * v) (fun g => fl (βR g * w)) (fun g => βE g * m) gs
    (fun g hg => (hb g hg).1.eq_zero_iff hε) (fun _ _ => Iff.rfl)
    (fun g hg _ => Acc.mul_round hε hfl hacc (hb g hg).1 (hb g hg).2)

theorem slice_entries_rel (hε : 0 ≤ ε) (hfl : ∀ a, RelErr ε 1 a (fl a)) (ranges ranges' : List Nat)
    (dim ncol : Nat) (bE bR : Nat → Nat → F) {k kb : Nat} {lE lR lM : List (List Nat × F)}
    (h : EntsRel ε k lE lR lM)
    (hb : ∀ e ∈ lE, ∀ g, g < ncol →
      RelErr ε kb (bE (e.1.getD dim 0) g) (bR (e.1.getD dim 0) g) ∧ 0 ≤ bE (e.1.getD dim 0) g) :
    EntsRel ε (k + kb + 1)
      (lE.flatMap fun e => (List.range ncol).filterMap fun g =>
        if @isZero F (Arith.ofField F) (bE (e.1.getD dim 0) g) then none
        else some (unflattenIdx ranges' dim g (flattenCol ranges e.1 dim),
          @Arith.mul F (Arith.ofField F) (bE (e.1.getD dim 0) g) e.2))
      (lR.flatMap fun e => (List.range ncol).filterMap fun g =>
        if @isZero F (Arith.rounded fl st) (bR (e.1.getD dim 0) g) then none
        else some (unflattenIdx ranges' dim g (flattenCol ranges e.1 dim),
          @Arith.mul F (Arith.rounded fl st) (bR (e.1.getD dim 0) g) e.2))
      (lM.flatMap fun e => (List.range ncol).filterMap fun g =>
        if @isZero F (Arith.ofField F) (bE (e.1.getD dim 0) g) then none
        else some (unflattenIdx ranges' dim g (flattenCol ranges e.1 dim),
          @Arith.mul F (Arith.ofField F) (bE (e.1.getD dim 0) g) e.2)) := by
  induction h with
  | nil => exact .nil
  | @cons i v w m lE lR lM hacc _ ih =>
    simp only [List.flatMap_cons]
    refine EntsRel.append ?_ (ih (fun e he g hg => hb e (by simp [he]) g hg))
    exact slice_entry_rel hε hfl hacc (fun g => unflattenIdx ranges' dim g (flattenCol ranges i dim))
      (fun g => bE (i.getD dim 0) g) (fun g => bR (i.getD dim 0) g) (List.range ncol)
      (fun g hg => hb (i, v) (by simp) g (List.mem_range.mp hg))

theorem sliceMultiply_rel (hε : 0 ≤ ε) (hfl : ∀ a, RelErr ε 1 a (fl a)) {k kb : Nat} {aE aR aM : NdSparse F}
    (h : TRel ε k aE aR aM) (bE bR : Mat F) (dim : Nat) (hnr : bR.nrow = bE.nrow) (hnc : bR.ncol = bE.ncol)
    (hb : ∀ j g, j < bE.nrow → g < bE.ncol → RelErr ε kb (bE.val j g) (bR.val j g) ∧ 0 ≤ bE.val j g)
    (hwf : aE.WF) (hd : dim < aE.ranges.length) (hdim : bE.nrow = aE.ranges.getD dim 0) :
    ∃ cE cR cM, @sliceMultiply F (Arith.ofField F) aE bE dim = some cE ∧
      @sliceMultiply F (Arith.rounded fl st) aR bR dim = some cR ∧
      @sliceMultiply F (Arith.ofField F) aM bE dim = some cM ∧ TRel ε (k + kb + 1) cE cR cM := by
  refine ⟨_, _, _, sliceMultiply_eq_some (A := Arith.ofField F) aE bE dim hdim,
    sliceMultiply_eq_some (A := Arith.rounded fl st) aR bR dim (by rw [hnr, h.rR]; exact hdim),
    sliceMultiply_eq_some (A := Arith.ofField F) aM bE dim (by rw [h.rM]; exact hdim), ?_⟩
  refine ⟨by simp only [h.rR, hnc], by simp only [h.rM], ?_⟩
  simp only [h.rR, h.rM, hnc]
  refine slice_entries_rel hε hfl aE.ranges (aE.ranges.set dim bE.ncol) dim bE.ncol bE.val bR.val h.ents ?_
  intro e he g hg
  exact hb _ g (by rw [hdim]; exact (hwf e he).2 dim hd) hg

theorem basisT_rel (hε : 0 ≤ ε) (hfl : ∀ a, RelErr ε 1 a (fl a)) (t : Int → F) (nknots order : Nat) (xs : List F)
    (hm : ∀ i j : Int, 0 ≤ i → i ≤ j → j < nknots → t i ≤ t j) (j g : Nat)
    (hj : j < nknots - order - 1) (hg : g < xs.length) :
    RelErr ε (5 * order) ((@bsplineBasis F (Arith.ofField F) t nknots order xs).transpose.val j g)
        ((@bsplineBasis F (Arith.rounded fl st) t nknots order xs).transpose.val j g) ∧
      0 ≤ (@bsplineBasis F (Arith.ofField F) t nknots order xs).transpose.val j g := by
  simp only [Mat.transpose, bsplineBasis, tabGet_tabOf]
  rw [List.getElem?_eq_getElem hg]
  simp only
  have := bsplineG_relerr (st := st) hε hfl t xs[g] order (j : Int)
    (fun a b h1 h2 h3 => hm a b (by omega) h2 (by omega))
  exact ⟨this.1, this.2.1⟩

theorem coefTensor_rel (dims : List (Dim F)) (coef : Int → F) :
    TRel ε 0 (@coefTensor F (Arith.ofField F) dims coef) (@coefTensor F (Arith.rounded fl st) dims coef)
      (@coefTensor F (Arith.ofField F) dims fun i => |coef i|) := by
  refine ⟨(coefTensor_ranges (A := Arith.rounded fl st) dims coef).trans
      (coefTensor_ranges (A := Arith.ofField F) dims coef).symm,
    (coefTensor_ranges (A := Arith.ofField F) dims _).trans (coefTensor_ranges (A := Arith.ofField F) dims coef).symm, ?_⟩
  have key := fun l : List Nat => EntsRel.filterMap (ε := ε) (fl := fl) (st := st) (k := 0)
    (fun i => decodeStrides (dims.map (·.stride)) i) (fun i => coef (Int.ofNat i)) (fun i => coef (Int.ofNat i))
    (fun i => |coef (Int.ofNat i)|) (fun i => coef (Int.ofNat i)) (fun i => coef (Int.ofNat i))
    (fun i => |coef (Int.ofNat i)|) l (fun _ _ => Iff.rfl) (fun _ _ => abs_eq_zero)
    (fun _ _ _ => Acc.refl _)
  cases dims with
  | nil => exact key _
  | cons d ds => exact key _

/-- two lists of matrices, one under the exact arithmetic and one under rounding, matrix by matrix: same shape, every entry
of the second is the entry of the first up to `kb` roundings, the exact entries are not negative; the index adds up
`kb + 1` over the list -/
inductive MatsRel (ε : F) : Nat → List (Mat F) → List (Mat F) → Prop
  | nil : MatsRel ε 0 [] []
  | cons {K kb : Nat} {bE bR : Mat F} {bsE bsR : List (Mat F)} (hnr : bR.nrow = bE.nrow) (hnc : bR.ncol = bE.ncol)
      (hb : ∀ j g, j < bE.nrow → g < bE.ncol → RelErr ε kb (bE.val j g) (bR.val j g) ∧ 0 ≤ bE.val j g) :
      MatsRel ε K bsE bsR → MatsRel ε (kb + 1 + K) (bE :: bsE) (bR :: bsR)

section grid
attribute [local instance] Arith.ofField

/-- **A sequence of mode products under rounding**: one `sliceMultiply_rel` per matrix.  Of the exact tensor only the
shape is needed: it lists valid indices and its range along each dimension the loop reaches is the number of rows of
that dimension's matrix. -/
theorem modeLoop_rel (hε : 0 ≤ ε) (hfl : ∀ a, RelErr ε 1 a (fl a)) {K : Nat} {bsE bsR : List (Mat F)}
    (hbs : MatsRel ε K bsE bsR) :
    ∀ (i kk : Nat) (aE aR aM : NdSparse F), TRel ε kk aE aR aM → aE.WF →
      (∀ j (hj : j < bsE.length), i + j < aE.ranges.length ∧ bsE[j].nrow = aE.ranges.getD (i + j) 0) →
      ∃ cE cR cM, modeLoop bsE i aE = some cE ∧ modeLoop (A := Arith.rounded fl st) bsR i aR = some cR ∧
        modeLoop bsE i aM = some cM ∧ TRel ε (kk + K) cE cR cM := by
  induction hbs with
  | nil => exact fun i kk aE aR aM h _ _ => ⟨aE, aR, aM, rfl, rfl, rfl, h⟩
  | @cons K kb bE bR bsE bsR hnr hnc hb _ ih =>
    intro i kk aE aR aM h hwf hfit
    obtain ⟨hd, hdim⟩ := hfit 0 (Nat.zero_lt_succ _)
    obtain ⟨cE, cR, cM, s1, s2, s3, s4⟩ := sliceMultiply_rel (st := st) hε hfl h bE bR i hnr hnc hb hwf hd hdim
    obtain ⟨t2, t3⟩ := of_exists_eq_some (sliceMultiply_shape aE bE i hwf hd hdim) s1
    obtain ⟨rE, rR, rM, g1, g2, g3, g4⟩ := ih (i + 1) _ cE cR cM s4 t3 fun j hj => by
      have := hfit (j + 1) (Nat.succ_lt_succ hj)
      rw [t2, List.length_set, getD_set_ne (by omega), Nat.add_right_comm, Nat.add_assoc]
      exact this
    refine ⟨rE, rR, rM, ?_, ?_, ?_, ?_⟩
    · simp only [modeLoop, s1]; exact g1
    · simp only [modeLoop, s2]; exact g2
    · simp only [modeLoop, s3]; exact g3
    · rw [← Nat.add_assoc, ← Nat.add_assoc]; exact g4

/-- the matrices of `grideval` under rounding: `5·order` roundings on every entry of the basis matrix of a dimension
with non-decreasing knots -/
theorem gridBases_rel (hε : 0 ≤ ε) (hfl : ∀ a, RelErr ε 1 a (fl a)) :
    ∀ (ds : List (Dim F)) (cs : List (List F)), cs.length = ds.length → (∀ d ∈ ds, d.KnotsMono) →
      MatsRel ε (gridRoundCount ds) (gridBases ds cs) (gridBases (A := Arith.rounded fl st) ds cs)
  | [], [], _, _ => .nil
  | [], _ :: _, h, _ => by simp at h
  | _ :: _, [], h, _ => by simp at h
  | d :: ds, c :: cs, h, hm =>
    .cons rfl rfl (fun j g hj hg => basisT_rel hε hfl _ _ _ _ (hm d List.mem_cons_self) j g hj hg)
      (gridBases_rel hε hfl ds cs (Nat.succ.inj h) fun d' hd' => hm d' (List.mem_cons_of_mem _ hd'))

/-- the loop of `grideval` from dimension `k` on under rounding; of the exact tensor only its shape is needed: it lists
valid indices and the ranges of the dimensions still to come are the table's `naxes` -/
theorem gridLoop_rel_of_shape (hε : 0 ≤ ε) (hfl : ∀ a, RelErr ε 1 a (fl a)) (dims : List (Dim F))
    (coords : List (List F)) (hlen : coords.length = dims.length)
    (hna : ∀ d ∈ dims, d.naxes = d.nknots - d.order - 1) (hmono : ∀ d ∈ dims, d.KnotsMono)
    (k : Nat) (ndE ndR ndM : NdSparse F) (kk : Nat) (hwf : ndE.WF) (hlenr : ndE.ranges.length = dims.length)
    (hrk : ∀ d, k ≤ d → d < dims.length → ndE.ranges.getD d 0 = (dimAt dims d).naxes) (h : TRel ε kk ndE ndR ndM) :
    ∃ rE rR rM, gridLoop (dims.drop k) (coords.drop k) k ndE = some rE ∧
      gridLoop (A := Arith.rounded fl st) (dims.drop k) (coords.drop k) k ndR = some rR ∧
      gridLoop (dims.drop k) (coords.drop k) k ndM = some rM ∧
      TRel ε (kk + gridRoundCount (dims.drop k)) rE rR rM := by
  have hl : (coords.drop k).length = (dims.drop k).length := by rw [List.length_drop, List.length_drop, hlen]
  rw [gridLoop_eq_modeLoop _ _ _ _ hl, gridLoop_eq_modeLoop (A := Arith.rounded fl st) _ _ _ _ hl,
    gridLoop_eq_modeLoop _ _ _ _ hl]
  refine modeLoop_rel (st := st) hε hfl (gridBases_rel hε hfl _ _ hl fun d hd => hmono d (List.mem_of_mem_drop hd))
    k kk ndE ndR ndM h hwf fun j hj => ?_
  have hj' : k + j < dims.length := by
    rw [gridBases, List.length_zipWith, List.length_drop, List.length_drop] at hj; omega
  refine ⟨hlenr ▸ hj', ?_⟩
  rw [hrk _ (Nat.le_add_right k j) hj', dimAt_eq_getElem dims hj', hna _ (List.getElem_mem hj')]
  simp only [gridBases, List.getElem_zipWith, List.getElem_drop]
  rfl

theorem gridLoop_rel (hε : 0 ≤ ε) (hfl : ∀ a, RelErr ε 1 a (fl a)) (dims : List (Dim F)) (coef : Int → F)
    (coords : List (List F)) (hlen : coords.length = dims.length)
    (hna : ∀ d ∈ dims, d.naxes = d.nknots - d.order - 1) (hmono : ∀ d ∈ dims, d.KnotsMono) :
    ∀ (m k : Nat) (ndE ndR ndM : NdSparse F) (kk : Nat), k + m = dims.length →
      GridInv dims coef coords k ndE → TRel ε kk ndE ndR ndM →
      ∃ rE rR rM, gridLoop (dims.drop k) (coords.drop k) k ndE = some rE ∧
        gridLoop (A := Arith.rounded fl st) (dims.drop k) (coords.drop k) k ndR = some rR ∧
        gridLoop (dims.drop k) (coords.drop k) k ndM = some rM ∧
        TRel ε (kk + gridRoundCount (dims.drop k)) rE rR rM :=
  fun _ k ndE ndR ndM kk _ hinv h =>
    gridLoop_rel_of_shape (st := st) hε hfl dims coords hlen hna hmono k ndE ndR ndM kk hinv.wf
      (by rw [hinv.ranges]; simp)
      (fun d hd1 hd2 => by rw [hinv.ranges, getD_map_range_of_lt _ hd2, if_neg (not_lt.mpr hd1)]) h

/-- `grideval` under rounding: the three runs succeed together and every entry of the result carries
`gridRoundCount dims = Σ_d (5·order_d + 1)` roundings -/
theorem gridEval_rel (hε : 0 ≤ ε) (hfl : ∀ a, RelErr ε 1 a (fl a)) (dims : List (Dim F)) (coef : Int → F)
    (coords : List (List F)) (hwf : GridTableWF dims) (hmono : ∀ d ∈ dims, d.KnotsMono)
    (hlen : coords.length = dims.length) :
    ∃ rE rR rM, gridEval dims coef coords = some rE ∧
      gridEval (A := Arith.rounded fl st) dims coef coords = some rR ∧
      gridEval dims (fun i => |coef i|) coords = some rM ∧ TRel ε (gridRoundCount dims) rE rR rM := by
  have hr := coefTensor_ranges dims coef
  obtain ⟨rE, rR, rM, g1, g2, g3, g4⟩ := gridLoop_rel_of_shape (st := st) hε hfl dims coords hlen hwf.naxes_eq hmono
    0 _ _ _ 0 (coefTensor_wf dims coef hwf.strides hwf.ne) (by rw [hr, List.length_map])
    (fun d _ hd => by rw [hr, dimAt_eq_getElem dims hd]; simp [List.getD_eq_getElem?_getD, hd])
    (coefTensor_rel (ε := ε) (fl := fl) (st := st) dims coef)
  rw [List.drop_zero, List.drop_zero] at g1 g2 g3
  exact ⟨rE, rR, rM, (gridEval_eq_gridLoop dims coef coords hlen).trans g1,
    (gridEval_eq_gridLoop (A := Arith.rounded fl st) dims coef coords hlen).trans g2,
    (gridEval_eq_gridLoop dims _ coords hlen).trans g3, by simpa using g4⟩

end grid

section examples

theorem knotsMono_intCast (o nk na s : Nat) : (⟨o, nk, na, s, fun i => (i : Rat)⟩ : Dim Rat).KnotsMono :=
  fun _ _ _ hij _ => Int.cast_le.mpr hij

theorem monoOn_intCast (lo hi : Int) : MonoOn (fun i : Int => (i : Rat)) lo hi :=
  fun _ _ _ hab _ => Int.cast_le.mpr hab

/-- the 2-d table of the C17 examples: order 2 with 7 knots → 4 functions, stride 2; order 1 with 4 knots → 2 functions,
stride 1; knots `0,1,2,…` -/
def exGrid2 : List (Dim Rat) := [⟨2, 7, 4, 2, fun i => (i : Rat)⟩, ⟨1, 4, 2, 1, fun i => (i : Rat)⟩]

theorem exGrid2_gridWF : GridTableWF exGrid2 :=
  ⟨List.cons_ne_nil _ _, by decide, ⟨rfl, rfl⟩⟩

theorem exGrid2_knotsMono : ∀ d ∈ exGrid2, d.KnotsMono := by
  intro d hd
  simp only [exGrid2, List.mem_cons, List.not_mem_nil, or_false] at hd
  rcases hd with rfl | rfl <;> exact knotsMono_intCast _ _ _ _

/-- the 2×3×2 tensor with two entries of the C17 examples lists valid indices only -/
theorem exSparse_wf : (⟨[2,3,2], [([1,2,0], 5), ([0,1,1], -2)]⟩ : NdSparse Rat).WF := by
  intro e he
  simp only [List.mem_cons, List.not_mem_nil, or_false] at he
  rcases he with rfl | rfl
  · exact ⟨rfl, by decide⟩
  · exact ⟨rfl, by decide⟩

/-! C01's example table (order 2, knots `0..6`, stride 1) at `x = 7/2`: well-formed, accepted by the lookup with centre 3,
below the last knot and non-degenerate -/

theorem exTable1_wf : (⟨[⟨2, 7, 4, 1, fun i => (i : Rat)⟩], fun _ => 1⟩ : Table Rat).WF :=
  ⟨fun _ hd => List.mem_singleton.mp hd ▸ ⟨by decide, rfl, knotsMono_intCast _ _ _ _⟩, rfl⟩

theorem exTable1_search :
    @searchCenters Rat (cmpLO Rat) [Dim.axis (⟨2, 7, 4, 1, fun i => (i : Rat)⟩ : Dim Rat)] [(7/2 : Rat)] = .ok [3] := by
  decide +kernel

theorem exTable1_inside : List.Forall₂ (fun (d : Dim Rat) x => x < d.knots ((d.nknots : Int) - 1) ∧ NonDegenerate d x)
    [(⟨2, 7, 4, 1, fun i => (i : Rat)⟩ : Dim Rat)] [(7/2 : Rat)] :=
  .cons ⟨by norm_num, Or.inl (by norm_num)⟩ .nil

theorem half5_ne_intCast (i : Int) : (5/2 : Rat) ≠ (i : Rat) :=
  fun h => absurd (congrArg Rat.den h) (by rw [Rat.den_intCast]; decide +kernel)

/-- a rounding that is not the identity: `a ↦ c·a` with `c` within `ε = 1/8` of 1 -/
theorem relErr_scale (c : Rat) (h1 : 8/9 ≤ c) (h2 : c ≤ 9/8) (a : Rat) : RelErr (1/8 : Rat) 1 a (a * c) :=
  ⟨c, rfl, by norm_num; exact h1, by norm_num; exact h2⟩

end examples

end PsV
