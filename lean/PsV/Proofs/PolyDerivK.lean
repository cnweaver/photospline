import PsV.Proofs.BSpline
import Mathlib.Algebra.Polynomial.Derivative
import Mathlib.Algebra.Polynomial.Eval.Defs
import Mathlib.Tactic.LinearCombination
/-!
`Pp` is the polynomial piece as an element of `Polynomial α`; its evaluation is `Bp`.
The knot-difference formula is an identity of **polynomials**, hence holds for iterated derivatives:
`Polynomial.derivative^[k]` of the piece `Pp` evaluates to the iterated formula `Dind` of the piece.

`derivative_Pp`: for knots that are non-decreasing on the indices the basis function uses,
`d/dx B_{i,n+1} = (n+1) (B_{i,n}/(t_{i+n+1}-t_i) − B_{i+1,n}/(t_{i+n+2}-t_{i+1}))`, with the `a/0 = 0`
convention on both sides (repeated knots allowed).
-/
namespace PsV
open Polynomial
variable {α : Type} [Field α] [LinearOrder α]

noncomputable def Pp (t : Int → α) (left : Int) : Nat → Int → Polynomial α
  | 0, i => if i = left then 1 else 0
  | n+1, i => C (1 / (t (i+n+1) - t i)) * (X - C (t i)) * Pp t left n i
            + C (1 / (t (i+n+2) - t (i+1))) * (C (t (i+n+2)) - X) * Pp t left n (i+1)

theorem eval_Pp (t : Int → α) (x : α) (left : Int) : ∀ (n : Nat) (i : Int), (Pp t left n i).eval x = Bp t x left n i := by
  intro n
  induction n with
  | zero => intro i; simp only [Pp, Bp]; split <;> simp
  | succ n ih =>
    intro i
    simp only [Pp, Bp, eval_add, eval_mul, eval_sub, eval_C, eval_X, ih]
    ring

theorem derivative_Pp_zero (t : Int → α) (left i : Int) : derivative (Pp t left 0 i) = 0 := by
  rw [Pp]; split
  · exact derivative_one
  · exact derivative_zero

theorem derivative_Pp_succ (t : Int → α) (left : Int) (n : Nat) (i : Int) :
    derivative (Pp t left (n+1) i) =
      C (1 / (t (i+n+1) - t i)) * (Pp t left n i + (X - C (t i)) * derivative (Pp t left n i))
      + C (1 / (t (i+n+2) - t (i+1))) * (-Pp t left n (i+1) + (C (t (i+n+2)) - X) * derivative (Pp t left n (i+1))) := by
  rw [Pp, derivative_add, mul_assoc, mul_assoc, derivative_C_mul, derivative_C_mul, derivative_mul, derivative_mul,
    derivative_X_sub_C, derivative_sub, derivative_C, derivative_X, zero_sub, one_mul, neg_one_mul]

/-- the scalar fact behind the identity: for sorted knots the two top-level weights are both one, or the
middle inverse difference vanishes -/
theorem weights_key (t : Int → α) (i : Int) (n : Nat)
    (hmono : MonoOn t i (i + n + 3)) :
    (1 / (t (i+n+2) - t (i+1))) * ((1 / (t (i+n+3) - t (i+1))) * (t (i+n+3) - t (i+1)) - (1 / (t (i+n+2) - t i)) * (t (i+n+2) - t i)) = 0 := by
  by_cases hz : t (i+n+2) - t (i+1) = 0
  · rw [hz, div_zero, zero_mul]
  · have h1 : t (i+1) ≤ t (i+n+2) := hmono _ _ (by omega) (by omega) (by omega)
    have hlt : t (i+1) < t (i+n+2) := lt_of_le_of_ne h1 (sub_ne_zero.1 hz).symm
    have h2 : t i ≤ t (i+1) := hmono _ _ (le_refl _) (by omega) (by omega)
    have h3 : t (i+n+2) ≤ t (i+n+3) := hmono _ _ (by omega) (by omega) (by omega)
    have n1 : t (i+n+3) - t (i+1) ≠ 0 := sub_ne_zero.mpr (ne_of_gt (lt_of_lt_of_le hlt h3))
    have n2 : t (i+n+2) - t i ≠ 0 := sub_ne_zero.mpr (ne_of_gt (lt_of_le_of_lt h2 hlt))
    rw [one_div_mul_cancel n1, one_div_mul_cancel n2, sub_self, mul_zero]

/-- the induction step of `derivative_Pp` once the product rule and the induction hypothesis are in place: the terms
in `N·Q1` cancel by `hk`, which is `weights_key` -/
theorem derivative_Pp_step {R : Type} [CommRing R] (x ti ti1 tn2 tn3 Q0 Q1 Q2 P P' a b a' b' b'' N : R)
    (hk : b' * (b * (tn3 - ti1) - a * (tn2 - ti)) = 0)
    (hP : P = a' * (x - ti) * Q0 + b' * (tn2 - x) * Q1) (hP' : P' = b' * (x - ti1) * Q1 + b'' * (tn3 - x) * Q2) :
    a * (P + (x - ti) * (N * (a' * Q0 - b' * Q1))) + b * (-P' + (tn3 - x) * (N * (b' * Q1 - b'' * Q2)))
      = (N + 1) * (a * P - b * P') := by
  subst hP hP'
  linear_combination (N * Q1) * hk

theorem derivative_Pp (t : Int → α) (left : Int) :
    ∀ (n : Nat) (i : Int), MonoOn t i (i + n + 2) →
      derivative (Pp t left (n+1) i) =
        C ((n + 1 : Nat) : α) * (C (1 / (t (i+n+1) - t i)) * Pp t left n i - C (1 / (t (i+n+2) - t (i+1))) * Pp t left n (i+1)) := by
  intro n
  induction n with
  | zero =>
    intro i _
    rw [derivative_Pp_succ, derivative_Pp_zero, derivative_Pp_zero, mul_zero, mul_zero, add_zero, add_zero,
      Nat.zero_add, Nat.cast_one, C_1, one_mul, mul_neg, ← sub_eq_add_neg]
  | succ n ih =>
    intro i hmono
    have ih1 := ih i (hmono.sub (le_refl _) (by push_cast; omega))
    have ih2 := ih (i+1) (hmono.sub (by omega) (by push_cast; omega))
    have e1 : i + 1 + (n:Int) + 1 = i + n + 2 := by ring
    have e2 : i + 1 + (n:Int) + 2 = i + n + 3 := by ring
    have e3 : i + ((n + 1 : Nat) : Int) + 1 = i + n + 2 := by push_cast; ring
    have e4 : i + ((n + 1 : Nat) : Int) + 2 = i + n + 3 := by push_cast; ring
    have e5 : i + 1 + 1 = i + 2 := by ring
    rw [e1, e2, e5] at ih2
    have keyP : C (1 / (t (i+n+2) - t (i+1))) * (C (1 / (t (i+n+3) - t (i+1))) * (C (t (i+n+3)) - C (t (i+1)))
        - C (1 / (t (i+n+2) - t i)) * (C (t (i+n+2)) - C (t i))) = 0 := by
      rw [← C_sub, ← C_sub, ← C_mul, ← C_mul, ← C_sub, ← C_mul,
        weights_key t i n (hmono.sub (le_refl _) (by push_cast; omega)), C_0]
    have hN : (C (((n + 1 + 1 : Nat)) : α) : Polynomial α) = C ((n + 1 : Nat) : α) + 1 := by
      rw [Nat.cast_succ (n + 1), C_add, C_1]
    rw [derivative_Pp_succ, ih1, ih2, hN, e3, e4]
    exact derivative_Pp_step X (C (t i)) (C (t (i+1))) (C (t (i+n+2))) (C (t (i+n+3)))
      (Pp t left n i) (Pp t left n (i+1)) (Pp t left n (i+2)) _ _ _ _ _ _ _ _ keyP (by rw [Pp]) (by rw [Pp, e1, e2, e5])

attribute [local instance] Arith.ofField in
/-- **Iterated derivatives.**  The `k`-th `Polynomial.derivative` of the piece evaluates to the `k`-fold
knot-difference formula (the specification of arbitrary-order derivative evaluation). -/
theorem iterate_derivative_Pp (t : Int → α) (x : α) (left : Int) :
    ∀ (k n : Nat) (i : Int), MonoOn t i (i + n + 1) →
      (derivative^[k] (Pp t left n i)).eval x = Dind (indAt left) t x k n i := by
  intro k
  induction k with
  | zero => intro n i _; exact (eval_Pp t x left n i).trans (Bp_eq_Bind t x left n i)
  | succ k ih =>
    intro n i hmono
    cases n with
    | zero =>
      rw [Function.iterate_succ_apply, derivative_Pp_zero, iterate_derivative_zero]
      rw [Dind_succ_zero]; exact eval_zero
    | succ m =>
      rw [Function.iterate_succ_apply, derivative_Pp t left m i (hmono.sub (le_refl _) (by push_cast; omega))]
      rw [iterate_derivative_C_mul, iterate_derivative_sub, iterate_derivative_C_mul, iterate_derivative_C_mul]
      simp only [eval_mul, eval_sub, eval_C, Dind_succ]
      rw [ih m i (hmono.sub (le_refl _) (by push_cast; omega)),
        ih m (i+1) (hmono.sub (by omega) (by push_cast; omega))]
      ring

end PsV
