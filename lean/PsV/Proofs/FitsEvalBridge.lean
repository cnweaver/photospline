import PsV.Model.FitsView
import PsV.Proofs.FitsRead
import PsV.Proofs.Reads
import PsV.Proofs.Bridge
/-! From the reader's well-formedness (`Fits.Table.WF`, which every table `readFixed` returns has: `readFixed_wf`) to
    the hypotheses of the lookup and evaluation theorems: the lookup reads `knots[i][j]` only for `j < nknots[i]` and
    its centres are in range; the evaluation view is row-major with `ncoef` the length of the coefficient array; and
    for an interpretation of the knot bit patterns that is monotone in `dkey` (`KeyMono`) the view is `Table.WF` in the
    sense of `PsV/Proofs/Bridge.lean`. -/
namespace PsV
open PsV.Fits

namespace Fits

theorem sortedKeys_pairwise : ∀ l : List Int, sortedKeys l = true → l.Pairwise (· ≤ ·)
  | [], _ => .nil
  | [_], _ => List.pairwise_singleton _ _
  | a :: b :: r, h => by
    simp only [sortedKeys, Bool.and_eq_true, decide_eq_true_eq] at h
    have ih := sortedKeys_pairwise (b :: r) h.2
    exact List.pairwise_cons.2 ⟨fun x hx => (List.mem_cons.1 hx).elim (fun e => e ▸ h.1)
      fun hx' => Int.le_trans h.1 ((List.pairwise_cons.1 ih).1 x hx'), ih⟩

theorem sortedKeys_mono (l : List Int) (h : sortedKeys l = true) (i j : Nat) (hij : i ≤ j) (hj : j < l.length) :
    l.getD i 0 ≤ l.getD j 0 := by
  rw [getD_of_lt (Nat.lt_of_le_of_lt hij hj), getD_of_lt hj]
  rcases Nat.eq_or_lt_of_le hij with rfl | hlt
  · exact Int.le_refl _
  · exact List.pairwise_iff_getElem.1 (sortedKeys_pairwise l h) i j _ hj hlt

theorem knotsValid_spec {k : List UInt64} (h : knotsValid k = true) :
    (∀ j, j < k.length → finiteBits (k.getD j 0) = true) ∧
    ∀ i j, i ≤ j → j < k.length → dkey (k.getD i 0) ≤ dkey (k.getD j 0) := by
  simp only [knotsValid, Bool.and_eq_true, List.all_eq_true] at h
  refine ⟨fun j hj => h.1 _ (getD_mem hj _), fun i j hij hj => ?_⟩
  have := sortedKeys_mono _ h.2 i j hij (by simpa using hj)
  rwa [getD_map_of_lt dkey (by omega) 0 0, getD_map_of_lt dkey hj 0 0] at this

end Fits

theorem finite_not_nan (b : UInt64) (h : finiteBits b = true) : nanBits b = false := by
  unfold finiteBits at h
  unfold nanBits
  simp only [bne_iff_ne, ne_eq] at h
  simp [h]

theorem keyOf_finite (b : UInt64) (h : finiteBits b = true) : keyOf b = some (dkey b) := by
  unfold keyOf; rw [finite_not_nan b h]; rfl

/-- the integer-key axis of dimension `i` (what `axisOf` of `Props/C07.lean` is) -/
def keyAxis (t : Fits.Table) (i : Nat) : Axis Int :=
  ⟨t.order.getD i 0, (t.knots.getD i []).length, fun j => ((t.knots.getD i []).map dkey).getD j 0⟩

theorem keyAxis_WF (t : Fits.Table) (i : Nat) (hd : t.DimOK i) :
    (keyAxis t i).WF := by
  refine ⟨hd.1, fun a b hab hb => ?_⟩
  have hb' : b < (t.knots.getD i []).length := hb
  show ((t.knots.getD i []).map dkey).getD a 0 ≤ ((t.knots.getD i []).map dkey).getD b 0
  rw [getD_map_of_lt dkey (by omega) 0 0, getD_map_of_lt dkey hb' 0 0]
  exact (knotsValid_spec hd.2.2).2 a b hab hb'

theorem lookupAxis_search (t : Fits.Table) (memK : Nat → Nat → Option Int) (i : Nat)
    (hd : t.DimOK i) (x : Int) :
    searchAxis (t.lookupAxis memK i).order (t.lookupAxis memK i).nknots (t.lookupAxis memK i).knots (some x)
      = @searchAxis Int (cmpLO Int) (keyAxis t i).order (keyAxis t i).nknots (keyAxis t i).knots x := by
  refine (searchAxis_congr _ _ _ (fun j => some ((keyAxis t i).knots j)) _ hd.1 fun j hj => ?_).trans
    (searchAxis_some _ _ _ x)
  simp only [Table.lookupAxis, keyAxis, hj, if_true]
  rw [keyOf_finite _ ((knotsValid_spec hd.2.2).1 j hj), getD_map_of_lt dkey hj 0 0]

theorem lookupAxis_outcome (t : Fits.Table) (memK : Nat → Nat → Option Int) (i : Nat)
    (hd : t.DimOK i) (x : Option Int) :
    (searchAxis (t.lookupAxis memK i).order (t.lookupAxis memK i).nknots (t.lookupAxis memK i).knots x = .reject ∨
      ∃ c, searchAxis (t.lookupAxis memK i).order (t.lookupAxis memK i).nknots (t.lookupAxis memK i).knots x = .ok c ∧
        (t.lookupAxis memK i).order ≤ c ∧ c + (t.lookupAxis memK i).order + 2 ≤ (t.lookupAxis memK i).nknots) := by
  cases x with
  | none => left; exact searchAxis_nan _ _ _
  | some x =>
    have hw := keyAxis_WF t i hd
    have h4 := searchAxis_spec (keyAxis t i) hw x
    rw [lookupAxis_search t memK i hd x]
    cases hs : @searchAxis Int (cmpLO Int) (keyAxis t i).order (keyAxis t i).nknots (keyAxis t i).knots x with
    | reject => exact .inl rfl
    | nonterm => rw [hs] at h4; exact h4.elim
    | ok c =>
      rw [hs] at h4
      exact .inr ⟨c, rfl, h4.2.inRange hw⟩

theorem lookupAxis_mem_indep (t : Fits.Table) (memK memK' : Nat → Nat → Option Int) (i : Nat)
    (hd : t.DimOK i) (x : Option Int) :
    searchAxis (t.lookupAxis memK i).order (t.lookupAxis memK i).nknots (t.lookupAxis memK i).knots x
      = searchAxis (t.lookupAxis memK' i).order (t.lookupAxis memK' i).nknots (t.lookupAxis memK' i).knots x := by
  apply searchAxis_congr _ _ _ _ _ hd.1
  intro j hj
  simp only [Table.lookupAxis, hj, if_true]

variable {α : Type}

theorem search_ne_nonterm (t : Fits.Table) (memK : Nat → Nat → Option Int) (l : List Nat) (xs : List (Option Int))
    (hd : ∀ i ∈ l, t.DimOK i) : searchCenters (l.map (t.lookupAxis memK)) xs ≠ .nonterm :=
  searchCenters_ne_nonterm _ _ xs fun i hi x => by
    rcases lookupAxis_outcome t memK i (hd i hi) x with h | ⟨c, h, _⟩ <;> rw [h] <;> exact fun e => nomatch e

theorem search_inRange (t : Fits.Table) (memK : Nat → Nat → Option Int) (kn : UInt64 → α) (mem : Nat → Int → α)
    (l : List Nat) (xs : List (Option Int)) (hd : ∀ i ∈ l, t.DimOK i) (cs : List Nat)
    (hcs : searchCenters (l.map (t.lookupAxis memK)) xs = .ok cs) : CentersInRange (l.map (t.evalDim kn mem)) cs := by
  revert hd
  refine searchCenters_ok_induct (t.lookupAxis memK)
    (motive := fun l _ cs => (∀ i ∈ l, t.DimOK i) → CentersInRange (l.map (t.evalDim kn mem)) cs)
    (fun _ _ => trivial) (fun i l x _ c cs ha _ ih hl => ?_) _ xs cs hcs
  have hdi := hl i List.mem_cons_self
  rcases lookupAxis_outcome t memK i hdi x with hrej | ⟨c', hc, h1, h2⟩
  · cases hrej.symm.trans ha
  · cases hc.symm.trans ha
    exact ⟨⟨h1, h2, hdi.2.1⟩, ih fun j hj => hl j (List.mem_cons_of_mem _ hj)⟩

theorem search_range' (t : Fits.Table) (memK : Nat → Nat → Option Int) (kn : UInt64 → α) (mem : Nat → Int → α) :
    ∀ (n s : Nat) (xs : List (Option Int)),
      (∀ i, s ≤ i → i < s + n → DimWF (t.order.getD i 0) (t.naxes.getD i 0) (t.knots.getD i [])) →
      searchCenters ((List.range' s n).map (t.lookupAxis memK)) xs ≠ .nonterm ∧
      ∀ cs, searchCenters ((List.range' s n).map (t.lookupAxis memK)) xs = .ok cs →
        CentersInRange ((List.range' s n).map (t.evalDim kn mem)) cs :=
  fun _ _ xs hd =>
    have hd' : ∀ i ∈ List.range' _ _, t.DimOK i := fun i hi =>
      hd i (List.mem_range'_1.1 hi).1 (List.mem_range'_1.1 hi).2
    ⟨search_ne_nonterm t memK _ xs hd', search_inRange t memK kn mem _ xs hd'⟩

/-- the lookup reads nothing beyond the knot arrays -/
theorem search_mem_indep (t : Fits.Table) (memK memK' : Nat → Nat → Option Int) (l : List Nat)
    (xs : List (Option Int)) (hd : ∀ i ∈ l, t.DimOK i) :
    searchCenters (l.map (t.lookupAxis memK)) xs = searchCenters (l.map (t.lookupAxis memK')) xs :=
  searchCenters_map_congr _ _ _ xs fun i hi x => lookupAxis_mem_indep t memK memK' i (hd i hi) x

/-- what C04 and C05 give for the lookup on a well-formed table, whatever the memory beyond the knot arrays holds:
    it terminates, reads nothing else, and its centres are in range for the evaluators' view of the table -/
theorem lookup_safe (t : Fits.Table) (h : t.WF) (memK : Nat → Nat → Option Int) (xs : List (Option Int)) :
    searchCenters (t.lookupAxes memK) xs ≠ .nonterm ∧
    (∀ memK', searchCenters (t.lookupAxes memK') xs = searchCenters (t.lookupAxes memK) xs) ∧
    (∀ cs, searchCenters (t.lookupAxes memK) xs = .ok cs →
      ∀ {β : Type} (kn : UInt64 → β) (mem : Nat → Int → β), CentersInRange (t.evalDims kn mem) cs) :=
  have hd : ∀ i ∈ List.range t.ndim, t.DimOK i := fun i hi => h.dims i (List.mem_range.mp hi)
  ⟨search_ne_nonterm t memK _ xs hd, fun memK' => search_mem_indep t memK' memK _ xs hd,
    fun cs hcs _ kn mem => search_inRange t memK kn mem _ xs hd cs hcs⟩

theorem rowMajor_of_strides : ∀ (ds : List (Dim α)), ds.map (·.stride) = rowMajor (ds.map (·.naxes)) → RowMajor ds
  | [], _ => trivial
  | [d], h => (List.cons.inj h).1
  | d :: e :: rest, h => by
    obtain ⟨h1, h2⟩ := List.cons.inj h
    have h1 : d.stride = prod (e.naxes :: rest.map (·.naxes)) := h1
    have h3 : e.stride = prod (rest.map (·.naxes)) := (List.cons.inj h2).1
    exact ⟨by rw [h1, h3, prod_cons, Nat.mul_comm], rowMajor_of_strides (e :: rest) h2⟩

theorem lastStrideOne_of_rowMajor : ∀ (ds : List (Dim α)), ds ≠ [] → RowMajor ds → lastStrideOne ds
  | [], h, _ => absurd rfl h
  | [_], _, h => h
  | _ :: e :: rest, _, h => lastStrideOne_of_rowMajor (e :: rest) (List.cons_ne_nil _ _) h.2

theorem evalDims_length (t : Fits.Table) (kn : UInt64 → α) (mem : Nat → Int → α) :
    (t.evalDims kn mem).length = t.ndim := by simp [Table.evalDims]

theorem evalDims_rowMajor (t : Fits.Table) (h : t.WF) (kn : UInt64 → α) (mem : Nat → Int → α) :
    RowMajor (t.evalDims kn mem) := by
  obtain ⟨_, _, hnx, hst, _⟩ := h
  apply rowMajor_of_strides
  rw [Table.evalDims, List.map_map, List.map_map]
  show (List.range t.ndim).map (fun i => t.strides.getD i 0) = rowMajor ((List.range t.ndim).map fun i => t.naxes.getD i 0)
  rw [map_getD_range _ _ _ hnx, map_getD_range _ _ _ (by rw [hst, Fits.rowMajor_length, hnx]), hst]

theorem evalDims_ne_nil (t : Fits.Table) (h : t.WF) (kn : UInt64 → α) (mem : Nat → Int → α) :
    t.evalDims kn mem ≠ [] := fun h' => by
  have := evalDims_length t kn mem
  rw [h', List.length_nil] at this
  exact absurd h.1 (by omega)

/-- the evaluators' coefficient count `strides[0]*naxes[0]` is the length of the array read from the file -/
theorem evalDims_ncoef (t : Fits.Table) (h : t.WF) (kn : UInt64 → α) (mem : Nat → Int → α) :
    ncoef (t.evalDims kn mem) = t.coef.length := by
  obtain ⟨hpos, _, hnx, hst, hco, _⟩ := h
  unfold Table.evalDims
  obtain ⟨m, hm⟩ : ∃ m, t.ndim = m + 1 := ⟨t.ndim - 1, by omega⟩
  rw [hm, List.range_succ_eq_map]
  simp only [List.map_cons, ncoef, Table.evalDim]
  rw [hco, hst]
  have hne : t.naxes ≠ [] := List.ne_nil_of_length_pos (by omega)
  rw [← Fits.rowMajor_head _ hne]
  cases hn : t.naxes with
  | nil => exact absurd hn hne
  | cons a as => simp [rowMajor]

/-- the memory contents agree on `[-order, nknots+order)` of every dimension; only the padding cells
    `[-order, 0) ∪ [nknots, nknots+order)` matter, the cells in between are never read from `mem` (`evalDim`) -/
def PadAgree (t : Fits.Table) (mem mem' : Nat → Int → α) : Prop :=
  ∀ i j, -((t.order.getD i 0 : Nat) : Int) ≤ j → j < ((t.knots.getD i []).length : Int) + (t.order.getD i 0 : Nat) →
    mem i j = mem' i j

theorem sameShape_range' [Arith α] (t : Fits.Table) (kn : UInt64 → α) (mem mem' : Nat → Int → α) (hp : PadAgree t mem mem') :
    ∀ (n s : Nat), SameShape ((List.range' s n).map (t.evalDim kn mem)) ((List.range' s n).map (t.evalDim kn mem'))
  | 0, _ => by simp [SameShape]
  | n + 1, s => by
    simp only [List.range'_succ, List.map_cons, SameShape]
    refine ⟨⟨rfl, rfl, rfl, rfl, ?_⟩, sameShape_range' t kn mem mem' hp n (s + 1)⟩
    intro j h1 h2
    simp only [Table.evalDim] at h1 h2 ⊢
    split
    · rfl
    · exact hp s j h1 (by omega)

theorem evalView_coef_agree [Arith α] (t : Fits.Table) (kn : UInt64 → α) (cf : UInt32 → α) (mem mem' : Nat → Int → α)
    (memC memC' : Int → α) (n : Int) (hn : n ≤ t.coef.length) :
    AgreeOn (t.evalView kn cf mem memC).coef (t.evalView kn cf mem' memC').coef 0 (n - 1) := by
  intro j h1 h2
  have : 0 ≤ j ∧ j < (t.coef.length : Int) := ⟨h1, by omega⟩
  simp only [Table.evalView, this, and_self, if_true]

/-- what C05's "reads only owned storage" theorems ask of two views of a well-formed table that differ only outside
    the arrays the reader allocated -/
theorem evalView_owned [Arith α] (t : Fits.Table) (h : t.WF) (kn : UInt64 → α) (cf : UInt32 → α)
    (mem mem' : Nat → Int → α) (memC memC' : Int → α) (hpad : PadAgree t mem mem') :
    t.evalDims kn mem ≠ [] ∧ SameShape (t.evalDims kn mem) (t.evalDims kn mem') ∧ RowMajor (t.evalDims kn mem) ∧
    AgreeOn (t.evalView kn cf mem memC).coef (t.evalView kn cf mem' memC').coef 0
      ((ncoef (t.evalDims kn mem) : Int) - 1) := by
  refine ⟨evalDims_ne_nil t h kn mem, ?_, evalDims_rowMajor t h kn mem,
    evalView_coef_agree t kn cf mem mem' memC memC' _ (by rw [evalDims_ncoef t h kn mem])⟩
  unfold Table.evalDims
  rw [List.range_eq_range']
  exact sameShape_range' t kn mem mem' hpad _ _

theorem defaultExtentsChk_eq (order : List Nat) (knots : List (List UInt64)) (hk : knots.length = order.length)
    (hd : ∀ i, i < order.length → 2 * order.getD i 0 + 2 ≤ (knots.getD i []).length) :
    defaultExtentsChk order knots = some (defaultExtents order knots) := by
  unfold defaultExtentsChk defaultExtents
  have hl : ∀ i ∈ List.range order.length, i < order.length := fun i hi => List.mem_range.mp hi
  generalize List.range order.length = l at hl
  induction l with
  | nil => rfl
  | cons i l ih =>
    have hi := hl i (by simp)
    have ih' := ih (fun j hj => hl j (by simp [hj]))
    have hlen := hd i hi
    simp only [List.foldr_cons, List.flatMap_cons, ih']
    rw [getElem?_eq_some_getD hi 0, getElem?_eq_some_getD (l := knots) (i := i) (by omega) []]
    simp only
    rw [getElem?_eq_some_getD (l := knots.getD i []) (i := order.getD i 0) (by omega) 0,
      getElem?_eq_some_getD (l := knots.getD i []) (i := (knots.getD i []).length - order.getD i 0 - 1) (by omega) 0]
    rfl

/-- every array of a well-formed table has the size the counts say, and the two indices of the made-up extents are
    inside each knot vector -/
theorem Fits.Table.WF.sizes {t : Fits.Table} (h : t.WF) :
    t.knots.length = t.ndim ∧ t.naxes.length = t.ndim ∧ t.strides.length = t.ndim ∧
    t.coef.length = t.strides.headD 0 * t.naxes.headD 0 ∧ t.coef.length = prod t.naxes ∧
    (∀ e, t.extents = some e → e.length = 2 * t.ndim) ∧ (∀ p, t.periods = some p → p.length = t.ndim) ∧
    defaultExtentsChk t.order t.knots = some (defaultExtents t.order t.knots) := by
  obtain ⟨hpos, hk, hnx, hst, hco, hd, hex, hpe⟩ := h
  have hne : t.naxes ≠ [] := List.ne_nil_of_length_pos (by omega)
  refine ⟨hk, hnx, by rw [hst, Fits.rowMajor_length, hnx], by rw [hco, hst, rowMajor_head _ hne], hco,
    fun e he => ?_, fun p hp => ?_, defaultExtentsChk_eq _ _ hk fun i hi => (hd i hi).1⟩
  · rw [he] at hex; simpa using hex
  · rw [hp] at hpe; simpa using hpe

section field
variable {β : Type} [Field β] [LinearOrder β]

/-- an interpretation of knot bit patterns that respects the order of finite doubles (the real value of a
    finite double is one: `dkey` is order-isomorphic to it) -/
def KeyMono (kn : UInt64 → β) : Prop :=
  ∀ a b, finiteBits a = true → finiteBits b = true → dkey a ≤ dkey b → kn a ≤ kn b

theorem evalDim_WF (t : Fits.Table) (kn : UInt64 → β) (hk : KeyMono kn) (mem : Nat → Int → β) (i : Nat)
    (hd : t.DimOK i) : (t.evalDim kn mem i).WF := by
  obtain ⟨hlen, hna, hv⟩ := hd
  obtain ⟨hfin, hmono⟩ := knotsValid_spec hv
  refine ⟨hlen, hna, ?_⟩
  intro a b ha hab hb
  simp only [Table.evalDim] at hb ⊢
  have h1 : 0 ≤ a ∧ a < ((t.knots.getD i []).length : Int) := ⟨ha, by omega⟩
  have h2 : 0 ≤ b ∧ b < ((t.knots.getD i []).length : Int) := ⟨by omega, hb⟩
  rw [if_pos h1, if_pos h2]
  have lb : b.toNat < (t.knots.getD i []).length := by omega
  exact hk _ _ (hfin _ (by omega)) (hfin _ lb) (hmono a.toNat b.toNat (by omega) lb)

theorem evalView_WF (t : Fits.Table) (h : t.WF) (kn : UInt64 → β) (hk : KeyMono kn) (cf : UInt32 → β)
    (mem : Nat → Int → β) (memC : Int → β) : (t.evalView kn cf mem memC).WF := by
  refine ⟨fun d hd' => ?_, lastStrideOne_of_rowMajor _ (evalDims_ne_nil t h kn mem) (evalDims_rowMajor t h kn mem)⟩
  simp only [Table.evalView, Table.evalDims, List.mem_map, List.mem_range] at hd'
  obtain ⟨i, hi, rfl⟩ := hd'
  exact evalDim_WF t kn hk mem i (h.dims i hi)

end field

end PsV
