import PsV.Proofs.FitQuad
import Mathlib.LinearAlgebra.Matrix.NonsingularInverse
/-!
# C09: the normal matrix of a fit problem: positive definiteness, scaling, solvability

For non-negative weights and non-negative smoothing strengths the quadratic form of the normal matrix is
`vᵀMv = Σ_r w_r (Bv)_r² + Σ_d λ_d ‖K_d v‖²`, a sum of non-negative terms; it vanishes exactly when `Bv`
vanishes at every datum of non-zero weight and every penalty term with `λ_d ≠ 0` vanishes on `v`.  Hence
`M` is positive definite iff no non-zero coefficient vector is invisible to both the data and the penalty.
`scaleProblem s P` multiplies every weight and every smoothing strength by `s`; the objective, the normal matrix and
the right-hand side are then multiplied by `s`, so for `s > 0` the minimisers, the solutions of the normal equations
and positive definiteness are unchanged.  A positive-definite system has a solution (`posDef_solvable`): `PosDef n M`
makes `v ↦ M v` injective on `Fin n → α` (`mulVec_eq_zero_of_pos`), hence, the dimension being finite, surjective.
-/
set_option linter.unusedSectionVars false
namespace PsV
open Finset NormalEq

section
variable {α : Type} [Field α] [LinearOrder α] [IsStrictOrderedRing α] [A : Arith α] [L : LawfulArith α]

theorem penaltySum_nonneg (N : Nat) (c : Nat → α) : ∀ (ds : List (Dim α)) (ls : List α) (ps : List Nat),
    (∀ l ∈ ls, 0 ≤ l) → 0 ≤ penaltySum ds ls ps N c
  | [], _, _, _ | _ :: _, [], _, _ | _ :: _, _ :: _, [], _ => L.zero_eq.ge
  | d :: ds, l :: ls, p :: ps, hl => by
    rw [penaltySum_cons]
    exact add_nonneg (mul_nonneg (hl l List.mem_cons_self) (sum_nonneg (fun q _ => sq_nonneg _)))
      (penaltySum_nonneg N c ds ls ps (fun x hx => hl x (List.mem_cons_of_mem _ hx)))

theorem penaltySum_eq_zero_iff (N : Nat) (c : Nat → α) : ∀ (ds : List (Dim α)) (ls : List α) (ps : List Nat),
    (∀ l ∈ ls, 0 ≤ l) → (penaltySum ds ls ps N c = 0 ↔ PenaltyVanishes ds ls ps N c)
  | [], _, _, _ | _ :: _, [], _, _ | _ :: _, _ :: _, [], _ => iff_of_true L.zero_eq trivial
  | d :: ds, l :: ls, p :: ps, hl => by
    have hl' : ∀ x ∈ ls, 0 ≤ x := fun x hx => hl x (List.mem_cons_of_mem _ hx)
    rw [penaltySum_cons, add_eq_zero_iff_of_nonneg
        (mul_nonneg (hl l List.mem_cons_self) (sum_nonneg (fun q _ => sq_nonneg _)))
        (penaltySum_nonneg N c ds ls ps hl'),
      mul_eq_zero, sum_eq_zero_iff_of_nonneg (fun q _ => sq_nonneg _), penaltySum_eq_zero_iff N c ds ls ps hl']
    simp only [mem_range, sq_eq_zero_iff]
    rfl

omit L in
theorem dataQuad_nonneg (P : FitProblem α) (v : Nat → α) (hw : ∀ r < P.rows.size, 0 ≤ rowW P r) :
    0 ≤ ∑ r ∈ range P.rows.size, rowW P r * fitVal P v r ^ 2 :=
  sum_nonneg (fun r hr => mul_nonneg (hw r (mem_range.1 hr)) (sq_nonneg _))

omit L in
theorem dataQuad_eq_zero_iff (P : FitProblem α) (v : Nat → α) (hw : ∀ r < P.rows.size, 0 ≤ rowW P r) :
    ∑ r ∈ range P.rows.size, rowW P r * fitVal P v r ^ 2 = 0
      ↔ ∀ r < P.rows.size, rowW P r ≠ 0 → fitVal P v r = 0 := by
  rw [sum_eq_zero_iff_of_nonneg (fun r hr => mul_nonneg (hw r (mem_range.1 hr)) (sq_nonneg _))]
  constructor
  · intro h r hr hne
    rcases mul_eq_zero.1 (h r (mem_range.2 hr)) with h0 | h0
    · exact absurd h0 hne
    · exact pow_eq_zero_iff (two_ne_zero) |>.1 h0
  · intro h r hr
    by_cases hne : rowW P r = 0
    · rw [hne, zero_mul]
    · rw [h r (mem_range.1 hr) hne]; ring

theorem posDef_iff_trivial_kernel (P : FitProblem α) (hw : ∀ r < P.rows.size, 0 ≤ rowW P r)
    (hl : ∀ l ∈ P.smooth, 0 ≤ l) :
    PosDef P.ncoef (Mf P) ↔
      ∀ v : Nat → α, (∀ r < P.rows.size, rowW P r ≠ 0 → fitVal P v r = 0) →
        PenaltyVanishes P.dims P.smooth P.porder P.ncoef v → ∀ i < P.ncoef, v i = 0 := by
  constructor
  · intro hP v hv hpen i hi
    by_contra hne
    have hpos := hP v ⟨i, hi, hne⟩
    rw [quad_Mf, (dataQuad_eq_zero_iff P v hw).2 hv, (penaltySum_eq_zero_iff _ _ _ _ _ hl).2 hpen, add_zero] at hpos
    exact lt_irrefl _ hpos
  · rintro hK v ⟨i, hi, hne⟩
    have h1 := dataQuad_nonneg P v hw
    have h2 := penaltySum_nonneg P.ncoef v P.dims P.smooth P.porder hl
    rw [quad_Mf]
    refine lt_of_le_of_ne (add_nonneg h1 h2) (fun h0 => hne ?_)
    obtain ⟨e1, e2⟩ := (add_eq_zero_iff_of_nonneg h1 h2).1 h0.symm
    exact hK v ((dataQuad_eq_zero_iff P v hw).1 e1) ((penaltySum_eq_zero_iff _ _ _ _ _ hl).1 e2) i hi

/-- the problem with weights `s·w_r` and smoothing strengths `s·λ_d` -/
def scaleProblem (s : α) (P : FitProblem α) : FitProblem α :=
  { P with rows := P.rows.map (fun r => ⟨r.idx, r.z, s * r.w⟩), smooth := P.smooth.map (fun l => s * l) }

theorem penaltyGram_scale (s : α) (ds : List (Dim α)) (ls : List α) (ps : List Nat) (N i j : Nat) :
    penaltyGram ds (ls.map fun l => s * l) ps N i j = s * penaltyGram ds ls ps N i j :=
  match ds, ls, ps with
  | [], _, _ | _ :: _, [], _ | _ :: _, _ :: _, [] => (mul_zero s).symm
  | d :: ds, l :: ls, p :: ps => by
    rw [List.map_cons, penaltyGram_step, penaltyGram_step, penaltyGram_scale s ds ls ps N i j, mul_add, mul_assoc]

theorem penaltySum_scale (s : α) (ds : List (Dim α)) (ls : List α) (ps : List Nat) (N : Nat) (c : Nat → α) :
    penaltySum ds (ls.map fun l => s * l) ps N c = s * penaltySum ds ls ps N c := by
  rw [penaltySum_eq_quad, penaltySum_eq_quad, ← quad_smul]
  exact quad_congr_mat N c (fun i _ j _ => penaltyGram_scale s ds ls ps N i j)

theorem Mf_scale (s : α) (P : FitProblem α) (i j : Nat) (hi : i < P.ncoef) (hj : j < P.ncoef) :
    Mf (scaleProblem s P) i j = s * Mf P i j := by
  rw [Mf_list (scaleProblem s P) i j hi hj, Mf_list P i j hi hj]
  simp only [scaleProblem]
  rw [penaltyGram_scale, Array.toList_map, List.map_map, mul_add, ← List.sum_map_mul_left]
  congr 2
  exact List.map_congr_left (fun row _ => by simp only [Function.comp, rowB, mul_assoc])

theorem rf_scale (s : α) (P : FitProblem α) (i : Nat) (hi : i < P.ncoef) :
    rf (scaleProblem s P) i = s * rf P i := by
  rw [rf_list (scaleProblem s P) i hi, rf_list P i hi]
  simp only [scaleProblem]
  rw [Array.toList_map, List.map_map, ← List.sum_map_mul_left]
  congr 1
  exact List.map_congr_left (fun row _ => by simp only [Function.comp, rowB, mul_assoc])

theorem mulVec_Mf_scale (s : α) (P : FitProblem α) (c : Nat → α) (i : Nat) (hi : i < P.ncoef) :
    mulVec P.ncoef (Mf (scaleProblem s P)) c i = s * mulVec P.ncoef (Mf P) c i := by
  rw [mulVec_congr_mat P.ncoef c i hi (fun i hi j hj => Mf_scale s P i j hi hj), mulVec_smul_mat]

theorem quad_Mf_scale (s : α) (P : FitProblem α) (v : Nat → α) :
    quad P.ncoef (Mf (scaleProblem s P)) v = s * quad P.ncoef (Mf P) v := by
  rw [quad_congr_mat P.ncoef v (fun i hi j hj => Mf_scale s P i j hi hj), quad_smul]

theorem objective_scaleProblem (s : α) (P : FitProblem α) (c : Nat → α) :
    objective (scaleProblem s P) c = s * objective P c := by
  rw [objective_list, objective_list]
  simp only [scaleProblem]
  rw [penaltySum_scale, Array.toList_map, List.map_map, mul_add, ← List.sum_map_mul_left]
  congr 2
  exact List.map_congr_left (fun row _ => mul_assoc _ _ _)

theorem scaleProblem_equivariant (P : FitProblem α) (s : α) (hs : 0 < s) (c : Nat → α) :
    ((∀ c' : Nat → α, objective (scaleProblem s P) c ≤ objective (scaleProblem s P) c')
        ↔ ∀ c' : Nat → α, objective P c ≤ objective P c')
    ∧ ((∀ i < P.ncoef, mulVec P.ncoef (Mf (scaleProblem s P)) c i = rf (scaleProblem s P) i)
        ↔ ∀ i < P.ncoef, mulVec P.ncoef (Mf P) c i = rf P i)
    ∧ (PosDef P.ncoef (Mf (scaleProblem s P)) ↔ PosDef P.ncoef (Mf P)) := by
  refine ⟨?_, ?_, ?_⟩
  · refine forall_congr' (fun c' => ?_)
    rw [objective_scaleProblem, objective_scaleProblem]
    exact ⟨fun h => le_of_mul_le_mul_left h hs, fun h => mul_le_mul_of_nonneg_left h hs.le⟩
  · refine forall_congr' (fun i => forall_congr' (fun hi => ?_))
    rw [mulVec_Mf_scale s P c i hi, rf_scale s P i hi]
    exact ⟨fun h => mul_left_cancel₀ hs.ne' h, fun h => by rw [h]⟩
  · unfold PosDef
    refine forall_congr' (fun v => forall_congr' (fun _ => ?_))
    rw [quad_Mf_scale]
    exact mul_pos_iff_of_pos_left hs

end
end PsV

namespace PsV.NormalEq

theorem posDef_solvable {α : Type} [Field α] [LinearOrder α] {n : Nat} {M : Nat → Nat → α} (hP : PosDef n M)
    (r : Nat → α) : ∃ c : Nat → α, ∀ i < n, mulVec n M c i = r i := by
  have hinj : Function.Injective (toM n M).mulVec := fun u v huv => sub_eq_zero.1
    (mulVec_eq_zero_of_pos (posDef_toM hP) (by rw [Matrix.mulVec_sub, huv, sub_self]))
  obtain ⟨v, hv⟩ := Matrix.mulVec_surjective_iff_isUnit.2 (Matrix.mulVec_injective_iff_isUnit.1 hinj) (toV n r)
  exact ⟨ext0 v, normalEq_toM.2 (by rw [toV_ext0, hv])⟩

end PsV.NormalEq
