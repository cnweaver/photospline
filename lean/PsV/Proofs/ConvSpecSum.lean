import PsV.Proofs.ConvTrunc
import PsV.Proofs.ConvTile
/-!
The specification's convolution integral as a sum of double divided differences of tile sums (`conv1_as_dd2`): the folds
of `ConvSpec.conv1` are a double sum over the tiles (the skipped intervals have only empty tiles); on tile `(a, b)`
`f(x−t)·M(t)` is a combination of double divided differences of the products `(t−(x−τ_m))^p (y_r−t)^q'`, `a < m`, `b < r`
(pieces as divided differences of truncated powers), so it can be integrated through any antiderivatives `F m r` of
these (`pintegral_dd2`); the sum over the tiles then passes under the divided differences, where it collects the tiles
`a < m`, `b < r` into `tileSum`.
-/
namespace PsV
open Finset Polynomial ConvSpec

/-- lower end of tile `(a, b)`, as `conv1` clips it -/
def cLo (τ y : Nat → ℚ) (x : ℚ) (a b : Nat) : ℚ := if x - τ (a+1) < y b then y b else x - τ (a+1)
/-- upper end of tile `(a, b)`, as `conv1` clips it -/
def cHi (τ y : Nat → ℚ) (x : ℚ) (a b : Nat) : ℚ := if y (b+1) < x - τ a then y (b+1) else x - τ a

/-- the contribution of tile `(a, b)` to `conv1` -/
def tileTerm (τ : Nat → ℚ) (p naxes : Nat) (c y : Nat → ℚ) (q : Nat) (x : ℚ) (a b : Nat) : ℚ :=
  if cLo τ y x a b < cHi τ y x a b then
    pintegral (pmul (pcompLin (fpiece τ p naxes c a) x (-1)) (kpiece y q b)) (cLo τ y x a b) (cHi τ y x a b)
  else 0

theorem tileInt_eq (F : ℚ → ℚ) (τ y : Nat → ℚ) (x : ℚ) (a b : Nat) :
    tileInt F (x - τ (a+1)) (x - τ a) (y b) (y (b+1)) =
      if cLo τ y x a b < cHi τ y x a b then F (cHi τ y x a b) - F (cLo τ y x a b) else 0 := rfl

/-- an interval of `f` that `conv1` skips has only empty tiles -/
theorem tile_empty_of_skip (τ y : Nat → ℚ) (q : Nat) (x : ℚ)
    (hy : StrictBelow y (q+1)) (a b : Nat) (hb : b < q)
    (h : x - τ a ≤ y 0 ∨ y q ≤ x - τ (a+1) ∨ x - τ a ≤ x - τ (a+1)) :
    ¬ cLo τ y x a b < cHi τ y x a b := by
  have hmono : ∀ {i j}, i ≤ j → j ≤ q → y i ≤ y j := fun hij hj => hy.le hij (Nat.lt_succ_of_le hj)
  have l1 : x - τ (a+1) ≤ cLo τ y x a b := by unfold cLo; split_ifs with h; exacts [h.le, le_refl _]
  have l2 : y b ≤ cLo τ y x a b := by unfold cLo; split_ifs with h; exacts [le_refl _, not_lt.mp h]
  have u1 : cHi τ y x a b ≤ x - τ a := by unfold cHi; split_ifs with h; exacts [h.le, le_refl _]
  have u2 : cHi τ y x a b ≤ y (b+1) := by unfold cHi; split_ifs with h; exacts [le_refl _, not_lt.mp h]
  rcases h with h | h | h
  · exact not_lt.mpr (u1.trans (h.trans ((hmono (Nat.zero_le b) hb.le).trans l2)))
  · exact not_lt.mpr (u2.trans ((hmono hb (le_refl _)).trans (h.trans l1)))
  · exact not_lt.mpr (u1.trans (h.trans l1))

theorem conv1_eq_sum (τ : Nat → ℚ) (nknots p naxes : Nat) (c y : Nat → ℚ) (q : Nat) (x : ℚ)
    (hy : StrictBelow y (q+1)) :
    conv1 τ nknots p naxes c y q x =
      ∑ a ∈ range (nknots - 1), ∑ b ∈ range q, tileTerm τ p naxes c y q x a b := by
  unfold conv1
  refine (foldl_range_sum id _ (fun a => ∑ b ∈ range q, tileTerm τ p naxes c y q x a b) (fun acc a => ?_) _ 0).trans
    (zero_add _)
  dsimp only [id]
  split_ifs with h
  · have hz : ∑ b ∈ range q, tileTerm τ p naxes c y q x a b = 0 :=
      sum_eq_zero fun b hb => if_neg (tile_empty_of_skip τ y q x hy a b (mem_range.mp hb) h)
    rw [hz, add_zero]
  · refine foldl_range_sum id _ (fun b => tileTerm τ p naxes c y q x a b) (fun acc b => ?_) q acc
    unfold tileTerm
    rw [add_ite, add_zero]
    rfl

/-- `fpiece` collects the `p+1` basis functions whose support contains interval `a`; the others vanish there -/
theorem peval_fpiece (τ : Nat → ℚ) (p naxes : Nat) (c : Nat → ℚ) (a : Nat) (s : ℚ) :
    peval (fpiece τ p naxes c a) s = ∑ j ∈ range naxes, c j * peval (bpiece τ a p j) s := by
  -- the stored basis functions as a family over all integer indices, `0` where nothing is stored
  let g : Int → ℚ := fun i => if 0 ≤ i ∧ i < naxes then c i.toNat * peval (bpiece τ a p i.toNat) s else 0
  have hg : ∀ j : Nat, j < naxes → g j = c j * peval (bpiece τ a p j) s := fun j hj => by
    show (if _ then _ else _) = _
    rw [if_pos ⟨Int.natCast_nonneg j, by exact_mod_cast hj⟩, Int.toNat_natCast]
  have hout : ∀ i : Int, ¬ (0 ≤ i ∧ i < naxes) → g i = 0 := fun i h => if_neg h
  have hsupp : ∀ i : Int, (a : Int) < i ∨ i + p < a → g i = 0 := fun i h => by
    by_cases hi : 0 ≤ i ∧ i < naxes
    · show (if _ then _ else _) = _
      rw [if_pos hi, bpiece_eval_zero τ a s p i.toNat (by omega), mul_zero]
    · exact hout i hi
  -- the fold runs over the window of interval `a`
  have hr : peval (fpiece τ p naxes c a) s = ∑ r ∈ range (p+1), g ((a : Int) - p + r) := by
    refine (foldl_range_sum (fun P => peval P s) _ _ (fun acc r => ?_) _ _).trans (zero_add _)
    dsimp only
    by_cases h1 : a + r < p
    · rw [if_pos h1, hout _ (by omega), add_zero]
    · have e : (a : Int) - p + r = ((a + r - p : Nat) : Int) := by omega
      rw [if_neg h1, e]
      by_cases h2 : a + r - p < naxes
      · rw [if_pos h2, hg _ h2, peval_padd, peval_pscale]
      · rw [if_neg h2, hout _ (by omega), add_zero]
  rw [hr, ← window_reindex g naxes a p (fun i hi => hout i (by omega)) (fun i hi => hsupp i (Or.inr hi))
    (fun i hi => hsupp i (Or.inl hi)) (fun i hi _ => hout i (by omega))]
  exact (sum_congr rfl fun j hj => hg j (mem_range.mp hj))

theorem tileTerm_eq (τ : Nat → ℚ) (nknots p naxes : Nat) (c y : Nat → ℚ) (q' : Nat) (x : ℚ)
    (hn : naxes + p + 1 = nknots) (hτ : StrictBelow τ nknots) (hy : StrictBelow y (q'+2))
    (F : Nat → Nat → ℚ[X])
    (hF : ∀ m r t, (derivative (F m r)).eval t = (t - (x - τ m))^p * (y r - t)^q') (a b : Nat) :
    tileTerm τ p naxes c y (q'+1) x a b =
      ∑ j ∈ range naxes, (c j * ((τ (j+p+1) - τ j) * ((q':ℚ)+1))) *
        dd2 τ y (fun m r => (if a < m ∧ b < r then 1 else 0) *
          tileInt (fun t => (F m r).eval t) (x - τ (a+1)) (x - τ a) (y b) (y (b+1))) (p+2) j (q'+2) 0 := by
  -- on the tile, `c_j B_j(x−t)·M(t)` is the double divided difference of the product of the two truncated powers
  have h' : ∀ t, peval (pmul (pcompLin (fpiece τ p naxes c a) x (-1)) (kpiece y (q'+1) b)) t =
      ∑ j ∈ range naxes, (c j * ((τ (j+p+1) - τ j) * ((q':ℚ)+1))) *
        dd2 τ y (fun m r => (if a < m ∧ b < r then 1 else 0) * (derivative (F m r)).eval t) (p+2) j (q'+2) 0 := by
    intro t
    rw [peval_pmul, peval_pcompLin, peval_fpiece, kpiece_eval y q' b t (hy.distinctOn (by omega)), Finset.sum_mul]
    refine Finset.sum_congr rfl fun j hj => ?_
    rw [bpiece_eq_dd τ a _ p j (hτ.distinctOn (by have := mem_range.mp hj; omega)),
      dd2_congr τ y _ (fun m r => truncPiece τ a (x + -1 * t) p m * truncPiece y b t q' r) (p+2) j (q'+2) 0
        (fun m r _ _ _ _ => by
          rw [hF]
          unfold truncPiece
          by_cases h1 : a < m <;> by_cases h2 : b < r <;> simp only [h1, h2, and_self, and_false, false_and, if_true,
            if_false, one_mul, zero_mul, mul_zero]
          ring),
      dd2_mul_sep]
    ring
  unfold tileTerm
  simp only [tileInt_eq]
  split_ifs with h
  · exact pintegral_dd2 _ naxes _ τ y (p+2) (q'+2) 0 _ F h' _ _
  · simp only [mul_zero, dd2_zero_fun, Finset.sum_const_zero]

theorem sum_range_ite_lt (f : Nat → ℚ) {m A : Nat} (h : m ≤ A) :
    ∑ a ∈ range A, (if a < m then f a else 0) = ∑ a ∈ range m, f a := by
  rw [sum_range_window _ A 0 m (by omega) fun i _ hi => if_neg (by omega)]
  exact sum_congr rfl fun k hk => by rw [Nat.zero_add, if_pos (mem_range.mp hk)]

theorem sum_tiles (T : Nat → Nat → ℚ) {m A r B : Nat} (hm : m ≤ A) (hr : r ≤ B) :
    ∑ a ∈ range A, ∑ b ∈ range B, (if a < m ∧ b < r then 1 else 0) * T a b =
      ∑ a ∈ range m, ∑ b ∈ range r, T a b := by
  rw [(sum_range_ite_lt (fun a => ∑ b ∈ range r, T a b) hm).symm]
  apply Finset.sum_congr rfl
  intro a _
  by_cases h : a < m
  · rw [if_pos h, (sum_range_ite_lt (fun b => T a b) hr).symm]
    apply Finset.sum_congr rfl
    intro b _
    by_cases h2 : b < r <;> simp [h, h2]
  · simp [h]

theorem conv1_as_dd2 (τ : Nat → ℚ) (nknots p naxes : Nat) (c : Nat → ℚ) (y : Nat → ℚ) (q' : Nat) (x : ℚ)
    (hn : naxes + p + 1 = nknots)
    (hτ : ∀ a b, a < b → b < nknots → τ a < τ b)
    (hy : ∀ a b, a < b → b ≤ q' + 1 → y a < y b)
    (F : Nat → Nat → ℚ[X])
    (hF : ∀ m r t, (derivative (F m r)).eval t = (t - (x - τ m))^p * (y r - t)^q') :
    ConvSpec.conv1 τ nknots p naxes c y (q'+1) x =
      ∑ j ∈ range naxes, c j * ((τ (j+p+1) - τ j) * ((q':ℚ) + 1) *
        dd2 τ y (fun m r => tileSum (fun t => (F m r).eval t) (fun a => x - τ a) y m r) (p+2) j (q'+2) 0) := by
  rw [conv1_eq_sum τ nknots p naxes c y (q'+1) x (strictBelow_of_le hy)]
  simp only [tileTerm_eq τ nknots p naxes c y q' x hn hτ (strictBelow_of_le hy) F hF]
  -- the sum over the tiles passes under the divided differences, where it collects the tiles below `(m, r)`
  rw [Finset.sum_congr rfl fun a _ => Finset.sum_comm, Finset.sum_comm]
  refine Finset.sum_congr rfl fun j hj => ?_
  have hj' := mem_range.mp hj
  simp only [← Finset.mul_sum, ← dd2_sum]
  rw [mul_assoc, dd2_congr τ y _ _ (p+2) j (q'+2) 0 fun m r _ hm _ hr =>
    sum_tiles (fun a b => tileInt (fun t => (F m r).eval t) (x - τ (a+1)) (x - τ a) (y b) (y (b+1)))
      (by omega : m ≤ nknots - 1) (by omega : r ≤ q' + 1)]
  rfl

end PsV
