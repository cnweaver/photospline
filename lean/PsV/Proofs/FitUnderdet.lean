import PsV.Proofs.FitPosDef
import Mathlib.LinearAlgebra.FiniteDimensional.Lemmas
import Mathlib.LinearAlgebra.Matrix.ToLin
/-!
# C13 ∩ C09: argument tuples the sanity block accepts although the fit cannot be well-posed

A fit problem without smoothing and with fewer data points than coefficients has a singular normal matrix `BᵀWB`,
whatever knots, abscissae, weights and data are: a homogeneous system of `rows` equations in `ncoef > rows` unknowns
has a non-trivial solution `v`; the spline with coefficients `v` vanishes at every datum, and no penalty term is active.
Stated with C09's own definitions (`FitProblem`, `Mf`, `PosDef`; the quadratic form through `quad_Mf`).
-/
namespace PsV
open Finset NormalEq

variable {α : Type} [Field α]

theorem exists_kernel_vector {m n : Nat} (D : Nat → Nat → α) (h : m < n) :
    ∃ v : Nat → α, (∃ i < n, v i ≠ 0) ∧ ∀ r < m, ∑ i ∈ range n, D r i * v i = 0 := by
  have hker : LinearMap.ker (Matrix.mulVecLin (Matrix.of fun (r : Fin m) (i : Fin n) => D r.val i.val)) ≠ ⊥ :=
    LinearMap.ker_ne_bot_of_finrank_lt (by rw [Module.finrank_fin_fun, Module.finrank_fin_fun]; exact h)
  obtain ⟨w, hw, hne⟩ := Submodule.exists_mem_ne_zero_of_ne_bot hker
  refine ⟨ext0 w, ?_, fun r hr => ?_⟩
  · obtain ⟨i, hi⟩ := Function.ne_iff.mp hne
    exact ⟨i.val, i.isLt, by rw [ext0_apply]; exact hi⟩
  · have h0 : ∑ i : Fin n, D r i * w i = 0 := congrFun (LinearMap.mem_ker.mp hw) ⟨r, hr⟩
    rw [← Fin.sum_univ_eq_sum_range (fun i => D r i * ext0 w i) n]
    simp only [ext0_apply]
    exact h0

variable [LinearOrder α] [IsStrictOrderedRing α] [A : Arith α] [L : LawfulArith α]

/-- Whatever the signs of the weights: at a kernel vector of the design matrix every data term is `w·0²` and no penalty term is active,
    so the quadratic form vanishes there. -/
theorem underdetermined_not_posDef (P : FitProblem α) (hsm : ∀ l ∈ P.smooth, l = 0) (hrows : P.rows.size < P.ncoef) :
    ¬ PosDef P.ncoef (Mf P) := by
  intro hP
  obtain ⟨v, hne, hv⟩ := exists_kernel_vector (designEntry P) hrows
  have hq : quad P.ncoef (Mf P) v = 0 := by
    rw [quad_Mf, (penaltySum_eq_zero_iff _ _ _ _ _ fun l hl => (hsm l hl).ge).mpr
      (penaltyVanishes_of_all_zero _ _ _ _ _ hsm), add_zero]
    exact sum_eq_zero fun r hr => by rw [fitVal, hv r (mem_range.mp hr), zero_pow two_ne_zero, mul_zero]
  exact lt_irrefl _ (hq ▸ hP v hne)

end PsV
