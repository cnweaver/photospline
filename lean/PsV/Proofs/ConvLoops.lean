import PsV.Model.Convolve
import PsV.Proofs.MixedRadix
import Mathlib.Algebra.BigOperators.Group.Finset.Basic
import Mathlib.Tactic.Ring
/-!
The loops of `convolve`.  The four coefficient loops are updates of windows of an array, cell by cell (`view`, `winO`,
`loopN_tiles`); every cell of the new array goes through one fold over `l` (`coefLoops_cell`), in exact arithmetic on a
zeroed array the mode product with `trafo` (`coefLoops_cell_rat`); `trafoMatrix` is filled row by row
(`trafoMatrix_getD`).
-/
namespace PsV

variable {α : Type}

/-- the array seen as a partial function -/
def view (a : Array α) : Nat → Option α := fun p => a[p]?

/-- apply `h (p - lo)` to the cells `lo ≤ p < lo + w`, leave the others alone -/
def winO (lo w : Nat) (h : Nat → α → α) (m : Nat → Option α) : Nat → Option α :=
  fun p => if lo ≤ p ∧ p < lo + w then (m p).map (h (p - lo)) else m p

theorem view_modify (a : Array α) (i : Nat) (f : α → α) :
    view (a.modify i f) = winO i 1 (fun _ => f) (view a) := by
  funext p
  simp only [view, winO, Array.getElem?_modify]
  by_cases h : i = p
  · subst h; rw [if_pos rfl, if_pos ⟨le_refl _, Nat.lt_succ_self _⟩]
  · have h2 : ¬ (i ≤ p ∧ p < i + 1) := by omega
    rw [if_neg h, if_neg h2]

/-- consecutive windows of width `w`: block `b` handled by `h b` -/
theorem loopN_tiles (F : Nat → Array α → Array α) (base w : Nat) (lo : Nat → Nat)
    (h : Nat → Nat → α → α) (hlo : ∀ b, lo b = base + b * w)
    (hF : ∀ b a, view (F b a) = winO (lo b) w (h b) (view a)) :
    ∀ n a, view (loopN n F a) = winO base (n * w) (fun r => h (r / w) (r % w)) (view a) := by
  intro n
  induction n with
  | zero =>
    intro a; funext p
    exact (if_neg (by omega)).symm
  | succ n ih =>
    intro a; funext p
    simp only [loopN, hF, ih, hlo, winO]
    have e : (n + 1) * w = n * w + w := Nat.succ_mul n w
    by_cases h1 : base ≤ p ∧ p < base + n * w
    · have h2 : ¬ (base + n * w ≤ p ∧ p < base + n * w + w) := by omega
      have h3 : base ≤ p ∧ p < base + (n + 1) * w := by omega
      rw [if_neg h2, if_pos h1, if_pos h3]
    · by_cases h2 : base + n * w ≤ p ∧ p < base + n * w + w
      · have h3 : base ≤ p ∧ p < base + (n + 1) * w := by omega
        -- block `n`, offset `p - (base + n * w)`
        obtain ⟨h5, h6⟩ := (Nat.div_mod_unique (by omega : 0 < w)).mpr
          ⟨(by rw [Nat.mul_comm w n]; omega : p - (base + n * w) + w * n = p - base), by omega⟩
        rw [if_pos h2, if_neg h1, if_pos h3, h5, h6]
      · have h3 : ¬ (base ≤ p ∧ p < base + (n + 1) * w) := by omega
        rw [if_neg h2, if_neg h1, if_neg h3]

/-- `for b < n: a.modify (base + b) (g b)` touches cell `base + b` with `g b` -/
theorem loopN_cells (F : Nat → Array α → Array α) (base : Nat) (g : Nat → α → α)
    (hF : ∀ b a, view (F b a) = winO (base + b) 1 (fun _ => g b) (view a)) :
    ∀ n a, view (loopN n F a) = winO base n g (view a) := by
  intro n a
  have := loopN_tiles F base 1 (fun b => base + b) (fun b _ => g b) (fun b => by rw [Nat.mul_one]) hF n a
  simpa only [Nat.mul_one, Nat.div_one] using this

/-- the same window again and again: the cell-wise functions compose -/
theorem loopN_repeat (F : Nat → Array α → Array α) (lo w : Nat) (h : Nat → Nat → α → α)
    (hF : ∀ l a, view (F l a) = winO lo w (h l) (view a)) :
    ∀ n a, view (loopN n F a) = winO lo w (fun r v => loopN n (fun l v => h l r v) v) (view a) := by
  intro n
  induction n with
  | zero =>
    intro a; funext p
    simp only [loopN, winO]
    split <;> simp
  | succ n ih =>
    intro a; funext p
    simp only [loopN, hF, ih, winO]
    split
    · simp [Option.map_map, Function.comp_def]
    · rfl

theorem size_loopN (F : Nat → Array α → Array α) (hF : ∀ b a, (F b a).size = a.size) :
    ∀ n a, (loopN n F a).size = a.size
  | 0, _ => rfl
  | n+1, a => by rw [loopN, hF, size_loopN F hF n a]

section loops
variable {α : Type} [A : Arith α]

/-- what one cell of the new array goes through: `for l < nOld: acc = rnd(acc + trafo[j][l]*old[i][l][k])` -/
def cellFold (trafo old : Nat → α) (stride2 nOld i j k : Nat) (v : α) : α :=
  loopN nOld (fun l v => cellStep trafo old stride2 nOld i j l k v) v

theorem view_kLoop (trafo old : Nat → α) (s2 nNew nOld i j l : Nat) (c : Array α) :
    view (kLoop trafo old s2 nNew nOld i j l c) =
      winO (i*s2*nNew + j*s2) s2 (fun k => cellStep trafo old s2 nOld i j l k) (view c) :=
  loopN_cells _ (i*s2*nNew + j*s2) (fun k => cellStep trafo old s2 nOld i j l k)
    (fun _ a => view_modify a _ _) s2 c

theorem view_lLoop (trafo old : Nat → α) (s2 nNew nOld i j : Nat) (c : Array α) :
    view (lLoop trafo old s2 nNew nOld i j c) =
      winO (i*s2*nNew + j*s2) s2 (fun k => cellFold trafo old s2 nOld i j k) (view c) :=
  loopN_repeat _ (i*s2*nNew + j*s2) s2 (fun l k => cellStep trafo old s2 nOld i j l k)
    (fun l a => view_kLoop trafo old s2 nNew nOld i j l a) nOld c

theorem view_jLoop (trafo old : Nat → α) (s2 nNew nOld i : Nat) (c : Array α) :
    view (jLoop trafo old s2 nNew nOld i c) =
      winO (i*s2*nNew) (nNew*s2) (fun r => cellFold trafo old s2 nOld i (r / s2) (r % s2)) (view c) :=
  loopN_tiles _ (i*s2*nNew) s2 (fun j => i*s2*nNew + j*s2) (fun j k => cellFold trafo old s2 nOld i j k)
    (fun _ => rfl) (fun j a => view_lLoop trafo old s2 nNew nOld i j a) nNew c

theorem view_coefLoops (trafo old : Nat → α) (s1 s2 nNew nOld : Nat) (c : Array α) :
    view (coefLoops trafo old s1 s2 nNew nOld c) =
      winO 0 (s1*(nNew*s2))
        (fun R => cellFold trafo old s2 nOld (R / (nNew*s2)) ((R % (nNew*s2)) / s2) ((R % (nNew*s2)) % s2)) (view c) :=
  loopN_tiles _ 0 (nNew*s2) (fun i => i*s2*nNew)
    (fun i r => cellFold trafo old s2 nOld i (r / s2) (r % s2))
    (fun i => by ring) (fun i a => view_jLoop trafo old s2 nNew nOld i a) s1 c

theorem cell_index_lt {s1 s2 nNew i j k : Nat} (hi : i < s1) (hj : j < nNew) (hk : k < s2) :
    j*s2 + k < nNew*s2 ∧ i*s2*nNew + j*s2 + k < s1*(nNew*s2) :=
  ⟨Permute.mul_add_lt hj hk, Permute.block_lt' hi hj hk⟩

theorem coefLoops_cell (trafo old : Nat → α) (s1 s2 nNew nOld : Nat) (init : Array α)
    (i j k : Nat) (hi : i < s1) (hj : j < nNew) (hk : k < s2) :
    (coefLoops trafo old s1 s2 nNew nOld init)[i*s2*nNew + j*s2 + k]? =
      (init[i*s2*nNew + j*s2 + k]?).map (cellFold trafo old s2 nOld i j k) := by
  obtain ⟨hjk, hin⟩ := cell_index_lt hi hj hk
  have hv := congrFun (view_coefLoops trafo old s1 s2 nNew nOld init) (i*s2*nNew + j*s2 + k)
  simp only [view, winO, Nat.sub_zero] at hv
  rw [hv, if_pos ⟨Nat.zero_le _, by omega⟩]
  -- the flattened index decomposes back into `i`, `j`, `k`
  rw [show i*s2*nNew + j*s2 + k = i*(nNew*s2) + (j*s2 + k) by ring, Permute.mul_add_div i hjk, Nat.mul_add_mod_of_lt hjk,
    Permute.mul_add_div j hk, Nat.mul_add_mod_of_lt hk]

theorem coefLoops_size (trafo old : Nat → α) (s1 s2 nNew nOld : Nat) (c : Array α) :
    (coefLoops trafo old s1 s2 nNew nOld c).size = c.size :=
  size_loopN _ (fun _ _ => size_loopN _ (fun _ _ => size_loopN _ (fun _ _ =>
    size_loopN _ (fun _ _ => Array.size_modify) _ _) _ _) _ _) _ _

end loops

/-- the accumulation over `l < n` in exact arithmetic; `m` is `nOld` as index multiplier, kept apart from the loop
bound so that the induction runs over the bound alone -/
theorem cellSteps_rat (trafo old : Nat → Rat) (s2 m i j k : Nat) : ∀ n,
    loopN n (fun l v => cellStep trafo old s2 m i j l k v) (Arith.rnd Arith.zero) =
      ∑ l ∈ Finset.range n, trafo (j*m + l) * old (i*s2*m + l*s2 + k)
  | 0 => rfl
  | n+1 => by
    rw [loopN, cellSteps_rat trafo old s2 m i j k n, Finset.sum_range_succ]
    rfl

theorem coefLoops_cell_rat (trafo old : Nat → Rat) (s1 s2 nNew nOld N : Nat) (i j k : Nat)
    (hi : i < s1) (hj : j < nNew) (hk : k < s2) (hN : i*s2*nNew + j*s2 + k < N) :
    (coefLoops trafo old s1 s2 nNew nOld (Array.replicate N (Arith.rnd Arith.zero)))[i*s2*nNew + j*s2 + k]? =
      some (∑ l ∈ Finset.range nOld, trafo (j*nOld + l) * old (i*s2*nOld + l*s2 + k)) := by
  rw [coefLoops_cell trafo old s1 s2 nNew nOld _ i j k hi hj hk, Array.getElem?_replicate, if_pos hN, Option.map_some,
    cellFold, cellSteps_rat]

theorem loopN_push (g : Nat → α) : ∀ (n : Nat) (t : Array α),
    (loopN n (fun j t => t.push (g j)) t).size = t.size + n ∧
    (∀ k, k < t.size → (loopN n (fun j t => t.push (g j)) t)[k]? = t[k]?) ∧
    (∀ j, j < n → (loopN n (fun j t => t.push (g j)) t)[t.size + j]? = some (g j))
  | 0, t => ⟨rfl, fun _ _ => rfl, fun _ h => absurd h (by omega)⟩
  | n+1, t => by
    obtain ⟨h1, h2, h3⟩ := loopN_push g n t
    refine ⟨?_, ?_, ?_⟩
    · rw [loopN, Array.size_push, h1]; omega
    · intro k hk
      rw [loopN, Array.getElem?_push, h1, if_neg (by omega), h2 k hk]
    · intro j hj
      rw [loopN, Array.getElem?_push, h1]
      by_cases h : j = n
      · rw [if_pos (by omega), h]
      · rw [if_neg (by omega), h3 j (by omega)]

theorem loopN_push_rows (f : Nat → Nat → α) (nOld : Nat) : ∀ (n : Nat) (t0 : Array α), t0.size = 0 →
    (loopN n (fun i t => loopN nOld (fun j t => t.push (f i j)) t) t0).size = n * nOld ∧
    (∀ i j, i < n → j < nOld →
      (loopN n (fun i t => loopN nOld (fun j t => t.push (f i j)) t) t0)[i*nOld + j]? = some (f i j))
  | 0, t0, h0 => ⟨by rw [loopN, h0, Nat.zero_mul], fun _ _ h => absurd h (by omega)⟩
  | n+1, t0, h0 => by
    obtain ⟨h1, h2⟩ := loopN_push_rows f nOld n t0 h0
    obtain ⟨g1, g2, g3⟩ := loopN_push (f n) nOld (loopN n (fun i t => loopN nOld (fun j t => t.push (f i j)) t) t0)
    rw [h1] at g1 g2 g3
    refine ⟨by rw [loopN, g1, Nat.succ_mul], fun i j hi hj => ?_⟩
    rw [loopN]
    by_cases h : i = n
    · rw [h]; exact g3 j hj
    · have : (i+1) * nOld ≤ n * nOld := Nat.mul_le_mul_right _ (by omega)
      rw [Nat.succ_mul] at this
      rw [g2 _ (by omega)]
      exact h2 i j (by omega) hj

theorem trafoMatrix_getD (knots ck rho : List Rat) (k q : Nat) (norm : Rat) (nNew nOld i j : Nat)
    (hi : i < nNew) (hj : j < nOld) :
    (trafoMatrix knots ck rho k q norm nNew nOld).getD (i*nOld + j) 0 = trafoEntry knots ck rho k q norm i j := by
  unfold trafoMatrix
  rw [Array.getD_eq_getD_getElem?, (loopN_push_rows (fun i j => trafoEntry knots ck rho k q norm i j) nOld nNew
    (Array.emptyWithCapacity (nNew*nOld)) rfl).2 i j hi hj]
  rfl

end PsV
