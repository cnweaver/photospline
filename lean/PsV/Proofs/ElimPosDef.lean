import PsV.Proofs.FitQuad
import PsV.Proofs.SchurStep
/-!
# C09: a successful exact elimination certifies positive definiteness

`solveSPD` / `spdPivots` (PsV/Spec/Fit.lean) run Gaussian elimination without pivoting and give up as
soon as a pivot is not positive.  For a symmetric matrix, success therefore proves that the matrix is
positive definite (`NormalEq.PosDef`).

The loop is read backwards: a positive pivot and a positive definite Schur complement make the window `[k, n)` positive
definite (completing the square: `SchurStep`), and one `elimStep` of the array code is one Schur step on the entry
function.  The example problem `exP` of `FitQuad` is certified this way (`exP_posDef`).
-/
set_option linter.unusedSectionVars false
namespace PsV
open NormalEq

section Arrays
variable {α : Type} [Field α] [LinearOrder α] [IsStrictOrderedRing α] [A : Arith α] [L : LawfulArith α]

/-- entry `(i, j)` of the working rows of the elimination -/
def ent (rows : Array (Array α)) (i j : Nat) : α := (rows.getD i #[]).getD j A.zero

omit [Field α] [LinearOrder α] [IsStrictOrderedRing α] L in
theorem size_elimStep (k : Nat) (prow : Array α) (piv : α) (rows : Array (Array α)) :
    (elimStep k prow piv rows).size = rows.size := by
  unfold elimStep
  exact Array.size_mapIdx

omit [Field α] [LinearOrder α] [IsStrictOrderedRing α] L in
theorem rowSize_elimStep (k : Nat) (prow : Array α) (piv : α) (rows : Array (Array α)) (i : Nat) :
    ((elimStep k prow piv rows).getD i #[]).size = (rows.getD i #[]).size := by
  unfold elimStep
  by_cases h : i < rows.size
  · rw [Array.getD_mapIdx_of_lt _ _ h #[]]
    by_cases h1 : i ≤ k
    · rw [if_pos h1]
    · rw [if_neg h1]
      generalize rows.getD i #[] = row
      dsimp only
      split
      · rfl
      · exact Array.size_mapIdx
  · rw [Array.getD_mapIdx_of_le _ _ (by omega)]
    rw [Array.getD_eq_getD_getElem?, Array.getElem?_eq_none (by omega)]
    rfl

theorem ent_elimStep (k : Nat) (rows : Array (Array α)) (i j : Nat)
    (hki : k < i) (hi : i < rows.size) (hkj : k ≤ j) (hj : j < (rows.getD i #[]).size) :
    ent (elimStep k (rows.getD k #[]) ((rows.getD k #[]).getD k A.zero) rows) i j
      = schur (ent rows) k i j := by
  unfold ent schur elimStep
  beta_reduce
  rw [Array.getD_mapIdx_of_lt _ _ hi #[], if_neg (by omega)]
  generalize rows.getD i #[] = row at hj ⊢
  generalize rows.getD k #[] = prow
  dsimp only
  rw [L.div_eq]
  by_cases hz : isZero (row.getD k A.zero / prow.getD k A.zero) = true
  · rw [if_pos hz]
    rw [isZero_iff] at hz
    rw [hz, zero_mul, sub_zero]
  · rw [if_neg hz, Array.getD_mapIdx_of_lt _ _ hj A.zero, if_neg (by omega), L.sub_eq, L.mul_eq]

theorem elimLoop_posDefFrom (n : Nat) : ∀ (fuel k : Nat) (rows rows' : Array (Array α)),
    n ≤ k + fuel → rows.size = n → (∀ i, i < n → n ≤ (rows.getD i #[]).size) →
    (∀ i, k ≤ i → i < n → ∀ j, k ≤ j → j < n → ent rows i j = ent rows j i) →
    elimLoop n fuel k rows = some rows' → PosDefFrom k n (ent rows) := by
  intro fuel
  induction fuel with
  | zero =>
    intro k rows rows' hf _ _ _ _
    exact posDefFrom_of_le (by omega) _
  | succ f ih =>
    intro k rows rows' hf hsz hrs hS h
    by_cases hk : k ≥ n
    · exact posDefFrom_of_le hk _
    · unfold elimLoop at h
      rw [if_neg hk] at h
      dsimp only at h
      cases hlt : A.lt A.zero ((rows.getD k #[]).getD k A.zero) with
      | false => rw [hlt] at h; simp at h
      | true =>
        rw [hlt] at h
        simp only [Bool.not_true, Bool.false_eq_true, if_false] at h
        have hpiv : 0 < ent rows k k := by
          have := (L.lt_iff _ _).1 hlt
          unfold ent
          rw [L.zero_eq] at this ⊢
          exact this
        have hent : ∀ i, k + 1 ≤ i → i < n → ∀ j, k + 1 ≤ j → j < n →
            ent (elimStep k (rows.getD k #[]) ((rows.getD k #[]).getD k A.zero) rows) i j
              = schur (ent rows) k i j := by
          intro i hi hin j hj hjn
          exact ent_elimStep k rows i j (by omega) (by omega) (by omega)
            (lt_of_lt_of_le hjn (hrs i hin))
        have hP := ih (k+1) _ rows' (by omega) (by rw [size_elimStep]; exact hsz)
          (fun i hi => by rw [rowSize_elimStep]; exact hrs i hi)
          (fun i hi hin j hj hjn => by
            rw [hent i hi hin j hj hjn, hent j hj hjn i hi hin]
            exact schur_symm (n := n) (ent rows) hS i j (by omega) hin (by omega) hjn)
          h
        refine posDefFrom_of_schur (ent rows) (fun i hi hin => hS i (by omega) hin k (le_refl _) (by omega))
          hpiv (posDefFrom_congr hent hP)

omit [Field α] [LinearOrder α] [IsStrictOrderedRing α] L in
theorem ent_ofFn (n w : Nat) (g : Nat → Nat → α) (i j : Nat) (hi : i < n) (hj : j < w) :
    ent (Array.ofFn (n := n) fun i => Array.ofFn (n := w) fun j => g i.val j.val) i j = g i j := by
  unfold ent
  rw [Array.getD_ofFn _ hi, Array.getD_ofFn _ hj]

omit [Field α] [LinearOrder α] [IsStrictOrderedRing α] A L in
theorem rowSize_ofFn (n w : Nat) (g : Nat → Nat → α) (i : Nat) (hi : i < n) :
    ((Array.ofFn (n := n) fun i => Array.ofFn (n := w) fun j => g i.val j.val).getD i #[]).size = w := by
  rw [Array.getD_ofFn _ hi]
  exact Array.size_ofFn

theorem elimLoop_ofFn_posDef (n w : Nat) (hw : n ≤ w) (g : Nat → Nat → α) (rows' : Array (Array α))
    (hS : ∀ i < n, ∀ j < n, g i j = g j i)
    (h : elimLoop n n 0 (Array.ofFn (n := n) fun i => Array.ofFn (n := w) fun j => g i.val j.val)
      = some rows') : PosDef n g := by
  have hP := elimLoop_posDefFrom n n 0 _ rows' (by omega) Array.size_ofFn
    (fun i hi => by rw [rowSize_ofFn n w g i hi]; exact hw)
    (fun i _ hi j _ hj => by
      rw [ent_ofFn n w g i j hi (by omega), ent_ofFn n w g j i hj (by omega)]
      exact hS i hi j hj)
    h
  rw [← posDefFrom_zero_iff]
  exact posDefFrom_congr (fun i _ hi j _ hj => ent_ofFn n w g i j hi (by omega)) hP

theorem solveSPD_posDef (M : Tab2 α) (r c : Array α)
    (hS : ∀ i < M.n, ∀ j < M.n, M.get i j = M.get j i)
    (h : solveSPD M r = some c) : PosDef M.n (fun i j => M.get i j) := by
  unfold solveSPD at h
  dsimp only at h
  split at h
  · exact absurd h (by simp)
  · rename_i rows' hrows
    have hP := elimLoop_ofFn_posDef M.n (M.n + 1) (by omega)
      (fun i j => if j < M.n then M.get i j else r.getD i A.zero) rows'
      (fun i hi j hj => by simp only [hi, hj, if_true]; exact hS i hi j hj) hrows
    intro v hv
    have := hP v hv
    rw [quad_congr_mat (M' := fun i j => M.get i j) _ v (fun i hi j hj => by simp only [hj, if_true])]
      at this
    exact this

theorem spdPivots_posDef (M : Tab2 α) (ps : List α)
    (hS : ∀ i < M.n, ∀ j < M.n, M.get i j = M.get j i)
    (h : spdPivots M = some ps) : PosDef M.n (fun i j => M.get i j) := by
  unfold spdPivots at h
  dsimp only at h
  split at h
  · exact absurd h (by simp)
  · rename_i rows' hrows
    exact elimLoop_ofFn_posDef M.n M.n (le_refl _) (fun i j => M.get i j) rows' hS hrows

end Arrays

theorem exP_specFit : specFit exP = some #[1, 1] := by decide +kernel

theorem exP_posDef : PosDef exP.ncoef (Mf exP) :=
  solveSPD_posDef (specM exP) (specR exP) _ (specM_symm exP) exP_specFit

end PsV
