import PsV.Proofs.FitsCardForm
import PsV.Proofs.FitsWords
/-!
# Round-trip theorem for the FITS byte codec (`PsV/Model/FitsCodec.lean`)

`decode_encode`: a store whose HDUs satisfy `HduOK` (pixel count = product of the axes, at most 999 axes, axis
lengths < 10^20, every *user* card satisfies `CardRT`) is recovered exactly from its bytes.  Each level reads a prefix
and hands the rest on: the records up to `END` and the fill (`splitHeader_cards`; a header is the `Layout.headerUnit` of
its cards' texts, `encodeHeader_eq`), the cards (`CardRT`, `PsV/Proofs/FitsCardForm.lean`), the mandatory keywords
(they are cards of the forms: `structCards_RT`; parsed back: `parseStruct_structCards`), the pixel words
(`PsV/Proofs/FitsWords.lean`), one HDU (`decodeHdu_encodeHdu`; its converse `decodeHdu_some` is what
`PsV/Proofs/FitsDecode.lean` starts from), the file.  `exampleFits_ok` shows the hypotheses are satisfiable.
-/
namespace PsV.Fits.Codec

/-- `n` cards came before: the fill goes to the block boundary of the whole header -/
theorem splitHeader_cards (p : UInt8) (rest : Bytes) (m : Nat) (cs : List Str) :
    ∀ (n fuel : Nat), (∀ s ∈ cs, s.length = 80 ∧ Lat s ∧ s ≠ endCard) → cs.length < fuel →
      m = (n + cs.length + 1) * 80 →
      splitHeader fuel n ((cs.flatMap id).map byt ++ (endCard.map byt ++ (List.replicate (blockPad m) p ++ rest)))
        = some (cs, rest) := by
  induction cs with
  | nil =>
    intro n fuel _ hf hm
    obtain ⟨fuel, rfl⟩ : ∃ f, fuel = f + 1 := ⟨fuel - 1, by omega⟩
    have hm : m = (n + 1) * 80 := hm
    have hl : (endCard.map byt).length = 80 := by rw [List.length_map, endCard_length]
    rw [splitHeader, if_neg (by rw [List.flatMap_nil, List.map_nil, List.nil_append, List.length_append, hl]; omega)]
    simp only [List.flatMap_nil, List.map_nil, List.nil_append, List.take_left' hl, List.drop_left' hl,
      map_chr_map_byt _ endCard_lat, if_true]
    rw [← hm, if_neg (by rw [List.length_append, List.length_replicate]; omega)]
    exact congrArg (fun r => some ([], r)) (List.drop_left' (List.length_replicate ..))
  | cons s cs ih =>
    intro n fuel hcs hf hm
    obtain ⟨fuel, rfl⟩ : ∃ f, fuel = f + 1 := ⟨fuel - 1, by omega⟩
    obtain ⟨h80, hlat, hne⟩ := hcs s List.mem_cons_self
    have hl : (s.map byt).length = 80 := by rw [List.length_map, h80]
    rw [List.flatMap_cons, id, List.map_append, List.append_assoc, splitHeader,
      if_neg (by rw [List.length_append, hl]; omega)]
    simp only [List.take_left' hl, List.drop_left' hl, map_chr_map_byt _ hlat, if_neg hne]
    rw [ih (n+1) fuel (fun t ht => hcs t (List.mem_cons_of_mem _ ht))
      (Nat.lt_of_succ_lt_succ hf) (by rw [hm, List.length_cons]; omega)]
    rfl

theorem fill_eq_blockPad : Layout.fill = blockPad := rfl
theorem endRecord_eq_endCard : Layout.endRecord = endCard := rfl
theorem ljust_eq_padTo : Layout.ljust = padTo := rfl

/-- the header unit of the documented layout in the terms of `encodeHeader` and `splitHeader` -/
theorem headerUnit_eq (recs : List Str) : Layout.headerUnit recs =
    ((recs ++ [endCard]).flatMap id).map byt
      ++ List.replicate (blockPad (((recs ++ [endCard]).flatMap id).map byt).length) (byt ' ') := by
  unfold Layout.headerUnit
  simp only [fill_eq_blockPad, endRecord_eq_endCard, List.flatMap_id, List.map_append, List.map_replicate, List.length_map]
  rfl

theorem headerUnit_blocks (recs : List Str) : (Layout.headerUnit recs).length % 2880 = 0 := by
  simp only [Layout.headerUnit, List.length_map, List.length_append, List.length_replicate, Layout.fill]
  omega

theorem headerUnit_length (recs : List Str) (h : ∀ s ∈ recs, s.length = 80) :
    (Layout.headerUnit recs).length = (recs.length + 1) * 80 + blockPad ((recs.length + 1) * 80) := by
  have hl : ((recs ++ [endCard]).flatMap id).length = (recs.length + 1) * 80 := by
    rw [List.flatMap_id, length_flatten_uniform, List.length_append, Nat.mul_comm]; rfl
    intro s hs
    rcases List.mem_append.mp hs with hs | hs
    · exact h s hs
    · rw [List.mem_singleton.mp hs]; exact endCard_length
  rw [headerUnit_eq, List.length_append, List.length_replicate, List.length_map, hl]

theorem splitHeader_headerUnit (recs : List Str) (rest : Bytes) (h : ∀ s ∈ recs, s.length = 80 ∧ Lat s ∧ s ≠ endCard) :
    splitHeader ((Layout.headerUnit recs ++ rest).length / 80 + 1) 0 (Layout.headerUnit recs ++ rest) = some (recs, rest) := by
  have hl := headerUnit_length recs fun s hs => (h s hs).1
  have hf : recs.length < (Layout.headerUnit recs ++ rest).length / 80 + 1 := by
    rw [List.length_append, hl]; omega
  revert hf
  generalize (Layout.headerUnit recs ++ rest).length / 80 + 1 = fuel
  intro hf
  rw [headerUnit_eq, List.append_assoc, List.flatMap_append, List.flatMap_singleton, id, List.map_append,
    List.append_assoc]
  refine splitHeader_cards _ rest _ recs 0 fuel h hf ?_
  rw [List.length_append, List.length_map, List.length_map, List.flatMap_id, length_flatten_uniform fun s hs => (h s hs).1,
    endCard_length]
  omega

theorem mapM'_map {α β} (f : α → Option β) (g : β → α) (l : List β) (h : ∀ b ∈ l, f (g b) = some b) :
    mapM' f (l.map g) = some l := by
  induction l with
  | nil => rfl
  | cons b r ih =>
    simp only [List.map_cons, mapM', h b (by simp), ih (fun c hc => h c (by simp [hc])), Option.map_some]

/-- the card as `encodeHeader` writes it: with the comment cfitsio attaches -/
def withCom (c : Card) : Card := { c with com := structComment c.key }

@[simp] theorem withCom_key (c : Card) : (withCom c).key = c.key := rfl
@[simp] theorem withCom_val (c : Card) : (withCom c).val = c.val := rfl

/-- the comments of the mandatory keywords that are the same in every HDU: `structComment` tests the keywords in
    the order `SIMPLE`, `BITPIX`, `NAXIS`, `XTENSION`, `PCOUNT`, `GCOUNT`, so each value is the failed tests before
    it (`ne`) and one `if_pos rfl` -/
theorem structComment_fixed :
    structComment "SIMPLE".toList = "file does conform to FITS standard".toList ∧
    structComment "BITPIX".toList = "number of bits per data pixel".toList ∧
    structComment "NAXIS".toList = "number of data axes".toList ∧
    structComment "XTENSION".toList = "IMAGE extension".toList ∧
    structComment "PCOUNT".toList = "required keyword; must = 0".toList ∧
    structComment "GCOUNT".toList = "required keyword; must = 1".toList := by
  have ne : List.Pairwise (· ≠ ·) ["GCOUNT".toList, "PCOUNT".toList, "XTENSION".toList, "NAXIS".toList,
      "BITPIX".toList, "SIMPLE".toList] := by
    simp -index only [String.toList_ofList]; decide
  simp only [List.pairwise_cons, List.mem_cons, List.not_mem_nil, or_false, forall_eq_or_imp, forall_eq] at ne
  obtain ⟨⟨g5, g4, g3, g2, g1⟩, ⟨p4, p3, p2, p1⟩, ⟨x3, x2, x1⟩, ⟨n2, n1⟩, b1, _⟩ := ne
  unfold structComment
  refine ⟨if_pos rfl, ?_, ?_, ?_, ?_, ?_⟩
  · rw [if_neg b1, if_pos rfl]
  · rw [if_neg n1, if_neg n2, if_pos rfl]
  · rw [if_neg x1, if_neg x2, if_neg x3, if_pos rfl]
  · rw [if_neg p1, if_neg p2, if_neg p3, if_neg p4, if_pos rfl]
  · rw [if_neg g1, if_neg g2, if_neg g3, if_neg g4, if_neg g5, if_pos rfl]

theorem structComment_naxisN (i : Nat) :
    structComment ("NAXIS".toList ++ natStr i) = "length of data axis ".toList ++ natStr i := by
  have := natStr_ne_nil i
  simp [structComment, this]

/-- the mandatory cards that do not depend on the HDU -/
theorem fixedCards_form :
    PlainCard (withCom ⟨"SIMPLE".toList, ['T'], []⟩) ∧
    PlainCard (withCom ⟨"BITPIX".toList, intStr (-32), []⟩) ∧
    PlainCard (withCom ⟨"BITPIX".toList, intStr (-64), []⟩) ∧
    PlainCard (withCom ⟨"PCOUNT".toList, ['0'], []⟩) ∧
    PlainCard (withCom ⟨"GCOUNT".toList, ['1'], []⟩) ∧
    StringCard (withCom ⟨"XTENSION".toList, "'IMAGE   '".toList, []⟩) "IMAGE   ".toList := by
  obtain ⟨s1, s2, _, s4, s5, s6⟩ := structComment_fixed
  simp only [withCom, s1, s2, s4, s5, s6]
  simp -index only [String.toList_ofList]
  decide +kernel

theorem naxis_form (n : Nat) (hn : n ≤ 999) : PlainCard (withCom ⟨"NAXIS".toList, natStr n, []⟩) := by
  have h : HdrKey "NAXIS".toList ∧
      trimRight "number of data axes".toList = "number of data axes".toList ∧
      "number of data axes".toList.length ≤ 47 ∧ Lat "number of data axes".toList := by
    simp -index only [String.toList_ofList]; decide +kernel
  have hl := natStr_length n 3 (by omega) (by omega)
  rw [withCom, structComment_fixed.2.2.1]
  exact digits_form _ _ _ h.1 (natStr_ne_nil n) (mem_digits_cons (natStr_mem n)) (Nat.le_trans hl (by decide)) h.2.1
    h.2.2.1 h.2.2.2

theorem naxisN_form (i a : Nat) (hi : i ≤ 999) (ha : a < 10 ^ 20) :
    PlainCard (withCom ⟨"NAXIS".toList ++ natStr i, natStr a, []⟩) := by
  have hl := natStr_length i 3 (by omega) (by omega)
  have hdi : ∀ c ∈ natStr i, c ≠ ' ' := fun c hc => (digits_props c (natStr_mem i c hc)).1
  have hcom : "length of data axis ".toList.length = 20 ∧ Lat "length of data axis ".toList := by
    simp -index only [String.toList_ofList]; decide
  rw [withCom, structComment_naxisN]
  refine digits_form _ _ _ (hdrKey_keyN "NAXIS" 3 i (by decide) (by omega) (by decide))
    (natStr_ne_nil a) (mem_digits_cons (natStr_mem a)) (natStr_length a 20 (by omega) ha)
    (trimRight_append_noBlank _ _ (natStr_ne_nil i) hdi) ?_ (hcom.2.append (Lat.of_digits (natStr_mem i)))
  rw [List.length_append, hcom.1]
  omega

theorem structCards_true (h : Hdu) : structCards true h =
    ⟨"SIMPLE".toList, ['T'], []⟩ :: ⟨"BITPIX".toList, intStr h.pix.bitpix, []⟩
      :: ⟨"NAXIS".toList, natStr h.axes.length, []⟩ :: axisCards h.axes :=
  List.append_nil _

theorem structCards_false (h : Hdu) : structCards false h =
    ⟨"XTENSION".toList, "'IMAGE   '".toList, []⟩ :: ⟨"BITPIX".toList, intStr h.pix.bitpix, []⟩
      :: ⟨"NAXIS".toList, natStr h.axes.length, []⟩
      :: (axisCards h.axes ++ [⟨"PCOUNT".toList, ['0'], []⟩, ⟨"GCOUNT".toList, ['1'], []⟩]) :=
  rfl

theorem structCards_RT (primary : Bool) (h : Hdu) (hax : h.axes.length ≤ 999) (hlen : ∀ a ∈ h.axes, a < 10 ^ 20) :
    ∀ c ∈ structCards primary h, CardRT (withCom c) := by
  obtain ⟨simple, bitpix32, bitpix64, pcount, gcount, xtension⟩ := fixedCards_form
  have hbp : CardRT (withCom ⟨"BITPIX".toList, intStr h.pix.bitpix, []⟩) := by
    cases h.pix
    · exact bitpix32.cardRT
    · exact bitpix64.cardRT
  have hna := (naxis_form _ hax).cardRT
  have haxis : ∀ c ∈ axisCards h.axes, CardRT (withCom c) := by
    intro c hc
    obtain ⟨i, hi, rfl⟩ := List.mem_map.mp hc
    rw [List.mem_range] at hi
    exact (naxisN_form _ _ (by omega) (hlen _ (getD_mem hi 0))).cardRT
  cases primary
  · rw [structCards_false]
    refine List.forall_mem_cons.2 ⟨xtension.cardRT,
      List.forall_mem_cons.2 ⟨hbp, List.forall_mem_cons.2 ⟨hna, fun c hc => ?_⟩⟩⟩
    rcases List.mem_append.1 hc with hc | hc
    · exact haxis c hc
    · rcases List.mem_cons.1 hc with rfl | hc
      · exact pcount.cardRT
      · rw [List.mem_singleton.1 hc]; exact gcount.cardRT
  · rw [structCards_true]
    exact List.forall_mem_cons.2 ⟨simple.cardRT,
      List.forall_mem_cons.2 ⟨hbp, List.forall_mem_cons.2 ⟨hna, haxis⟩⟩⟩

theorem parseInt_intStr (v : Int) : parseInt (intStr v) = some v := by
  unfold intStr
  split
  · simp only [parseInt, parseNat_natStr]
    simp only [bind, Option.bind_some, pure, Option.map_some]
    congr 1; omega
  · rw [parseInt_natStr]
    congr 1; omega

theorem cardNat_self (key val com : Str) : cardNat ⟨key, val, com⟩ key = parseNat val := if_pos rfl

theorem takeAxes_map (r : List Card) (v : Nat → Nat) : ∀ (n i : Nat),
    takeAxes (i+1) n ((List.range' i n).map (fun j => withCom ⟨"NAXIS".toList ++ natStr (j+1), natStr (v j), []⟩) ++ r)
      = some ((List.range' i n).map v, r)
  | 0, _ => rfl
  | n+1, i => by
    rw [List.range'_succ, List.map_cons, List.cons_append, takeAxes, withCom, cardNat_self, parseNat_natStr]
    simp only
    rw [takeAxes_map r v n (i+1)]
    rfl

theorem takeAxes_axisCards (axes : List Nat) (r : List Card) :
    takeAxes 1 axes.length ((axisCards axes).map withCom ++ r) = some (axes, r) := by
  have h := takeAxes_map r (fun i => axes.getD i 0) axes.length 0
  rw [← List.range_eq_range', map_getD_range axes 0 _ rfl] at h
  rw [← h, axisCards, List.map_map]
  rfl

theorem parseStruct_primary (c0 c1 c2 : Card) (r r2 : List Card) (bp : Int) (n : Nat) (axes : List Nat)
    (h0 : c0.key = "SIMPLE".toList) (h0' : c0.val = ['T'])
    (h1 : c1.key = "BITPIX".toList) (h2 : parseInt c1.val = some bp) (h3 : cardNat c2 "NAXIS".toList = some n)
    (h4 : takeAxes 1 n r = some (axes, r2)) :
    parseStruct true (c0 :: c1 :: c2 :: r) = some (bp, axes, r2) := by
  unfold parseStruct
  simp only [h0, h0', h1, h2, h3, h4, if_true, and_self, not_true_eq_false, ne_eq, or_self, if_false]

theorem parseStruct_ext (c0 c1 c2 p g : Card) (r r2 : List Card) (bp : Int) (n : Nat) (axes : List Nat)
    (h0 : c0.key = "XTENSION".toList) (h0' : c0.val = "'IMAGE   '".toList)
    (h1 : c1.key = "BITPIX".toList) (h2 : parseInt c1.val = some bp) (h3 : cardNat c2 "NAXIS".toList = some n)
    (h4 : takeAxes 1 n r = some (axes, p :: g :: r2))
    (h5 : p.key = "PCOUNT".toList) (h5' : p.val = ['0']) (h6 : g.key = "GCOUNT".toList) (h6' : g.val = ['1']) :
    parseStruct false (c0 :: c1 :: c2 :: r) = some (bp, axes, r2) := by
  unfold parseStruct
  simp only [h0, h0', h1, h2, h3, h4, h5, h5', h6, h6', if_true, and_self, not_true_eq_false, ne_eq, or_self,
    if_false, Bool.false_eq_true]

theorem parseStruct_structCards (primary : Bool) (h : Hdu) (user : List Card) :
    parseStruct primary ((structCards primary h).map withCom ++ user) = some (h.pix.bitpix, h.axes, user) := by
  have hbp : parseInt (withCom ⟨"BITPIX".toList, intStr h.pix.bitpix, []⟩).val = some h.pix.bitpix :=
    parseInt_intStr _
  have hn : cardNat (withCom ⟨"NAXIS".toList, natStr h.axes.length, []⟩) "NAXIS".toList = some h.axes.length :=
    (cardNat_self ..).trans (parseNat_natStr _)
  cases primary
  · rw [structCards_false, List.map_cons, List.map_cons, List.map_cons, List.map_append, List.cons_append,
      List.cons_append, List.cons_append, List.append_assoc]
    exact parseStruct_ext _ _ _ _ _ _ _ _ _ _ rfl rfl rfl hbp hn (takeAxes_axisCards h.axes _) rfl rfl rfl rfl
  · rw [structCards_true, List.map_cons, List.map_cons, List.map_cons, List.cons_append,
      List.cons_append, List.cons_append]
    exact parseStruct_primary _ _ _ _ _ _ _ _ rfl rfl rfl hbp hn (takeAxes_axisCards _ _)

/-- the hypotheses of the file-level theorem, per HDU -/
structure HduOK (h : Hdu) : Prop where
  /-- as many pixels as the axes say -/
  pixLen : h.pix.length = npix h.axes
  /-- `NAXISnnn` must fit the 8-column keyword field -/
  naxis : h.axes.length ≤ 999
  /-- the axis lengths fit the 20-column value field -/
  axisLen : ∀ a ∈ h.axes, a < 10 ^ 20
  /-- every non-structural card survives the 80-column text form -/
  cards : ∀ c ∈ h.cards, CardRT c

/-- all cards of the header as written -/
def allCards (primary : Bool) (h : Hdu) : List Card := (structCards primary h).map withCom ++ h.cards

theorem allCards_RT (primary : Bool) (h : Hdu) (ok : HduOK h) : ∀ c ∈ allCards primary h, CardRT c := by
  intro c hc
  rcases List.mem_append.mp hc with hc | hc
  · obtain ⟨d, hd, rfl⟩ := List.mem_map.mp hc
    exact structCards_RT primary h ok.naxis ok.axisLen d hd
  · exact ok.cards c hc

theorem encodeHeader_eq (primary : Bool) (h : Hdu) :
    encodeHeader primary h = Layout.headerUnit ((allCards primary h).map fmtCard) := by
  rw [headerUnit_eq, allCards, List.map_append, List.map_map]; rfl

theorem encodeHeader_length_ge (primary : Bool) (h : Hdu) : 2880 ≤ (encodeHeader primary h).length := by
  rw [encodeHeader_eq, headerUnit_length _ fun s hs => by
    obtain ⟨c, _, rfl⟩ := List.mem_map.mp hs; exact fmtCard_length c, blockPad]
  omega

theorem encodeData_eq_dataUnit (p : Pix) : encodeData p = Layout.dataUnit (pixBytes p) := by cases p <;> rfl

theorem encodeData_length (p : Pix) :
    (encodeData p).length = (if p.bitpix = -32 then 4 else 8) * p.length
      + blockPad ((if p.bitpix = -32 then 4 else 8) * p.length) := by
  cases p <;> simp [encodeData, enc32_length, enc64_length, Pix.bitpix, Pix.length]

theorem decodeHdu_of_header (primary : Bool) (b rest : Bytes) (raw : List Str) (cs cards : List Card)
    (axes : List Nat) (p : Pix)
    (h1 : splitHeader (b.length / 80 + 1) 0 b = some (raw, encodeData p ++ rest))
    (h2 : mapM' parseCard raw = some cs) (h3 : parseStruct primary cs = some (p.bitpix, axes, cards))
    (h4 : p.length = npix axes) : decodeHdu primary b = some (⟨axes, cards, p⟩, rest) := by
  rw [decodeHdu, h1]; simp only [h2, h3]
  cases p with
  | f32 d =>
    have h4 : d.length = npix axes := h4
    have hd := dec32_enc32 d (List.replicate (blockPad (4 * npix axes)) 0 ++ rest)
    have hl : (enc32 d ++ List.replicate (blockPad (4 * npix axes)) 0).length
        = 4 * npix axes + blockPad (4 * npix axes) := by
      rw [List.length_append, enc32_length, List.length_replicate, h4]
    rw [h4] at hd
    simp only [Pix.bitpix, if_true, encodeData, enc32_length, h4, List.append_assoc, hd]
    rw [← List.append_assoc, if_neg (by rw [List.length_append, hl]; omega), ← hl, List.drop_left]
  | f64 d =>
    have h4 : d.length = npix axes := h4
    have hd := dec64_enc64 d (List.replicate (blockPad (8 * npix axes)) 0 ++ rest)
    have hl : (enc64 d ++ List.replicate (blockPad (8 * npix axes)) 0).length
        = 8 * npix axes + blockPad (8 * npix axes) := by
      rw [List.length_append, enc64_length, List.length_replicate, h4]
    have hbp : ¬ ((-64 : Int) = -32) := by decide
    rw [h4] at hd
    simp only [Pix.bitpix, if_neg hbp, if_true, encodeData, enc64_length, h4, List.append_assoc, hd]
    rw [← List.append_assoc, if_neg (by rw [List.length_append, hl]; omega), ← hl, List.drop_left]

/-- what an accepted HDU was read from: the converse of `decodeHdu_of_header`, with the two pixel widths under
    `Pix.width` and `pixBytes` -/
theorem decodeHdu_some {p : Bool} {b r : Bytes} {h : Hdu} (hd : decodeHdu p b = some (h, r)) :
    ∃ raw rest cs, splitHeader (b.length / 80 + 1) 0 b = some (raw, rest) ∧ mapM' parseCard raw = some cs ∧
      parseStruct p cs = some (h.pix.bitpix, h.axes, h.cards) ∧ h.pix.length = npix h.axes ∧
      pixBytes h.pix = rest.take (h.pix.width * npix h.axes) ∧
      ¬ rest.length < h.pix.width * npix h.axes + blockPad (h.pix.width * npix h.axes) ∧
      r = rest.drop (h.pix.width * npix h.axes + blockPad (h.pix.width * npix h.axes)) := by
  unfold decodeHdu at hd
  split at hd; · cases hd
  rename_i raw rest hs
  split at hd; · cases hd
  rename_i cs hm
  split at hd; · cases hd
  rename_i bp axes cards hp
  refine ⟨raw, rest, cs, hs, hm, ?_⟩
  simp only at hd
  split at hd
  · rename_i hbp
    split at hd; · cases hd
    rename_i d hd'
    split at hd; · cases hd
    rename_i hu
    cases hd
    obtain ⟨d1, _, d3⟩ := dec32_spec _ _ _ hd'
    exact ⟨by rw [hp, hbp]; rfl, d1, d3, hu, rfl⟩
  · split at hd
    · rename_i hbp
      split at hd; · cases hd
      rename_i d hd'
      split at hd; · cases hd
      rename_i hu
      cases hd
      obtain ⟨d1, _, d3⟩ := dec64_spec _ _ _ hd'
      exact ⟨by rw [hp, hbp]; rfl, d1, d3, hu, rfl⟩
    · cases hd

theorem decodeHdu_encodeHdu (primary : Bool) (h : Hdu) (rest : Bytes) (ok : HduOK h) :
    decodeHdu primary (encodeHdu primary h ++ rest) = some (h, rest) := by
  have hrt := allCards_RT primary h ok
  refine decodeHdu_of_header primary _ rest ((allCards primary h).map fmtCard) (allCards primary h) h.cards h.axes
    h.pix ?_ (mapM'_map parseCard fmtCard _ fun c hc => (hrt c hc).rt) (parseStruct_structCards primary h h.cards)
    ok.pixLen
  rw [encodeHdu, encodeHeader_eq, List.append_assoc]
  refine splitHeader_headerUnit _ _ fun s hs => ?_
  obtain ⟨c, hc, rfl⟩ := List.mem_map.mp hs
  exact ⟨fmtCard_length c, (hrt c hc).lat, (hrt c hc).ne_end⟩

theorem encodeHdu_length_ge (p : Bool) (h : Hdu) : 2880 ≤ (encodeHdu p h).length := by
  have := encodeHeader_length_ge p h
  simp only [encodeHdu, List.length_append]; omega

theorem encodeAux_false (l : List Hdu) : encodeAux false l = l.flatMap (encodeHdu false) := by
  induction l with
  | nil => rfl
  | cons a r ih => rw [encodeAux, ih, List.flatMap_cons]

theorem encodeAux_length_ge : ∀ (hs : List Hdu) (p : Bool), 2880 * hs.length ≤ (encodeAux p hs).length := by
  intro hs
  induction hs with
  | nil => intro p; simp [encodeAux]
  | cons h hs ih =>
    intro p
    have h1 := encodeHdu_length_ge p h
    have h2 := ih false
    simp only [encodeAux, List.length_append, List.length_cons]; omega

theorem decodeAux_encodeAux : ∀ (hs : List Hdu) (p : Bool) (fuel : Nat), (∀ h ∈ hs, HduOK h) → hs.length < fuel →
    (p = true → hs ≠ []) → decodeAux fuel p (encodeAux p hs) = some hs := by
  intro hs
  induction hs with
  | nil =>
    intro p fuel _ hf hp
    match fuel, hf with
    | fuel+1, _ =>
      cases p
      · simp [decodeAux, encodeAux]
      · exact absurd rfl (hp rfl)
  | cons h hs ih =>
    intro p fuel hok hf _
    match fuel, hf with
    | fuel+1, hf =>
      have hne : encodeHdu p h ++ encodeAux false hs ≠ [] := by
        intro he
        have h1 := encodeHdu_length_ge p h
        have h2 := congrArg List.length he
        simp only [List.length_append, List.length_nil] at h2
        omega
      unfold decodeAux
      simp only [encodeAux, if_neg hne, decodeHdu_encodeHdu p h _ (hok h (by simp)),
        ih false fuel (fun k hk => hok k (by simp [hk])) (by simpa using hf) (by simp), Option.map_some]

theorem decode_encode (f : Fits) (hne : f ≠ []) (h : ∀ hdu ∈ f, HduOK hdu) : decodeFits (encodeFits f) = some f := by
  unfold decodeFits encodeFits
  apply decodeAux_encodeAux f true _ h _ (fun _ => hne)
  have := encodeAux_length_ge f true
  omega

def exampleFits : Fits :=
  [ { axes := [2, 3]
      cards := primaryBoiler ++
        [cardStr "TYPE".toList "Spline Coefficient Table".toList [],
         cardInt "ORDER0".toList 2 "B-Spline Order".toList,
         cardInt "ORDER1".toList 4294967295 "B-Spline Order".toList,
         ⟨"PERIOD0".toList, "0.".toList, []⟩,
         cardStr "NAME".toList "it's".toList []]
      pix := .f32 [1, 2, 3, 4, 5, 4290772992] },
    { axes := [3]
      cards := [cardStr "EXTNAME".toList "KNOTS0".toList []]
      pix := .f64 [0, 4607182418800017408, 18442240474082181120] } ]

theorem exampleFits_ok : ∀ hdu ∈ exampleFits, HduOK hdu := by
  have h : ∀ hdu ∈ exampleFits, hdu.pix.length = npix hdu.axes ∧ hdu.axes.length ≤ 999 ∧
      (∀ a ∈ hdu.axes, a < 10 ^ 20) ∧ ∀ c ∈ hdu.cards, FixedForm c := by
    simp -index only [exampleFits, primaryBoiler, String.toList_ofList]
    decide +kernel
  exact fun hdu hm => ⟨(h hdu hm).1, (h hdu hm).2.1, (h hdu hm).2.2.1, fun c hc => ((h hdu hm).2.2.2 c hc).cardRT⟩

example : decodeFits (encodeFits exampleFits) = some exampleFits :=
  decode_encode exampleFits (by decide) exampleFits_ok

end PsV.Fits.Codec
