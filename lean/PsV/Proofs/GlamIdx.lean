import PsV.Proofs.Glam
import PsV.Model.GlamIdx
/-!
# C17: the `int` / `unsigned int` / `long` index arithmetic of `slicemultiply` cannot overflow below 2³¹ columns

`PsV/Model/GlamIdx.lean` models the index expressions of `slicemultiply` in the C types they are written
in.  Here: if the flattened section has fewer than 2³¹ columns (`colsOf ranges dim = Π_{k≠dim} ranges[k]`)
and the new range fits an `unsigned int`, every conversion is the identity, no divisor is zero, and
the C-typed routine is the natural-number model `sliceMultiply` that the other theorems are about.
-/
namespace PsV

theorem toU32_nat (n : Nat) (h : n < 4294967296) : toU32 (n : Int) = n := by
  unfold toU32; omega

theorem toI32_nat (n : Nat) (h : n < 2147483648) : toI32 (n : Int) = n := by
  unfold toI32
  apply Int.bmod_eq_of_le <;> omega

theorem toI64_nat (n : Nat) (h : n < 9223372036854775808) : toI64 (n : Int) = n := by
  unfold toI64
  apply Int.bmod_eq_of_le <;> omega

theorem mulIU_nat (s r : Nat) (hs : 0 < s) (hr : 0 < r) (h : s * r < 2147483648) :
    mulIU (s : Int) r = ((s * r : Nat) : Int) := by
  have h1 : s ≤ s * r := Nat.le_mul_of_pos_right s hr
  have h2 : r ≤ s * r := Nat.le_mul_of_pos_left r hs
  unfold mulIU
  rw [toU32_nat s (by omega), toU32_nat r (by omega), ← Int.natCast_mul, toU32_nat _ (by omega),
    toI32_nat _ h]

theorem foldl_skip {β : Type} (f : β → Nat → β) (dim : Nat) (is : List Nat) (c : β) :
    is.foldl (fun c i => if i = dim then c else f c i) c
      = (is.filter fun i => decide (i ≠ dim)).foldl f c := by
  rw [List.foldl_filter]
  congr 1
  funext c i
  by_cases h : i = dim <;> simp [h]

theorem colsOf_eq (ranges : List Nat) (dim : Nat) :
    colsOf ranges dim
      = mrProd (fun k => ranges.getD k 0) ((List.range ranges.length).filter fun i => decide (i ≠ dim)) := by
  unfold colsOf
  rw [foldl_skip, foldl_mul_eq, Nat.one_mul, mrProd_reverse]

theorem loopDims_perm_filter {n dim : Nat} (hd : dim < n) :
    (loopDims n dim).Perm ((List.range n).filter fun i => decide (i ≠ dim)) := by
  have h := (loopDims_perm hd).filter fun i => decide (i ≠ dim)
  rwa [List.filter_append, List.filter_eq_self.mpr fun k hk => by simpa using ((mem_loopDims hd).mp hk).2,
    List.filter_singleton, decide_eq_false (by simp), cond_false, List.append_nil] at h

theorem colsOf_eq_mrProd (ranges : List Nat) (dim : Nat) (hd : dim < ranges.length) :
    colsOf ranges dim = mrProd (fun k => ranges.getD k 0) (loopDims ranges.length dim) := by
  rw [colsOf_eq, mrProd_eq_prod, mrProd_eq_prod]
  exact ((loopDims_perm_filter hd).map _).prod_eq.symm

theorem foldl_mulIU_eq (r : Nat → Nat) (ks : List Nat) (s : Nat) (hs : 0 < s) (hpos : ∀ k ∈ ks, 0 < r k)
    (hb : s * mrProd r ks < 2147483648) :
    ks.foldl (fun (s : Int) k => mulIU s (r k)) (s : Int) = ((ks.foldl (fun s k => s * r k) s : Nat) : Int) := by
  induction ks generalizing s with
  | nil => rfl
  | cons k ks ih =>
    have hk := hpos k (by simp)
    have hpos' : ∀ a ∈ ks, 0 < r a := fun a ha => hpos a (by simp [ha])
    have hP := mrProd_pos r ks hpos'
    rw [mrProd, ← Nat.mul_assoc] at hb
    have h1 : s * r k ≤ s * r k * mrProd r ks := Nat.le_mul_of_pos_right _ hP
    rw [List.foldl_cons, List.foldl_cons, mulIU_nat s (r k) hs hk (by omega)]
    exact ih (s * r k) (Nat.mul_pos hs hk) hpos' hb

/-- `cols` (an `int` product of `unsigned int` ranges) is the exact number of columns -/
theorem colsC_eq (ranges : List Nat) (dim : Nat)
    (hpos : ∀ i, i < ranges.length → i ≠ dim → 0 < ranges.getD i 0)
    (hb : colsOf ranges dim < 2147483648) : colsC ranges dim = colsOf ranges dim := by
  rw [colsOf_eq] at hb
  unfold colsC colsOf
  rw [foldl_skip, foldl_skip]
  exact foldl_mulIU_eq _ _ 1 Nat.one_pos
    (fun i hi => by
      rw [List.mem_filter, List.mem_range, decide_eq_true_eq] at hi
      exact hpos i hi.1 hi.2)
    (by rwa [Nat.one_mul])

theorem flat_step (stride col i r : Nat) (hs : 0 < stride) (hcol : col < stride) (hi : i < r)
    (hb : stride * r < 2147483648) :
    mulIU (stride : Int) r = ((stride * r : Nat) : Int) ∧
    toI64 ((col : Int) + toU32 (toU32 (stride : Int) * toU32 (i : Int))) = ((col + stride * i : Nat) : Int) ∧
    col + stride * i < stride * r := by
  have h2 : stride * i + stride ≤ stride * r := by
    calc stride * i + stride = stride * (i + 1) := by ring
      _ ≤ stride * r := Nat.mul_le_mul_left _ hi
  have h3 : stride ≤ stride * r := Nat.le_mul_of_pos_right _ (by omega)
  have h4 : r ≤ stride * r := Nat.le_mul_of_pos_left _ hs
  refine ⟨mulIU_nat stride r hs (by omega) hb, ?_, by omega⟩
  rw [toU32_nat stride (by omega), toU32_nat i (by omega), ← Int.natCast_mul, toU32_nat _ (by omega),
    ← Int.natCast_add, toI64_nat _ (by omega)]

/-- (stated with `Int` variables `S`, `C` so that unfolding the loop never makes the kernel evaluate a
conversion of a constructor term) -/
theorem flatLoopC_eq' (ranges idx : List Nat) (ks : List Nat) (S C : Int) (stride col : Nat)
    (hS : S = (stride : Int)) (hC : C = (col : Int)) (hs : 0 < stride)
    (hcol : col < stride) (hidx : ∀ k ∈ ks, idx.getD k 0 < ranges.getD k 0)
    (hb : stride * mrProd (fun k => ranges.getD k 0) ks < 2147483648) :
    flatLoopC ranges idx ks S C = ((flatLoop ranges idx ks stride col : Nat) : Int) := by
  induction ks generalizing S C stride col with
  | nil => simp only [flatLoopC, flatLoop]; exact hC
  | cons k ks ih =>
    have hk := hidx k (by simp)
    have hidx' : ∀ a ∈ ks, idx.getD a 0 < ranges.getD a 0 := fun a ha => hidx a (by simp [ha])
    have hP := mrProd_pos (fun k => ranges.getD k 0) ks (fun a ha => by have := hidx' a ha; omega)
    simp only [mrProd] at hb
    have h1 : stride * ranges.getD k 0 ≤ stride * (ranges.getD k 0 * mrProd (fun k => ranges.getD k 0) ks) :=
      Nat.mul_le_mul_left _ (Nat.le_mul_of_pos_right _ hP)
    obtain ⟨e1, e2, e3⟩ := flat_step stride col (idx.getD k 0) (ranges.getD k 0) hs hcol hk (by omega)
    simp only [flatLoopC, flatLoop]
    apply ih
    · rw [hS]; exact e1
    · rw [hS, hC]; exact e2
    · exact Nat.mul_pos hs (by omega)
    · exact e3
    · exact hidx'
    · rw [Nat.mul_assoc]; exact hb

theorem flattenColC_eq (ranges idx : List Nat) (dim : Nat) (hv : IdxIn idx ranges) (hd : dim < ranges.length)
    (hb : colsOf ranges dim < 2147483648) :
    flattenColC ranges idx dim = ((flattenCol ranges idx dim : Nat) : Int) ∧
      flattenCol ranges idx dim < colsOf ranges dim := by
  have hidx : ∀ k ∈ loopDims ranges.length dim, idx.getD k 0 < ranges.getD k 0 :=
    fun k hk => hv.2 k ((mem_loopDims hd).mp hk).1
  constructor
  · unfold flattenColC flattenCol
    apply flatLoopC_eq' _ _ _ _ _ 1 0 rfl rfl Nat.one_pos Nat.one_pos hidx
    rw [Nat.one_mul, ← colsOf_eq_mrProd ranges dim hd]; exact hb
  · unfold flattenCol
    rw [flatLoop_eq, Nat.zero_add, Nat.one_mul, colsOf_eq_mrProd ranges dim hd, ← mrProd_reverse]
    exact mrNum_lt _ _ _ (fun k hk => hidx k (List.mem_reverse.mp hk))

theorem unflatLoopC_eq (R : List Nat) (ks : List Nat) (j : Nat) (idx : List Nat)
    (hpos : ∀ k ∈ ks, 0 < R.getD k 0) (hb : mrProd (fun k => R.getD k 0) ks < 2147483648)
    (hj : j < 2147483648) :
    unflatLoopC R ks (mrProd (fun k => R.getD k 0) ks : Nat) (j : Nat) idx
      = .ok (unflatLoop R ks (mrProd (fun k => R.getD k 0) ks) j idx) := by
  induction ks generalizing j idx with
  | nil => simp [unflatLoopC, unflatLoop]
  | cons k ks ih =>
    have hk := hpos k (by simp)
    have hpos' : ∀ a ∈ ks, 0 < R.getD a 0 := fun a ha => hpos a (by simp [ha])
    have hP := mrProd_pos (fun k => R.getD k 0) ks hpos'
    simp only [mrProd] at hb ⊢
    have h1 : R.getD k 0 ≤ R.getD k 0 * mrProd (fun k => R.getD k 0) ks := Nat.le_mul_of_pos_right _ hP
    have h2 : mrProd (fun k => R.getD k 0) ks ≤ R.getD k 0 * mrProd (fun k => R.getD k 0) ks :=
      Nat.le_mul_of_pos_left _ hk
    have hdiv : j / mrProd (fun k => R.getD k 0) ks ≤ j := Nat.div_le_self _ _
    have hmod : j % mrProd (fun k => R.getD k 0) ks ≤ j := Nat.mod_le _ _
    simp only [unflatLoopC, unflatLoop]
    rw [toU32_nat (R.getD k 0) (by omega), toU32_nat _ (by omega)]
    have hne : ¬ ((R.getD k 0 : Nat) : Int) = 0 := by omega
    rw [if_neg hne, ← Int.natCast_ediv, Nat.mul_div_cancel_left _ hk, toI32_nat _ (by omega)]
    have hne2 : ¬ ((mrProd (fun k => R.getD k 0) ks : Nat) : Int) = 0 := by omega
    rw [if_neg hne2, ← Int.ofNat_tdiv, ← Int.ofNat_tmod, toU32_nat _ (by omega), Int.toNat_natCast]
    exact ih _ _ hpos' (by omega) (by omega)

theorem unflattenIdxC_eq (R : List Nat) (dim row col : Nat)
    (hpos : ∀ k ∈ loopDims R.length dim, 0 < R.getD k 0)
    (hb : mrProd (fun k => R.getD k 0) (loopDims R.length dim) < 2147483648)
    (hrow : row < 4294967296) (hcol : col < 2147483648) :
    unflattenIdxC R dim row col = .ok (unflattenIdx R dim row col) := by
  unfold unflattenIdxC unflattenIdx
  simp only
  have hf := foldl_mulIU_eq (fun k => R.getD k 0) (loopDims R.length dim) 1 (by omega) hpos (by omega)
  simp only [Nat.cast_one] at hf
  rw [hf, toI32_nat col hcol, toU32_nat row hrow, Int.toNat_natCast, foldl_mul_eq, Nat.one_mul]
  exact unflatLoopC_eq R _ col _ (fun k hk => hpos k (List.mem_reverse.mp hk))
    (by rw [mrProd_reverse]; exact hb) hcol

section
variable {α : Type} [A : Arith α]

theorem rowEntriesC_eq (ranges' : List Nat) (b : Mat α) (dim j col : Nat) (v : α) (gs : List Nat)
    (hpos : ∀ k ∈ loopDims ranges'.length dim, 0 < ranges'.getD k 0)
    (hb : mrProd (fun k => ranges'.getD k 0) (loopDims ranges'.length dim) < 2147483648)
    (hcol : col < 2147483648) (hg : ∀ g ∈ gs, g < 4294967296) :
    rowEntriesC ranges' b dim j (col : Nat) v gs
      = .ok (gs.filterMap fun g =>
          if isZero (b.val j g) then none
          else some (unflattenIdx ranges' dim g col, A.mul (b.val j g) v)) := by
  induction gs with
  | nil => simp [rowEntriesC]
  | cons g gs ih =>
    have ih' := ih (fun a ha => hg a (by simp [ha]))
    simp only [rowEntriesC, List.filterMap_cons]
    by_cases hz : isZero (b.val j g) = true
    · rw [if_pos hz, if_pos hz]; exact ih'
    · rw [if_neg hz, if_neg hz, ih', unflattenIdxC_eq ranges' dim g col hpos hb (hg g (by simp)) hcol]

theorem sliceEntriesC_eq (ranges ranges' : List Nat) (b : Mat α) (dim : Nat) (es : List (List Nat × α))
    (hd : dim < ranges.length) (hlen : ranges'.length = ranges.length)
    (hsame : ∀ k, k ≠ dim → ranges'.getD k 0 = ranges.getD k 0)
    (hv : ∀ e ∈ es, IdxIn e.1 ranges) (hb : colsOf ranges dim < 2147483648) (hn : b.ncol ≤ 4294967296) :
    sliceEntriesC ranges ranges' b dim es
      = .ok (es.flatMap fun e =>
          (List.range b.ncol).filterMap fun g =>
            if isZero (b.val (e.1.getD dim 0) g) then none
            else some (unflattenIdx ranges' dim g (flattenCol ranges e.1 dim),
              A.mul (b.val (e.1.getD dim 0) g) e.2)) := by
  induction es with
  | nil => simp [sliceEntriesC]
  | cons e es ih =>
    have ih' := ih (fun a ha => hv a (by simp [ha]))
    have he := hv e (by simp)
    obtain ⟨hc1, hc2⟩ := flattenColC_eq ranges e.1 dim he hd hb
    have hmem : ∀ k ∈ loopDims ranges'.length dim, k < ranges.length ∧ k ≠ dim := by
      intro k hk; rw [hlen] at hk; exact (mem_loopDims hd).mp hk
    have hpos : ∀ k ∈ loopDims ranges'.length dim, 0 < ranges'.getD k 0 := by
      intro k hk
      rw [hsame k (hmem k hk).2]
      have := he.2 k (hmem k hk).1
      omega
    have hb' : mrProd (fun k => ranges'.getD k 0) (loopDims ranges'.length dim) < 2147483648 := by
      rw [mrProd_congr (r' := fun k => ranges.getD k 0) (fun k hk => hsame k (hmem k hk).2), hlen,
        ← colsOf_eq_mrProd ranges dim hd]
      exact hb
    simp only [sliceEntriesC, List.flatMap_cons]
    rw [hc1, rowEntriesC_eq ranges' b dim _ _ e.2 _ hpos hb' (by omega)
      (fun g hg => by have := List.mem_range.mp hg; omega), ih']

theorem sliceMultiplyC_eq (a : NdSparse α) (b : Mat α) (dim : Nat) (ha : a.WF) (hd : dim < a.ranges.length)
    (hsafe : sliceIdxSafe a.ranges dim b.ncol = true) :
    sliceMultiplyC a b dim = CRes.ofOption (sliceMultiply a b dim) := by
  unfold sliceIdxSafe at hsafe
  simp only [Bool.and_eq_true, decide_eq_true_eq] at hsafe
  obtain ⟨hb, hn⟩ := hsafe
  unfold sliceMultiplyC sliceMultiply
  by_cases hm : b.nrow ≠ a.ranges.getD dim 0
  · rw [if_pos hm, if_pos hm]; rfl
  · rw [if_neg hm, if_neg hm]
    simp only [toU32_nat b.ncol hn, Int.toNat_natCast]
    rw [sliceEntriesC_eq a.ranges (a.ranges.set dim b.ncol) b dim a.entries hd (by simp)
      (fun k hk => by rw [getD_set, if_neg (fun h => hk h.1.symm)]) ha hb (by omega)]
    rfl

end

section
variable {α : Type} [A : Arith α]

theorem gridLoopC_eq (ds : List (Dim α)) : ∀ (xss : List (List α)) (i : Nat) (nd : NdSparse α),
    nd.WF → i + ds.length ≤ nd.ranges.length → gridIdxSafe nd.ranges i (xss.map List.length) = true →
    gridLoopC ds xss i nd = CRes.ofOption (gridLoop ds xss i nd) := by
  induction ds with
  | nil =>
    intro xss i nd _ _ _
    cases xss <;> rfl
  | cons d ds ih =>
    intro xss i nd hwf hi hsafe
    cases xss with
    | nil => rfl
    | cons xs xss =>
      simp only [List.map_cons, gridIdxSafe, Bool.and_eq_true] at hsafe
      obtain ⟨⟨h1, h2⟩, h3⟩ := hsafe
      have hd : i < nd.ranges.length := by simp only [List.length_cons] at hi; omega
      have hs : sliceIdxSafe nd.ranges i (bsplineBasis d.knots d.nknots d.order xs).transpose.ncol = true := by
        unfold sliceIdxSafe
        rw [Bool.and_eq_true]
        exact ⟨h1, h2⟩
      simp only [gridLoopC, gridLoop]
      rw [sliceMultiplyC_eq nd _ i hwf hd hs]
      by_cases hb : (bsplineBasis d.knots d.nknots d.order xs).transpose.nrow = nd.ranges.getD i 0
      · obtain ⟨nd', e1, e2, e3⟩ := sliceMultiply_shape nd _ i hwf hd hb
        rw [e1]
        simp only [CRes.ofOption]
        apply ih xss (i+1) nd' e3
        · rw [e2, List.length_set]; simp only [List.length_cons] at hi; omega
        · rw [e2]; exact h3
      · rw [sliceMultiply_eq_none nd _ i hb]
        rfl

/-- **No overflow in `grideval`**, whatever the arithmetic: the index computations do not read the values. -/
theorem gridEvalC_eq (dims : List (Dim α)) (coef : Int → α) (coords : List (List α))
    (hs : StridesRowMajor dims) (hne : dims ≠ [])
    (hsafe : gridIdxSafe (dims.map (·.naxes)) 0 (coords.map List.length) = true) :
    gridEvalC dims coef coords = CRes.ofOption (gridEval dims coef coords) := by
  unfold gridEvalC gridEval
  by_cases h : coords.length ≠ dims.length
  · rw [if_pos h, if_pos h]; rfl
  · rw [if_neg h, if_neg h]
    apply gridLoopC_eq dims coords 0 _ (coefTensor_wf dims coef hs hne)
    · rw [coefTensor_ranges, List.length_map]; exact Nat.le_of_eq (Nat.zero_add _)
    · rw [coefTensor_ranges]; exact hsafe

end

theorem prod_filter_map (l : List Nat) (p : Nat → Bool) (f : Nat → Nat) :
    ((l.filter p).map f).prod = (l.map fun i => if p i then f i else 1).prod := by
  induction l with
  | nil => rfl
  | cons a l ih =>
    by_cases h : p a = true
    · simp [h, ih]
    · simp [h, ih]

theorem colsOf_eq_set_prod (R : List Nat) (dim : Nat) (hd : dim < R.length) :
    colsOf R dim = (R.set dim 1).prod := by
  rw [colsOf_eq, mrProd_eq_prod, prod_filter_map]
  conv_rhs => rw [← map_getD_range (R.set dim 1) 0 _ rfl]
  rw [List.length_set]
  congr 1
  apply List.map_congr_left
  intro i hi
  rw [getD_set]
  by_cases h : i = dim
  · subst h; simp [hd]
  · have : ¬ (dim = i ∧ dim < R.length) := fun hh => h hh.1.symm
    simp [h, this]

theorem colsOf_append (P Q : List Nat) (a : Nat) : colsOf (P ++ a :: Q) P.length = P.prod * Q.prod := by
  rw [colsOf_eq_set_prod _ _ (by simp)]
  simp

theorem sizeBound_pos (ns ls : List Nat) : 0 < sizeBound ns ls := by
  induction ns generalizing ls with
  | nil => simp [sizeBound]
  | cons a ns ih =>
    cases ls with
    | nil => simp [sizeBound]
    | cons l ls =>
      simp only [sizeBound]
      exact Nat.mul_pos (by omega) (ih ls)

theorem prod_le_sizeBound (ns ls : List Nat) (h : ns.length = ls.length) : ns.prod ≤ sizeBound ns ls := by
  induction ns generalizing ls with
  | nil => simp [sizeBound]
  | cons a ns ih =>
    cases ls with
    | nil => simp at h
    | cons l ls =>
      simp only [List.prod_cons, sizeBound]
      exact Nat.mul_le_mul (by omega) (ih ls (by simpa using h))

/-- `P` are the ranges already replaced, `N` those still to come.  Two bounds are carried because `P.prod` may be `0`, in
which case the first says nothing about the ranges still to come. -/
theorem gridIdxSafe_of_bound_aux (Ls : List Nat) : ∀ (P N : List Nat) (B : Nat), N.length = Ls.length →
    P.prod * sizeBound N Ls ≤ B → sizeBound N Ls ≤ B → B < 2147483648 →
    gridIdxSafe (P ++ N) P.length Ls = true := by
  induction Ls with
  | nil => intro P N B _ _ _ _; rfl
  | cons l Ls ih =>
    intro P N B hlen hPB hSB hlt
    cases N with
    | nil => simp at hlen
    | cons a N' =>
      have hlen' : N'.length = Ls.length := Nat.succ.inj hlen
      rw [sizeBound] at hPB hSB
      generalize hM : max 1 (max a l) = M at hPB hSB
      have hM1 : 1 ≤ M := hM ▸ Nat.le_max_left _ _
      have hlM : l ≤ M := hM ▸ le_trans (Nat.le_max_right a l) (Nat.le_max_right 1 _)
      have hS := sizeBound_pos N' Ls
      have hS' : sizeBound N' Ls ≤ M * sizeBound N' Ls := Nat.le_mul_of_pos_left _ hM1
      simp only [gridIdxSafe, Bool.and_eq_true, decide_eq_true_eq]
      refine ⟨⟨?_, ?_⟩, ?_⟩
      · rw [colsOf_append]
        exact lt_of_le_of_lt
          (le_trans (Nat.mul_le_mul_left _ (le_trans (prod_le_sizeBound N' Ls hlen') hS')) hPB) hlt
      · exact lt_of_le_of_lt (le_trans hlM (le_trans (Nat.le_mul_of_pos_right _ hS) hSB))
          (lt_trans hlt (by decide))
      · have hset : (P ++ a :: N').set P.length l = (P ++ [l]) ++ N' := by simp
        rw [hset, show P.length + 1 = (P ++ [l]).length by simp]
        refine ih (P ++ [l]) N' B hlen' ?_ (le_trans hS' hSB) hlt
        rw [List.prod_append, List.prod_singleton, Nat.mul_assoc]
        exact le_trans (Nat.mul_le_mul_left _ (Nat.mul_le_mul_right _ hlM)) hPB

theorem gridIdxSafe_of_sizeBound (naxes lens : List Nat) (hlen : naxes.length = lens.length)
    (h : sizeBound naxes lens < 2147483648) : gridIdxSafe naxes 0 lens = true :=
  gridIdxSafe_of_bound_aux lens [] naxes (sizeBound naxes lens) hlen (Nat.le_of_eq (Nat.one_mul _)) (le_refl _) h

end PsV
