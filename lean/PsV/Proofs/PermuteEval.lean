import PsV.Proofs.Permute
import PsV.Proofs.SpecFlat
/-!
What a permutable table means, and that `permuteDimensions` does not change it.  `tensorEval` is the flat tensor-product
sum over all stored coefficients for any per-axis basis; term `pos` of the sum for a table is term `nposOf … pos` of the sum
for the permuted table (`tensorEval_permuteBody`).  Bridge to C01: a `PTable` whose knots are real knot arrays *is* an
evaluation table (`toTable`), its C01 meaning `specEval` is `tensorEval` with the Cox–de Boor basis
(`specEval_eq_tensorEval`, through `specSum_flat`), so the invariance carries over to `specEval`.
-/
namespace PsV.Permute

section tensor
variable {K E C : Type}

theorem prod_range_list {M} [CommMonoid M] (n : Nat) (G : Nat → M) :
    ∏ k ∈ Finset.range n, G k = ((List.range n).map G).prod := by
  induction n with
  | zero => rfl
  | succ n ih => rw [Finset.prod_range_succ, ih, List.prod_range_succ]

theorem prod_range_perm {M} [CommMonoid M] {n : Nat} {p : List Nat} (hp : IsPerm n p) (G : Nat → M) :
    ∏ k ∈ Finset.range n, G (p.getD k 0) = ∏ k ∈ Finset.range n, G k := by
  rw [prod_range_list, prod_range_list]
  exact (hp.map_getD G).prod_eq

/-- the spline as a sum over every stored coefficient of coefficient × product over the axes of a
per-axis basis value; `basis` may depend on everything the table stores about the axis (order, knot
vector, number of coefficients, extent, period), on the coordinate, and on the coefficient index
along the axis.  With `basis a x i` = the `i`-th B-spline of order `a.order` on `a.knots` at `x`
this is the meaning of evaluation (`PsV.specEval`). -/
def tensorEval {R X : Type} [CommSemiring R] [Inhabited K] [Inhabited E] (val : C → R)
    (basis : AxisAttr K E → X → Nat → R) (dc : C) (dx : X) (T : PTable K E C) (x : List X) : R :=
  ∑ pos ∈ Finset.range (prodL T.naxes), val (T.coef.getD pos dc) *
    ∏ k ∈ Finset.range T.ndim, basis (T.axis k) (x.getD k dx) (pos / T.strides.getD k 0 % T.naxes.getD k 0)

theorem tensorEval_permuteBody {R X : Type} [CommSemiring R] [Inhabited K] [Inhabited E] (val : C → R)
    (basis : AxisAttr K E → X → Nat → R) (dc : C) (dx : X) (junk : C) {T : PTable K E C} (hT : T.WF)
    {p : List Nat} (hp : IsPerm T.ndim p) (x : List X) :
    tensorEval val basis dc dx (permuteBody junk T p) (gather dx x p) = tensorEval val basis dc dx T x := by
  have hpn := prodL_gather hp hT.naxes
  symm
  unfold tensorEval
  rw [(permuteBody_WF junk hT hp).strides, permuteBody_naxes junk hT hp, permuteBody_ndim, hT.strides, hpn]
  -- term `pos` of the sum for `T` is term `nposOf T.naxes p pos` of the sum for the permuted table
  refine Finset.sum_nbij (nposOf T.naxes p) (fun a ha => ?_) (fun a ha b hb => ?_) (fun i hi => ?_) fun a ha => ?_
  · exact Finset.mem_range.2 (nposOf_lt hp hT.naxes (Finset.mem_range.1 ha))
  · exact nposOf_inj hp hT.naxes (Finset.mem_range.1 ha) (Finset.mem_range.1 hb)
  · obtain ⟨pos, h1, h2⟩ := nposOf_surj hp hT.naxes (Finset.mem_range.1 hi)
    exact ⟨pos, Finset.mem_coe.2 (Finset.mem_range.2 h1), h2⟩
  · have ha := Finset.mem_range.1 ha
    rw [List.getD_eq_getElem?_getD, List.getD_eq_getElem?_getD, permuteBody_coef_getElem? junk hT hp ha,
      ← prod_range_perm hp]
    refine congrArg _ (Finset.prod_congr rfl fun k hk => ?_)
    have hk := Finset.mem_range.1 hk
    rw [permuteBody_axis junk hT hp hk, gather_getD dx x hp hk,
      digit_eq_digits _ _ k (by rwa [hp.length_gather]), digits_nposOf hp hT.naxes ha,
      gather_getD 0 _ hp hk, digit_eq_digits T.naxes a _ (hT.naxes ▸ hp.getD_lt hk)]

end tensor

variable {F E : Type} [Field F] [LinearOrder F] [Inhabited E]
attribute [local instance] Arith.ofField

/-- `permuteBody` and `PTable.axis` want a default knot array for out-of-range reads (`gather default T.knots`) -/
instance : Inhabited (Int → F) := ⟨fun _ => 0⟩

/-- one axis of a permutable table as a dimension of an evaluation table -/
def dimOf (a : AxisAttr (Int → F) E) (stride : Nat) : Dim F := ⟨a.order, a.nknots, a.naxes, stride, a.knots⟩

/-- the evaluation table (`PsV.Table`, the object of C01–C05) held by a permutable table -/
def toTable (T : PTable (Int → F) E F) : Table F where
  dims := (List.range T.ndim).map fun k => dimOf (T.axis k) (T.strides.getD k 0)
  coef := fun i => T.coef.getD i.toNat 0

/-- the Cox–de Boor basis (value or derivative, C01's continuity convention) as a `tensorEval` basis -/
def coxBasis (a : AxisAttr (Int → F) E) (xm : F × BasisMode) (i : Nat) : F :=
  Bsel (dimOf a 0) xm.1 (derivOrder xm.2) i

theorem Bsel_stride (a : AxisAttr (Int → F) E) (s : Nat) (x : F) (k i : Nat) :
    Bsel (dimOf a s) x k i = Bsel (dimOf a 0) x k i := rfl

theorem specRows_map {ι : Type} (g : ι → Dim F) (fx : ι → F) (fm : ι → BasisMode) (l : List ι) :
    specRows (l.map g) (l.map fx) (l.map fm)
      = l.map fun k => ((g k).stride, (List.range (g k).naxes).map (Bsel (g k) (fx k) (derivOrder (fm k)))) := by
  induction l with
  | nil => rfl
  | cons k l ih => rw [List.map_cons, List.map_cons, List.map_cons, specRows, ih, List.map_cons]

theorem specRows_length (ds : List (Dim F)) (xs : List F) (ms : List BasisMode)
    (hx : ds.length = xs.length) (hm : ds.length = ms.length) : (specRows ds xs ms).length = ds.length := by
  induction ds generalizing xs ms with
  | nil => rfl
  | cons d ds ih =>
    obtain ⟨x, xs, rfl⟩ := List.exists_cons_of_length_eq_add_one hx.symm
    obtain ⟨m, ms, rfl⟩ := List.exists_cons_of_length_eq_add_one hm.symm
    rw [specRows, List.length_cons, List.length_cons, ih xs ms (Nat.succ.inj hx) (Nat.succ.inj hm)]

theorem specRows_getElem? (ds : List (Dim F)) (xs : List F) (ms : List BasisMode) (k : Nat) :
    (specRows ds xs ms)[k]? =
      (ds[k]?.bind fun d => xs[k]?.bind fun x => ms[k]?.map fun m =>
        (d.stride, (List.range d.naxes).map (Bsel d x (derivOrder m)))) := by
  induction ds generalizing xs ms k with
  | nil => rfl
  | cons d ds ih =>
    cases xs with
    | nil => cases (d :: ds)[k]? <;> rfl
    | cons x xs =>
      cases ms with
      | nil => cases (d :: ds)[k]? <;> [rfl; cases (x :: xs)[k]? <;> rfl]
      | cons m ms =>
        cases k with
        | zero => rfl
        | succ k => exact ih xs ms k

omit [LinearOrder F] in
theorem rowProd_eq_prod (rows : List (Nat × List F)) (idx : List Nat) (h : idx.length = rows.length) :
    rowProd rows idx = ∏ k ∈ Finset.range rows.length, (rows.getD k (0, [])).2.getD (idx.getD k 0) 0 := by
  induction rows generalizing idx with
  | nil => rw [List.length_eq_zero_iff.1 h]; rfl
  | cons r rows ih =>
    obtain ⟨i, is, rfl⟩ := List.exists_cons_of_length_eq_add_one h
    rw [rowProd, List.length_cons, Finset.prod_range_succ', ih is (Nat.succ.inj h), mul_comm]
    rfl

theorem gather_zip {A B : Type} (da : A) (db : B) (xs : List A) (ms : List B) (h : xs.length = ms.length)
    (p : List Nat) : gather (da, db) (xs.zip ms) p = (gather da xs p).zip (gather db ms p) := by
  unfold gather
  rw [List.zip_map']
  exact List.map_congr_left fun j _ => getD_zip da db xs ms h j

/-- **C01's meaning of an evaluation is C15's tensor-product sum** with the Cox–de Boor basis: the rows of
the nested sum are indexed by the axes, `specSum_flat` turns it into the sum over all coefficients, and the
digits of a position select one basis value per axis. -/
theorem specEval_eq_tensorEval (T : PTable (Int → F) E F) (hT : T.WF) (xs : List F) (ms : List BasisMode)
    (hx : xs.length = T.ndim) (hm : ms.length = T.ndim) :
    specEval (toTable T) xs ms = tensorEval id coxBasis 0 (0, .value) T (xs.zip ms) := by
  -- row `k` of the nested sum: the stride and the basis values of axis `k`
  let R : Nat → Nat × List F := fun k => (T.strides.getD k 0, (List.range (T.naxes.getD k 0)).map
    (Bsel (dimOf (T.axis k) 0) (xs.getD k 0) (derivOrder (ms.getD k .value))))
  have hrows : specRows (toTable T).dims xs ms = (List.range T.ndim).map R := by
    have := specRows_map (fun k => dimOf (T.axis k) (T.strides.getD k 0)) (xs.getD · 0) (ms.getD · .value)
      (List.range T.ndim)
    rw [show (List.range T.ndim).map (xs.getD · 0) = xs from hx ▸ gather_range 0 xs,
      show (List.range T.ndim).map (ms.getD · .value) = ms from hm ▸ gather_range BasisMode.value ms] at this
    exact this
  have hsl : T.strides.length = T.ndim := by rw [hT.strides, rowMajor_length, hT.naxes]
  have hfst : ((List.range T.ndim).map R).map Prod.fst = T.strides := by
    rw [List.map_map]; exact hsl ▸ gather_range 0 T.strides
  have hlens : ((List.range T.ndim).map R).map (fun r => r.2.length) = T.naxes := by
    rw [List.map_map]
    simp only [Function.comp_def, R, List.length_map, List.length_range]
    exact hT.naxes ▸ gather_range 0 T.naxes
  unfold specEval
  rw [hrows, specSum_flat _ _ (by rw [hfst, hlens, hT.strides]), hlens]
  simp only [of_one, one_mul, tensorEval, id]
  refine Finset.sum_congr rfl fun q hq => ?_
  have hq := Finset.mem_range.1 hq
  rw [mul_comm, rowProd_eq_prod _ _ (by rw [digits_length, List.length_map, List.length_range, hT.naxes]),
    List.length_map, List.length_range]
  refine congrArg₂ (· * ·) ?_ (Finset.prod_congr rfl fun k hk => ?_)
  · show T.coef.getD (0 + (q : Int)).toNat 0 = _
    rw [zero_add, Int.toNat_natCast]
  · have hk := Finset.mem_range.1 hk
    have hkn : k < T.naxes.length := hT.naxes.symm ▸ hk
    have hlt : (digits T.naxes q).getD k 0 < T.naxes.getD k 0 :=
      (digits_inBox T.naxes q (Nat.zero_lt_of_lt hq)).2 k hkn
    rw [hT.strides, digit_eq_digits T.naxes q k hkn, getD_zip _ _ _ _ (hx.trans hm.symm), getD_map_range_of_lt R hk]
    exact getD_map_range_of_lt _ hlt 0

end PsV.Permute
