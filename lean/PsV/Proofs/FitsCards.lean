import PsV.Model.FitsBytes
import PsV.Proofs.ListBasics
/-! What the encoder of the FITS byte model writes parses back, field by field (C08): numbers (Horner's rule in base 10 for
    the fixed-format integer field, in base 256 for big-endian words: `foldl_digits`), then key and value field of a card
    and look-ups in lists of cards. -/
namespace PsV.C08

/-- Evaluates a fact about `str` of string literals.  `String.toList` on a literal is slow to evaluate (a literal is the
    UTF-8 byte array of its characters), so the literal is first rewritten to the list of its characters: it is
    `String.ofList` of them by definition, which `simp -index` sees. -/
macro "decide_str" : tactic => `(tactic| (simp -index only [str, String.toList_ofList]; decide))

theorem str_append (a b : String) : str (a ++ b) = str a ++ str b := by
  simp [str, String.toList_append]

theorem decimal_eq (n : Nat) : decimal n = (Nat.toDigits 10 n).map Char.toNat := by
  simp [decimal, str, Nat.toList_repr]

theorem decimal_inj {i j : Nat} (h : decimal i = decimal j) : i = j := by
  rw [decimal_eq, decimal_eq] at h
  have h' := (List.map_inj_right fun _ _ => Char.toNat_inj.1).1 h
  have := congrArg (fun l => Nat.ofDigitChars 10 l 0) h'
  simpa using this

theorem decimal_length (n : Nat) : (decimal n).length = (Nat.toDigits 10 n).length := by
  rw [decimal_eq, List.length_map]

theorem decimal_length_pos (n : Nat) : 0 < (decimal n).length := by
  rw [decimal_length]; exact Nat.length_toDigits_pos

theorem decimal_length_le {n k : Nat} (hk : 0 < k) (h : n < 10 ^ k) : (decimal n).length ≤ k := by
  rw [decimal_length]; exact (Nat.length_toDigits_le_iff (by decide) hk).mpr h

theorem decimal_digits (n : Nat) : ∀ d ∈ decimal n, 48 ≤ d ∧ d ≤ 57 := by
  intro d hd
  rw [decimal_eq, List.mem_map] at hd
  obtain ⟨c, hc, rfl⟩ := hd
  have := Nat.isDigit_of_mem_toDigits (by decide) (by decide) hc
  exact Char.isDigit_iff_toNat.mp this

theorem decimal_no_blank (n : Nat) : 32 ∉ decimal n := fun h => by
  have := decimal_digits n 32 h; omega

theorem prod_eq (l : List Nat) : prod l = l.prod := List.prod_eq_foldl_nat.symm

theorem prod_reverse (l : List Nat) : prod l.reverse = prod l := by
  simp only [prod_eq, List.prod_reverse_nat]

/-- the value fold of `parseField`, from any starting value -/
def fieldVal (a : Nat) (f : Bytes) : Nat := f.foldl (fun a c => 10 * a + (if c == 32 then 0 else c - 48)) a

theorem parseField_eq (f : Bytes) : parseField f =
    if f.all (fun c => c == 32 || (48 ≤ c && c ≤ 57)) && f.any (fun c => 48 ≤ c && c ≤ 57) then some (fieldVal 0 f)
    else none := rfl

theorem digitsFixed_length (k n : Nat) : (digitsFixed k n).length = k := by
  induction k generalizing n with
  | zero => rfl
  | succ k ih => simp [digitsFixed, ih]

theorem digitsFixed_digits (k n : Nat) : ∀ d ∈ digitsFixed k n, 48 ≤ d ∧ d ≤ 57 := by
  induction k generalizing n with
  | zero => intro d hd; simp [digitsFixed] at hd
  | succ k ih =>
    intro d hd
    simp only [digitsFixed, List.mem_append, List.mem_singleton] at hd
    rcases hd with hd | rfl
    · exact ih _ d hd
    · have := Nat.mod_lt n (by decide : 0 < 10); omega

/-- Horner's rule for the last `k` digits in base `b`.  `D k n` lists them, most significant first, each digit `d` written
    as `e d`; `step` takes one written digit into the value.  Base 10 with ASCII digits is the fixed-format integer field
    (`fieldVal_digitsFixed`), base 256 the big-endian word (`foldl_beBytes`). -/
theorem foldl_digits {b : Nat} {e : Nat → Nat} {D : Nat → Nat → Bytes} {step : Nat → Nat → Nat}
    (h0 : ∀ n, D 0 n = []) (hs : ∀ k n, D (k + 1) n = D k (n / b) ++ [e (n % b)])
    (hstep : ∀ a n, step a (e (n % b)) = b * a + n % b) (k n a : Nat) :
    (D k n).foldl step a = a * b ^ k + n % b ^ k := by
  induction k generalizing n with
  | zero => rw [h0, List.foldl_nil, Nat.pow_zero, Nat.mod_one, Nat.mul_one, Nat.add_zero]
  | succ k ih =>
    rw [hs, List.foldl_append, ih, List.foldl_cons, List.foldl_nil, hstep, Nat.pow_succ', Nat.mod_mul, Nat.mul_add,
      Nat.mul_comm b (b ^ k), Nat.mul_comm b (a * _), Nat.mul_assoc, Nat.add_assoc, Nat.add_comm (n % b)]

theorem fieldVal_digitsFixed (k n a : Nat) : fieldVal a (digitsFixed k n) = a * 10 ^ k + n % 10 ^ k :=
  foldl_digits (e := (48 + ·)) (fun _ => rfl) (fun _ _ => rfl) (fun a n => by
    have := Nat.mod_lt n (by decide : 0 < 10)
    have h32 : (48 + n % 10 == 32) = false := by simp; omega
    simp only [h32, Bool.false_eq_true, if_false, Nat.add_sub_cancel_left]) k n a

/-- what `blankLeading` does: the first `j` characters, all of them zeros, become blanks; the last character stays -/
theorem blankLeading_eq (l : Bytes) : ∃ j, blankLeading l = List.replicate j 32 ++ l.drop j ∧
    l.take j = List.replicate j 48 ∧ j ≤ l.length - 1 := by
  fun_induction blankLeading l with
  | case1 => exact ⟨0, rfl, rfl, Nat.le_refl _⟩
  | case2 d => exact ⟨0, rfl, rfl, Nat.le_refl _⟩
  | case3 rest hne ih =>
    obtain ⟨j, h1, h2, h3⟩ := ih
    have : rest ≠ [] := fun e => hne (by rw [e])
    have := List.length_pos_iff.2 this
    exact ⟨j + 1, by rw [h1]; rfl, by rw [List.take_succ_cons, h2]; rfl, by simp only [List.length_cons]; omega⟩
  | case4 d rest hne hd => exact ⟨0, rfl, rfl, Nat.zero_le _⟩

theorem fieldVal_replicate (a j c : Nat) (hc : c = 32 ∨ c = 48) : fieldVal a (List.replicate j c) = a * 10 ^ j := by
  induction j generalizing a with
  | zero => simp [fieldVal]
  | succ j ih =>
    rw [List.replicate_succ]
    show fieldVal (10 * a + (if c == 32 then 0 else c - 48)) (List.replicate j c) = _
    have : (if c == 32 then 0 else c - 48) = 0 := by rcases hc with rfl | rfl <;> rfl
    rw [this, Nat.add_zero, ih, Nat.pow_succ, Nat.mul_comm 10 a, Nat.mul_assoc, Nat.mul_comm 10]

theorem fieldVal_append (a : Nat) (l m : Bytes) : fieldVal a (l ++ m) = fieldVal (fieldVal a l) m := by
  unfold fieldVal; rw [List.foldl_append]

theorem blankLeading_length (l : Bytes) : (blankLeading l).length = l.length := by
  obtain ⟨j, h1, _, h3⟩ := blankLeading_eq l
  rw [h1, List.length_append, List.length_replicate, List.length_drop]; omega

theorem fieldVal_blankLeading (l : Bytes) (a : Nat) : fieldVal a (blankLeading l) = fieldVal a l := by
  obtain ⟨j, h1, h2, _⟩ := blankLeading_eq l
  rw [h1, fieldVal_append, fieldVal_replicate a j 32 (.inl rfl), ← fieldVal_replicate a j 48 (.inr rfl), ← h2,
    ← fieldVal_append, List.take_append_drop]

theorem blankLeading_all (l : Bytes) (h : ∀ d ∈ l, 48 ≤ d ∧ d ≤ 57) :
    (blankLeading l).all (fun c => c == 32 || (48 ≤ c && c ≤ 57)) = true := by
  obtain ⟨j, h1, _, _⟩ := blankLeading_eq l
  rw [h1, List.all_append, List.all_replicate, Bool.and_eq_true, List.all_eq_true]
  refine ⟨by simp, fun c hc => ?_⟩
  have := h c (List.mem_of_mem_drop hc)
  simp; omega

theorem blankLeading_any (l : Bytes) (hne : l ≠ []) (h : ∀ d ∈ l, 48 ≤ d ∧ d ≤ 57) :
    (blankLeading l).any (fun c => 48 ≤ c && c ≤ 57) = true := by
  obtain ⟨j, h1, _, h3⟩ := blankLeading_eq l
  have hl := List.length_pos_iff.2 hne
  have hj : j < l.length := by omega
  have hd : (l.drop j).any (fun c => 48 ≤ c && c ≤ 57) = true := by
    refine List.any_eq_true.2 ⟨l[j], ?_, ?_⟩
    · rw [List.mem_drop_iff_getElem]; exact ⟨0, by omega, rfl⟩
    · have := h _ (List.getElem_mem hj); simp; omega
  rw [h1, List.any_append, hd, Bool.or_true]
theorem fmtNat20_length (n : Nat) : (fmtNat20 n).length = 20 := by
  rw [fmtNat20, blankLeading_length, digitsFixed_length]

theorem parseField_fmtNat20 (n : Nat) (h : n < 10 ^ 20) : parseField (fmtNat20 n) = some n := by
  have hd := digitsFixed_digits 20 n
  have hne : digitsFixed 20 n ≠ [] := by
    intro h0
    have := digitsFixed_length 20 n
    rw [h0] at this; simp at this
  have hall := blankLeading_all _ hd
  have hany := blankLeading_any _ hne hd
  have hval := fieldVal_blankLeading (digitsFixed 20 n) 0
  rw [fieldVal_digitsFixed, Nat.zero_mul, Nat.zero_add, Nat.mod_eq_of_lt h] at hval
  unfold fmtNat20
  rw [parseField_eq, hall, hany, hval]
  rfl

theorem beBytes_length (k w : Nat) : (beBytes k w).length = k := by
  simp [beBytes]

theorem flatMap_beBytes_length (k : Nat) (l : List Nat) : (l.flatMap (beBytes k)).length = k * l.length := by
  rw [List.flatMap_def, length_flatten_uniform (k := k), List.length_map]
  exact fun s hs => by obtain ⟨w, _, rfl⟩ := List.mem_map.mp hs; exact beBytes_length k w

theorem beBytes_succ (k w : Nat) : beBytes (k + 1) w = beBytes k (w / 256) ++ [w % 256] := by
  unfold beBytes
  rw [List.range_succ, List.map_append]
  congr 1
  · apply List.map_congr_left
    intro j hj
    have hj' : j < k := List.mem_range.mp hj
    have : k + 1 - 1 - j = (k - 1 - j) + 1 := by omega
    rw [this, Nat.pow_succ, Nat.mul_comm, Nat.div_div_eq_div_mul]
  · simp

theorem foldl_beBytes (k w a : Nat) :
    (beBytes k w).foldl (fun a b => 256 * a + b) a = a * 256 ^ k + w % 256 ^ k :=
  foldl_digits (e := id) (fun _ => rfl) beBytes_succ (fun _ _ => rfl) k w a

theorem beWords_flatMap_beBytes (k : Nat) (hk : 0 < k) (l : List Nat) (h : ∀ w ∈ l, w < 256 ^ k)
    (f : Nat) (hf : l.length ≤ f) : beWords k f (l.flatMap (beBytes k)) = l := by
  induction l generalizing f with
  | nil =>
    cases f with
    | zero => rfl
    | succ f =>
      have : ¬ k = 0 := by omega
      simp [beWords, hk]
  | cons w l ih =>
    cases f with
    | zero => simp at hf
    | succ f =>
      have hlen : (beBytes k w).length = k := beBytes_length k w
      rw [List.flatMap_cons]
      unfold beWords
      rw [List.take_left' hlen, List.drop_left' hlen, hlen, foldl_beBytes, Nat.zero_mul, Nat.zero_add,
        Nat.mod_eq_of_lt (h w (by simp)),
        ih (fun w hw => h w (List.mem_cons_of_mem _ hw)) f (by simpa using hf)]
      have : ¬ (k < k ∨ k = 0) := by omega
      rw [if_neg this]

theorem words_flatMap_beBytes (k : Nat) (hk : 0 < k) (l : List Nat) (h : ∀ w ∈ l, w < 256 ^ k) :
    words k (l.flatMap (beBytes k)) = l := by
  unfold words
  apply beWords_flatMap_beBytes k hk l h
  rw [flatMap_beBytes_length]
  exact Nat.le_mul_of_pos_left _ hk

theorem padRight_eq_self {n fill : Nat} {b : Bytes} (h : n ≤ b.length) : padRight n fill b = b := by
  unfold padRight
  have : n - b.length = 0 := by omega
  rw [this]; simp

theorem padRight_length {n fill : Nat} {b : Bytes} (h : b.length ≤ n) : (padRight n fill b).length = n := by
  unfold padRight; simp; omega

theorem padLeft_length {n fill : Nat} {b : Bytes} (h : b.length ≤ n) : (padLeft n fill b).length = n := by
  unfold padLeft; simp; omega

theorem card_key_padRight (key tail : Bytes) (hk : key.length = 8) :
    card_key (padRight 80 32 (key ++ tail)) = key := by
  unfold card_key padRight
  rw [List.append_assoc, List.take_append_of_le_length (by omega)]
  rw [← hk]; exact List.take_length

theorem card_key_cardOf (key field : Bytes) (comment : String) (hk : key.length = 8) :
    card_key (cardOf key field comment) = key := by
  unfold cardOf
  rw [padRight_eq_self (n := 8) (by omega), List.append_assoc, List.append_assoc]
  exact card_key_padRight key _ hk

theorem str_eq_space : str "= " = [61, 32] := by decide

theorem card_field_cardOf (key field : Bytes) (comment : String) (hk : key.length = 8) (hf : field.length = 20) :
    card_field (cardOf key field comment) = field := by
  unfold cardOf card_field
  rw [padRight_eq_self (n := 8) (by omega), str_eq_space]
  unfold padRight
  have e : ∀ (c p : Bytes), ((key ++ [61, 32] ++ field ++ c ++ p).drop 10).take 20 = field := by
    intro c p
    have h10 : (key ++ [61, 32]).length = 10 := by simp [hk]
    rw [List.append_assoc (key ++ [61, 32]), List.append_assoc (key ++ [61, 32]), ← h10, List.drop_left,
      List.append_assoc, ← hf, List.take_left]
  exact e _ _

theorem cardOf_length (key field : Bytes) (comment : String) (hk : key.length = 8) (hf : field.length = 20)
    (hc : (str comment).length ≤ 47) : (cardOf key field comment).length = 80 := by
  unfold cardOf
  apply padRight_length
  rw [padRight_eq_self (n := 8) (by omega), str_eq_space]
  have : (if comment = "" then [] else str (" / " ++ comment)).length ≤ 50 := by
    split
    · exact Nat.zero_le _
    · rw [str_append, List.length_append, show (str " / ").length = 3 from rfl]; omega
  simp only [List.length_append, hk, hf, List.length_cons, List.length_nil]
  omega

theorem findCard_cons (c : Bytes) (cs : List Bytes) (key : Bytes) :
    findCard (c :: cs) key = if card_key c = key then some c else findCard cs key := by
  unfold findCard
  rw [List.find?_cons]
  by_cases h : card_key c = key
  · rw [if_pos h, beq_iff_eq.2 h]
  · rw [if_neg h, beq_eq_false_iff_ne.2 h]

theorem findCard_append_skip {l₁ l₂ : List Bytes} {key : Bytes} (h : ∀ c ∈ l₁, card_key c ≠ key) :
    findCard (l₁ ++ l₂) key = findCard l₂ key :=
  find_append_of_none _ l₁ l₂ fun c hc => beq_false_of_ne (h c hc)

theorem findCard_none {l : List Bytes} {key : Bytes} (h : ∀ c ∈ l, card_key c ≠ key) : findCard l key = none :=
  List.find?_eq_none.2 fun c hc => by simpa using h c hc

theorem findCard_map_range (f : Nat → Bytes) (kf : Nat → Bytes) (n i : Nat) (rest : List Bytes) (hi : i < n)
    (hk : ∀ j, j < n → card_key (f j) = kf j) (hne : ∀ j, j < i → kf j ≠ kf i) :
    findCard ((List.range n).map f ++ rest) (kf i) = some (f i) :=
  find?_map_range _ f rest hi (by rw [hk i hi]; exact beq_self_eq_true _)
    (fun j hj => by rw [hk j (by omega)]; exact beq_false_of_ne (hne j hj))

end PsV.C08
