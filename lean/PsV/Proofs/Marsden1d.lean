import PsV.Proofs.BSpline
import PsV.Proofs.FitDiffs
import PsV.Proofs.GlamNdDefs
import Mathlib.Data.Nat.Choose.Basic
import Mathlib.Data.Nat.Factorial.Basic
/-!
Marsden's identity in one dimension, all degrees: for the Cox–de Boor basis of the specification
(`Bind (indR t x)`, arbitrary order, arbitrary sorted knots, repeated knots allowed) on the fully supported range
`[t order, t n)`, `Σ_k B_{k,order}(x) · e_j(t_{k+1..k+order})/C(order,j) = x^j` for every `j ≤ order`
(`Bind_sum_monomial`), and the derivative coefficients of the penalty (`derivCoef`) of the coefficient vector of
`x^j` vanish above `j` (`derivCoef_monomial'`). The identity is proved on the window of the `order+1` polynomial
pieces `Bp` of the interval that contains `x` (`Bind_eq_Bp_full`), by induction along the Cox–de Boor recurrence
(`Bp_sum_affine` of `Proofs/BSpline.lean`).  The cases `x^0` and `x^1` are partition of unity (`Bind_sum_one`) and
linear precision (`Bind_sum_greville`: the Greville abscissae are the coefficients of the identity); the derivative
coefficients of a constant vanish from the first derivative on (`derivCoef_const`).
-/
set_option linter.unusedSectionVars false
namespace PsV
open Finset
section
variable {α : Type} [Field α] [LinearOrder α] [IsStrictOrderedRing α] [A : Arith α] [L : LawfulArith α]

omit [IsStrictOrderedRing α] in
theorem Bind_eq_Bp_full (t : Int → α) (x : α) (order n : Nat)
    (hmono : ∀ i j : Int, 0 ≤ i → i ≤ j → j ≤ (n : Int) + order → t i ≤ t j)
    (h1 : t (order : Int) ≤ x) (h2 : x < t (n : Int)) :
    ∃ c : Nat, order ≤ c ∧ c < n ∧ t (c : Int) < t ((c : Int) + 1) ∧
      ∀ k : Nat, k < n → Bind (indR t x) t x order (k : Int) = Bp t x (c : Int) order (k : Int) := by
  have hon : (order : Int) ≤ n := le_of_not_gt fun h =>
    absurd (lt_of_lt_of_le h2 ((hmono n order (by omega) (by omega) (by omega)).trans h1)) (lt_irrefl _)
  obtain ⟨c, c1, c2, c3, c4, hind⟩ := indR_piece hmono (by omega) hon (by omega) h1 h2
  lift c to Nat using by omega
  exact ⟨c, by omega, by omega, lt_of_le_of_lt c3 c4, fun k hk =>
    Bind_eq_Bp _ t x c order k fun j j1 j2 => hind j (by omega) (by omega)⟩

/-- elementary symmetric polynomial `e_j` of the `m` knots `t (i+1), …, t (i+m)` -/
def esymW (t : Int → α) (i : Int) : (m : Nat) → (j : Nat) → α
  | _, 0 => 1
  | 0, _+1 => 0
  | m+1, j+1 => esymW t i m (j+1) + t (i + m + 1) * esymW t i m j

/-- dual (Marsden) coefficient of `x^j` for order `order`: `e_j(t_{k+1..k+order}) / C(order, j)` -/
def dualCoef (t : Int → α) (order j k : Nat) : α := esymW t (k : Int) order j / (Nat.choose order j : α)

section
omit [LinearOrder α] [IsStrictOrderedRing α] A L

theorem esymW_zero_right (t : Int → α) (i : Int) (m : Nat) : esymW t i m 0 = 1 := by
  cases m <;> rfl

theorem esymW_zero_succ (t : Int → α) (i : Int) (j : Nat) : esymW t i 0 (j+1) = 0 := rfl

theorem esymW_succ_succ (t : Int → α) (i : Int) (m j : Nat) :
    esymW t i (m+1) (j+1) = esymW t i m (j+1) + t (i + m + 1) * esymW t i m j := rfl

theorem esymW_zero_left (t : Int → α) (i i' : Int) (j : Nat) : esymW t i 0 j = esymW t i' 0 j := by
  cases j <;> rfl

end

omit [LinearOrder α] [IsStrictOrderedRing α] A L in
theorem esymW_peel_first (t : Int → α) : ∀ (m j : Nat) (i : Int),
    esymW t i (m+1) (j+1) = esymW t (i+1) m (j+1) + t (i+1) * esymW t (i+1) m j := by
  intro m
  induction m with
  | zero =>
    intro j i
    rw [esymW_succ_succ, esymW_zero_succ, esymW_zero_succ, esymW_zero_left t i (i+1) j, Nat.cast_zero, add_zero]
  | succ m ih =>
    intro j i
    have e : i + ((m+1 : Nat) : Int) + 1 = i + 1 + m + 1 := by push_cast; ring
    rw [esymW_succ_succ t i (m+1) j, ih j i, e, esymW_succ_succ t (i+1) m j]
    cases j with
    | zero => rw [esymW_zero_right, esymW_zero_right, esymW_zero_right]; ring
    | succ j => rw [ih j i, esymW_succ_succ t (i+1) m j]; ring

omit [LinearOrder α] [IsStrictOrderedRing α] A L in
theorem esymW_one (t : Int → α) (i : Int) : ∀ m : Nat, esymW t i m 1 = ∑ l ∈ range m, t (i + 1 + l) := by
  intro m
  induction m with
  | zero => rfl
  | succ m ih => rw [esymW_succ_succ, ih, esymW_zero_right, mul_one, sum_range_succ, add_right_comm i]

theorem dualCoef_zero (t : Int → α) (order k : Nat) : dualCoef t order 0 k = 1 := by
  rw [dualCoef, esymW_zero_right, Nat.choose_zero_right, Nat.cast_one, div_one]

/-- no restriction on `order` is needed: both sides are `0/0 = 0` for `order = 0` -/
theorem dualCoef_one (t : Int → α) (order k : Nat) : dualCoef t order 1 k = greville t order k := by
  rw [dualCoef, esymW_one, Nat.choose_one_right, greville]

omit [IsStrictOrderedRing α] A L in
/-- un-normalised Marsden identity on the window of interval `left` -/
theorem Bp_sum_esym (t : Int → α) (x : α) (left : Int) (hne : t left < t (left + 1)) :
    ∀ (n : Nat), (∀ a b : Int, left - n ≤ a → a ≤ b → b ≤ left + n + 1 → t a ≤ t b) → ∀ j : Nat,
      ∑ k ∈ range (n + 1), Bp t x left n (left - n + k) * esymW t (left - n + k) n j
        = (n.choose j : α) * x ^ j := by
  intro n
  induction n with
  | zero =>
    intro _ j
    cases j with
    | zero => simp [esymW_zero_right, Bp]
    | succ j => simp [esymW_zero_succ]
  | succ n ih =>
    intro hmono j
    have hmono' : ∀ a b : Int, left - n ≤ a → a ≤ b → b ≤ left + n + 1 → t a ≤ t b :=
      fun a b h1 h2 h3 => hmono a b (by push_cast; omega) h2 (by push_cast; omega)
    cases j with
    | zero =>
      simp only [esymW_zero_right, mul_one, Nat.choose_zero_right, Nat.cast_one, pow_zero]
      exact Bp_sum_one t x left hne (n+1) hmono
    | succ j =>
      -- `e_{j+1}` of the window of `B_{i,n+1}` is `e_{j+1} + T·e_j` of the window without its last knot `T`, that of
      -- `B_{i-1,n+1}` is `e_{j+1} + u·e_j` of the window without its first knot `u`
      rw [Bp_sum_affine t x left hne n hmono (fun i => esymW t i (n+1) (j+1)) (fun i => esymW t i n (j+1))
          (fun i => esymW t i n j) (fun i => esymW_succ_succ t i n j)
          (fun i => by rw [esymW_peel_first t n j (i - 1), sub_add_cancel]),
        ih hmono' (j+1), ih hmono' j, Nat.choose_succ_succ' n j, Nat.cast_add]
      ring

theorem Bind_sum_monomial (t : Int → α) (x : α) (order n j : Nat) (hj : j ≤ order)
    (hmono : ∀ i j : Int, 0 ≤ i → i ≤ j → j ≤ (n : Int) + order → t i ≤ t j)
    (h1 : t (order : Int) ≤ x) (h2 : x < t (n : Int)) :
    ∑ k ∈ range n, Bind (indR t x) t x order (k : Int) * dualCoef t order j k = x ^ j := by
  obtain ⟨c, c1, c2, hne, hB⟩ := Bind_eq_Bp_full t x order n hmono h1 h2
  have hc : (order.choose j : α) ≠ 0 := Nat.cast_ne_zero.mpr (Nat.choose_pos hj).ne'
  rw [sum_congr rfl (fun k hk => by rw [hB k (mem_range.mp hk), dualCoef, ← mul_div_assoc]), ← sum_div,
    Bp_sum_window t x order c n c1 c2 (fun i => esymW t i order j),
    Bp_sum_esym t x (c : Int) hne order (fun a b ha hab hb => hmono a b (by omega) hab (by omega)) j,
    mul_div_cancel_left₀ _ hc]

omit [IsStrictOrderedRing α] in
theorem derivCoef_eq_zero_of_const (t : Int → α) (order q : Nat) (c : Nat → α) (v : α) :
    ∀ (s i : Nat), (∀ a, i ≤ a → a ≤ i + s + 1 → derivCoef t order q c a = v) →
      derivCoef t order (q + 1 + s) c i = 0 := by
  intro s
  induction s with
  | zero =>
    intro i h
    show derivCoef t order (q + 1) c i = 0
    rw [derivCoef_succ_eq, h (i+1) (by omega) (by omega), h i (by omega) (by omega), sub_self, mul_zero, zero_div]
  | succ s ih =>
    intro i h
    show derivCoef t order ((q + 1 + s) + 1) c i = 0
    rw [derivCoef_succ_eq, ih (i+1) (fun a h1 h2 => h a (by omega) (by omega)),
      ih i (fun a h1 h2 => h a h1 (by omega)), sub_self, mul_zero, zero_div]

/-- the knot spans `t (m+q+1) … t (m+order+1)`, `q < j`, that the derivative recurrence divides by on the way down from
`x^j` to a constant are non-degenerate, for the coefficients `m ≥ lo` as far as position `hi` -/
def SpansNonzero (t : Int → α) (order j lo hi : Nat) : Prop :=
  ∀ m q : Nat, lo ≤ m → q < j → m + q + 1 ≤ hi → t ((m : Int) + q + 1) ≠ t ((m : Int) + order + 1)

omit [LinearOrder α] [IsStrictOrderedRing α] A L in
theorem SpansNonzero.mono {t : Int → α} {order j lo hi j' lo' hi' : Nat} (h : SpansNonzero t order j lo hi)
    (hj : j' ≤ j) (hl : lo ≤ lo') (hh : hi' ≤ hi) : SpansNonzero t order j' lo' hi' :=
  fun m q h1 h2 h3 => h m q (Nat.le_trans hl h1) (Nat.lt_of_lt_of_le h2 hj) (Nat.le_trans h3 hh)

/-- up to the constant, the dual coefficients of `x^(j-q)` for the order `order - q` on the knot vector shifted by `q`
(`m = order - q`, `r = j - q`) -/
theorem derivCoef_dual_level (t : Int → α) (order j : Nat) :
    ∀ (q m r : Nat), q + m = order → q + r = j → ∀ i : Nat,
      SpansNonzero t order q i (i + q) →
      derivCoef t order q (dualCoef t order j) i
        = (order.descFactorial q : α) / (order.choose j : α) * esymW t ((i : Int) + q) m r := by
  intro q
  induction q with
  | zero =>
    intro m r hm hr i _
    rw [Nat.zero_add] at hm hr
    rw [derivCoef, dualCoef, hm, hr, Nat.descFactorial_zero, Nat.cast_one, Nat.cast_zero, add_zero, one_div,
      mul_comm, div_eq_mul_inv]
  | succ q ih =>
    intro m r hm hr i hk
    have hT : (i : Int) + order + 1 = (i : Int) + q + 1 + m + 1 := by omega
    have hden : t ((i : Int) + q + 1 + m + 1) - t ((i : Int) + q + 1) ≠ 0 :=
      sub_ne_zero.mpr (hT ▸ hk i q (le_refl _) (by omega) (by omega)).symm
    -- the two windows of level `q` share the knots `t_{i+q+2..i+order}`: `e_{r+1}` of the one ending in
    -- `T = t_{i+order+1}` minus `e_{r+1}` of the one starting with `u = t_{i+q+1}` is `(T - u)·e_r` of the shared knots
    rw [derivCoef_succ_eq,
      ih (m+1) (r+1) (by omega) (by omega) (i+1) (hk.mono (Nat.le_succ q) (Nat.le_succ i) (by omega)),
      ih (m+1) (r+1) (by omega) (by omega) i (hk.mono (Nat.le_succ q) (Nat.le_refl i) (Nat.le_succ _)),
      hT, Nat.cast_succ i, add_right_comm (i : Int) 1 q, Nat.cast_succ q, ← add_assoc (i : Int),
      esymW_succ_succ, esymW_peel_first t m r ((i : Int) + q), Nat.descFactorial_succ, Nat.cast_mul,
      div_eq_iff hden]
    ring

theorem derivCoef_dual_top (t : Int → α) (order j : Nat) (hj : j ≤ order) (i : Nat)
    (hk : SpansNonzero t order j i (i + j)) :
    derivCoef t order j (dualCoef t order j) i = (j.factorial : α) := by
  rw [derivCoef_dual_level t order j j (order - j) 0 (by omega) rfl i hk, esymW_zero_right, mul_one,
    Nat.descFactorial_eq_factorial_mul_choose, Nat.cast_mul,
    mul_div_cancel_right₀ _ (Nat.cast_ne_zero.mpr (Nat.choose_pos hj).ne')]

/-- sharp form of the non-degeneracy condition: only the levels `q < j` of the recurrence divide by a knot span
that matters (from level `j` on the numerators are zero) -/
theorem derivCoef_monomial' (t : Int → α) (order p j i : Nat) (hjp : j < p) (hj : j ≤ order)
    (hk : SpansNonzero t order j i (i + p)) :
    derivCoef t order p (dualCoef t order j) i = 0 := by
  obtain ⟨s, rfl⟩ : ∃ s, p = j + 1 + s := ⟨p - (j + 1), by omega⟩
  exact derivCoef_eq_zero_of_const t order j _ (j.factorial : α) s i (fun a h1 h2 =>
    derivCoef_dual_top t order j hj a (hk.mono (Nat.le_refl j) h1 (by omega)))

theorem derivCoef_monomial (t : Int → α) (order p j i : Nat) (hjp : j < p) (hj : j ≤ order)
    (hk : ∀ m q : Nat, i ≤ m → q < p → m + q + 1 ≤ i + p → q < order →
      t ((m : Int) + q + 1) ≠ t ((m : Int) + order + 1)) :
    derivCoef t order p (dualCoef t order j) i = 0 :=
  derivCoef_monomial' t order p j i hjp hj (fun m q h1 h2 h3 => hk m q h1 (by omega) h3 (by omega))

theorem Bind_sum_one (t : Int → α) (x : α) (order n : Nat)
    (hmono : ∀ i j : Int, 0 ≤ i → i ≤ j → j ≤ (n : Int) + order → t i ≤ t j)
    (h1 : t (order : Int) ≤ x) (h2 : x < t (n : Int)) :
    ∑ k ∈ range n, Bind (indR t x) t x order (k : Int) = 1 :=
  (sum_congr rfl (fun k _ => by rw [dualCoef_zero, mul_one])).trans
    ((Bind_sum_monomial t x order n 0 (Nat.zero_le _) hmono h1 h2).trans (pow_zero x))

theorem Bind_sum_greville (t : Int → α) (x : α) (order n : Nat) (ho : 1 ≤ order)
    (hmono : ∀ i j : Int, 0 ≤ i → i ≤ j → j ≤ (n : Int) + order → t i ≤ t j)
    (h1 : t (order : Int) ≤ x) (h2 : x < t (n : Int)) :
    ∑ k ∈ range n, Bind (indR t x) t x order (k : Int) * greville t order k = x :=
  (sum_congr rfl (fun k _ => by rw [dualCoef_one])).trans
    ((Bind_sum_monomial t x order n 1 ho hmono h1 h2).trans (pow_one x))

theorem derivCoef_const (t : Int → α) (order p : Nat) (hp : 1 ≤ p) (a : α) (j : Nat) :
    derivCoef t order p (fun _ => a) j = 0 := by
  obtain ⟨s, rfl⟩ : ∃ s, p = 0 + 1 + s := ⟨p - 1, by omega⟩
  exact derivCoef_eq_zero_of_const t order 0 _ a s j (fun _ _ _ => rfl)

end
end PsV
