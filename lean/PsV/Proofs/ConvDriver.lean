import PsV.Driver.C14
import PsV.Proofs.ConvDim
/-!
The memoised level-by-level Cox–de Boor table `basisAll`, with which the C14 driver evaluates the table produced by
the exact model, is the shared specification `Bsel`.
-/
namespace PsV
open PsV.Driver.C14

/-- the two lambdas are the step and the level-0 list of `Driver.C14.basisAll`, written out -/
theorem basisAll_level (d : CDim Rat) (x : Rat) : ∀ r : Nat,
    loopN r (fun (r : Nat) (prev : List Rat) =>
        (List.range (d.nknots - r - 2)).map fun i =>
          (x - d.knots.getD i 0) / (d.knots.getD (i + r + 1) 0 - d.knots.getD i 0) * prev.getD i 0
          + (d.knots.getD (i + r + 2) 0 - x) / (d.knots.getD (i + r + 2) 0 - d.knots.getD (i + 1) 0) * prev.getD (i+1) 0)
      ((List.range (d.nknots - 1)).map fun (i : Nat) =>
        if selInd (ConvSpec.toDim d) x (Int.ofNat i) then (1 : Rat) else 0)
    = (List.range (d.nknots - r - 1)).map fun (i : Nat) =>
        Bind (selInd (ConvSpec.toDim d) x) (ConvSpec.toDim d).knots x r (i : Int)
  | 0 => by
    simp only [loopN, Nat.sub_zero]
    apply List.map_congr_left
    intro i _
    rfl
  | r+1 => by
    rw [loopN, basisAll_level d x r, show d.nknots - (r + 1) - 1 = d.nknots - r - 2 by omega]
    refine List.map_congr_left fun i hi => ?_
    rw [List.mem_range] at hi
    rw [getD_map_range_of_lt _ (by omega), getD_map_range_of_lt _ (by omega)]
    have k : ∀ m : Nat, d.knots.getD m 0 = (ConvSpec.toDim d).knots (m : Int) := fun m => (toDim_knots_nat d m).symm
    simp only [k, Nat.cast_add, Nat.cast_one, Nat.cast_ofNat]
    rfl

theorem basisAll_eq (d : CDim Rat) (x : Rat) (hn : d.naxes = d.nknots - d.order - 1) :
    basisAll d x = (List.range d.naxes).map (Bsel (ConvSpec.toDim d) x 0) := by
  unfold basisAll
  show loopN d.order _ _ = _
  rw [basisAll_level d x d.order, hn]
  apply List.map_congr_left
  intro i _
  rfl

end PsV
