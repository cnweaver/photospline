import PsV.Proofs.FitsRead
import PsV.Proofs.FitsReadState
import PsV.Proofs.FitsEvalBridge
import PsV.Proofs.FitsDecode
import PsV.Proofs.DoubleValue
import PsV.Props.C05
/-!
# C07 — reading any bytes either fails cleanly or yields a safe, well-formed table

Property theorems, and the definitions only their statements use (`afterFailure`, `axisOf`, `Stop.valid`).
`readFixed` is `read_fits_core` with the validation block of fixes/C07-1.diff, `cleanup` the storage guard of commit
907b348 (`storage_guard` / `release_storage`), `stateAt nullInit ndim stop` the object at each throw site of the
source (which members are allocated, which pointer slots are NULL or garbage), `destroy` the destructor
`~splinetable`.  `readCore` and `stateAt false` describe the code before the repair.  These are the definitions the
driver (`PsV/Driver/C06.lean`, command `R`) runs against the real readers on mutated files.

`readGuarded` / `readFits` / `readSeq` (`PsV/Model/FitsReadState.lean`) execute the statements of `read_fits_core` on
the object in source order.  `Table.lookupAxes` / `Table.evalView` (`PsV/Model/FitsView.lean`) are the table object as
`searchcenters` and the evaluators see it, with arbitrary memory contents outside the arrays the reader filled;
the theorems on accepted tables compose the reader with C04 and C05, and `C07_accepted_eval_wf` gives the
`Table.WF` / `Dim.WF` of `Proofs/Bridge.lean` / `EvalSpec.lean`.
-/
namespace PsV
open PsV.Fits

/-- the object state in which `read_fits_core` leaves the table when it throws `e` on a file whose primary image has
    `ndim` axes (the storage guard has run) -/
def afterFailure (ndim : Nat) (e : RErr) : Except Fault Obj := cleanup (stateAt true ndim (stopOf e))

/-- C07: for every store, the repaired reader either returns a well-formed table, or fails and leaves the object
    empty with the allocation ledger balanced (every block obtained before the throw has been released, no pointer
    followed that was not set). -/
theorem C07_read_total (E : Ext) (f : Fits) :
    (∃ t, readFixed E f = .ok t ∧ t.WF) ∨
    (∃ e, readFixed E f = .error e ∧ afterFailure (f.headD default).axes.length e = .ok Obj.empty) :=
  (readFixed_total E f).imp (fun ⟨t, h, _, hw, _⟩ => ⟨t, h, hw⟩) (fun ⟨e, h, _, hc⟩ => ⟨e, h, hc⟩)

/-- non-vacuous on both sides: a minimal valid file (order 0, three knots, two coefficients) is accepted, the same
    file with `ORDER0 = 5` is rejected by the validation block -/
example : (∃ t, readFixed exExt exValid = .ok t) ∧ readFixed exExt exCounts = .error (.invalid 0 1) := by
  constructor
  · exact ⟨_, exValid_read⟩
  · exact exCounts_fixed

/-- The repair only rejects: a table it returns is the table the unrepaired reader returns. -/
theorem readFixed_sound (E : Ext) (f : Fits) (t : Fits.Table) (h : readFixed E f = .ok t) : readCore E f = .ok t :=
  ((readFixed_ok_iff E f t).mp h).1

example : ∃ t, readFixed exExt exValid = .ok t := ⟨_, exValid_read⟩

/-- … and it rejects exactly the tables that fail the per-dimension checks. -/
theorem readFixed_complete (E : Ext) (f : Fits) (t : Fits.Table) (h : readCore E f = .ok t) (hw : DimsWF t) :
    readFixed E f = .ok t :=
  (readFixed_ok_iff E f t).mpr ⟨h, hw⟩

example : ∃ t, readCore exExt exValid = .ok t ∧ DimsWF t :=
  ⟨_, readFixed_sound _ _ _ exValid_read, ((readFixed_ok_iff _ _ _).mp exValid_read).2⟩

/-- dimension `i` of a table as the lookup model of C04 sees it: knots through their order-isomorphic integer keys -/
def axisOf (t : Fits.Table) (i : Nat) : Axis Int :=
  ⟨t.order.getD i 0, (t.knots.getD i []).length, fun j => ((t.knots.getD i []).map dkey).getD j 0⟩

/-- Well-formedness is what C04 (and through it C05's memory-safety argument) assumes of every dimension:
    `nknots ≥ 2·order+2` and non-decreasing knots. -/
theorem WF_implies_C04 (t : Fits.Table) (h : t.WF) (i : Nat) (hi : i < t.ndim) : (axisOf t i).WF :=
  keyAxis_WF t i (h.dims i hi)

example : ∃ t : Fits.Table, t.WF ∧ 0 < t.ndim := ⟨exValidTable, readFixed_wf _ _ _ exValid_read, by decide⟩

/-- Defect 1 (no cross-checks): `ORDER0 = 5` with a `KNOTS0` extension of 3 knots and 2 coefficients is accepted by
    the unrepaired reader although the table is not well-formed. -/
theorem C07_counterexample_counts : ∃ t, readCore exExt exCounts = .ok t ∧ ¬ t.WF :=
  ⟨_, exCounts_core, exCounts_not_wf⟩

/-- Defect 1b (no check of the knot values): NaN / unsorted knots are accepted. -/
theorem C07_counterexample_knots : ∃ t, readCore exExt exNaNKnots = .ok t ∧ ¬ t.WF :=
  ⟨_, exNaNKnots_core, exNaNKnots_not_wf⟩

/-- Defect 2 (half-built object): when `KNOTS1` is missing the unrepaired reader throws with `ndim = 2`, `knots[0]`
    allocated and `knots[1]` never assigned — the destructor then frees a garbage pointer; when an `ORDERn` key is
    missing it throws with `strides == NULL`, which the destructor dereferences. -/
theorem C07_counterexample_halfbuilt :
    readCore exExt exMissingKnots = .error (.knotSize 1) ∧
    destroy (stateAt false 2 (stopOf (.knotSize 1))) = .error .freeGarbage ∧
    readCore exExt exMissingOrder = .error (.order 0) ∧
    destroy (stateAt false 1 (stopOf (.order 0))) = .error .nullDeref :=
  ⟨exMissingKnots_core, by decide, exMissingOrder_core, by decide⟩

/-- With the storage guard (commit 907b348) the same two failures leave an empty object. -/
theorem C07_repaired_halfbuilt :
    afterFailure 2 (.knotSize 1) = .ok Obj.empty ∧ afterFailure 1 (.order 0) = .ok Obj.empty := by
  constructor <;> decide

/-- A completely read table is destroyed without fault and with an empty ledger (any number of dimensions). -/
theorem destroy_complete (ndim : Nat) (h : 0 < ndim) : destroy (stateAt true ndim .done) = .ok [] :=
  destroy_done ndim h

example : destroy (stateAt true 3 .done) = .ok [] := destroy_done 3 (by decide)

/-- The step-by-step reader (every `allocate` and every assignment of `read_fits_core` executed on the object, the
    storage guard run at scope exit) is linked to the two definitions the driver executes: its verdict is
    `readFixed`'s, and when that is an error its object is what the driver computes as
    `cleanup (stateAt true ndim (stopOf e))`. -/
theorem C07_guarded_refines (E : Ext) (f : Fits) :
    (∀ e, readFixed E f = .error e →
      ∃ o, afterFailure (f.headD default).axes.length e = .ok o ∧ readGuarded E f = .ok (o, .error e)) ∧
    (∀ t, readFixed E f = .ok t → ∃ o, readGuarded E f = .ok (o, .ok t)) :=
  ⟨fun e h => ⟨Obj.empty, cleanup_after_readFixed E f e h, readGuarded_error E f e h⟩,
   fun t h => ⟨_, (readGuarded_ok E f t h).1⟩⟩

example : readGuarded exExt exCounts = .ok (Obj.empty, .error (.invalid 0 1)) :=
  readGuarded_error _ _ _ exCounts_fixed

/-- **C07 (3): a rejected read leaves no partially constructed table observable.**  For every store and every
    failure point of the reader: after `read_fits_core` has returned to its caller, the object *is* the empty table
    (`ndim = 0`, every pointer member NULL) and every block allocated on the way has been released exactly once. -/
theorem C07_rejected_leaves_empty (E : Ext) (f : Fits) (e : RErr) (h : readFixed E f = .error e) :
    readGuarded E f = .ok (Obj.empty, .error e) :=
  readGuarded_error E f e h

/-- non-vacuous at a late failure point: two dimensions, `KNOTS1` missing — the read stops inside the knot loop with
    eleven blocks allocated (`knots[0]` among them) and still leaves the empty object -/
example : readFixed exExt exMissingKnots = .error (.knotSize 1) ∧
    (stateAt true 2 (stopOf (.knotSize 1))).live.length = 11 ∧
    readGuarded exExt exMissingKnots = .ok (Obj.empty, .error (.knotSize 1)) := by
  exact ⟨exMissingKnots_fixed, by decide +kernel, readGuarded_error _ _ _ exMissingKnots_fixed⟩

/-- An accepted read leaves the completely populated object (all `ndim` knot vectors assigned, nothing else
    outstanding); the destructor releases it without following an unset pointer and with an empty ledger. -/
theorem C07_accepted_object (E : Ext) (f : Fits) (t : Fits.Table) (h : readFixed E f = .ok t) :
    readGuarded E f = .ok (stateAt true t.ndim .done, .ok t) ∧ destroy (stateAt true t.ndim .done) = .ok [] :=
  readGuarded_ok E f t h

example : ∃ t, readFixed exExt exValid = .ok t := ⟨_, exValid_read⟩

/-- `C07_read_total` on the object itself: for every store the guarded read ends in one of two states — a
    well-formed table in a completely populated, safely destructible object, or an error and the empty object.
    It never faults. -/
theorem C07_read_total_state (E : Ext) (f : Fits) :
    (∃ t, readGuarded E f = .ok (stateAt true t.ndim .done, .ok t) ∧ t.WF ∧
      destroy (stateAt true t.ndim .done) = .ok []) ∨
    (∃ e, readGuarded E f = .ok (Obj.empty, .error e)) :=
  (readFixed_total E f).imp (fun ⟨t, _, hg, hw, hd⟩ => ⟨t, hg, hw, hd⟩) (fun ⟨e, _, hg, _⟩ => ⟨e, hg⟩)

example : (∃ t, readFixed exExt exValid = .ok t) ∧ readFixed exExt exCounts = .error (.invalid 0 1) :=
  ⟨⟨_, exValid_read⟩, exCounts_fixed⟩

/-- **Reusable**: after any sequence of rejected files the object is exactly a fresh one (so the `ndim != 0` test of
    `read_fits` lets through the next read), each rejected file got its verdict, and reading one more file `f` into the
    same object gives what reading `f` into a fresh object gives. -/
theorem C07_reuse (E : Ext) (fs : List Fits) (f : Fits) (hrej : ∀ g ∈ fs, ∃ e, readFixed E g = .error e) :
    readSeq E Obj.empty fs = .ok (Obj.empty, fs.map (readFixed E)) ∧
    readSeq E Obj.empty (fs ++ [f]) =
      (match readFits E Obj.empty f with
       | .error x => .error x
       | .ok (o, r) => .ok (o, fs.map (readFixed E) ++ [r])) := by
  constructor
  · obtain ⟨rs, h1, h2⟩ := readSeq_rejected E fs hrej
    rw [h1, h2]
  · rw [readSeq_rejected_append E [f] fs hrej]
    simp only [readSeq]
    cases readFits E Obj.empty f with
    | error x => rfl
    | ok p => rfl

example : ∀ g ∈ [exCounts, exMissingKnots], ∃ e, readFixed exExt g = .error e := by
  intro g hg
  simp only [List.mem_cons, List.not_mem_nil, or_false] at hg
  rcases hg with rfl | rfl
  · exact ⟨_, exCounts_fixed⟩
  · exact ⟨_, exMissingKnots_fixed⟩

/-- which stops exist for a table of `nd` dimensions -/
def Fits.Stop.valid (nd : Nat) : Stop → Prop
  | .knot i _ => i < nd
  | _ => True

/-- The storage guard empties the object at **every** stop of `Stop` (throw sites of /repo 8770a43), reachable in the
    reader model or not (`imgSize`: the two throws after `fits_get_img_size` — cfitsio error, negative axis — the
    abstract store cannot produce), for every number of axes. -/
theorem C07_cleanup_every_stop (nd : Nat) (s : Stop) (h : s.valid nd) :
    cleanup (stateAt true nd s) = .ok Obj.empty :=
  cleanup_stateAt nd s fun _ _ e => by subst e; exact h

example : (Stop.knot 1 true).valid 3 ∧ (stateAt true 3 (.knot 1 true)).live.length = 12 :=
  ⟨show 1 < 3 by decide, by decide⟩

/-- **Lookup on an accepted table**, for every coordinate vector (`none` = NaN) and whatever the memory beyond the
    knot arrays holds: `searchcenters` terminates, its outcome does not depend on anything outside
    `knots[i][0 .. nknots[i])` (it reads nothing else), and every centre vector it returns lies in the range for which
    C05 proves the evaluators memory-safe (`CentersInRange` of the evaluators' view of the same table). -/
theorem C07_accepted_lookup_safe (E : Ext) (f : Fits) (t : Fits.Table) (h : readFixed E f = .ok t)
    (memK : Nat → Nat → Option Int) (xs : List (Option Int)) :
    searchCenters (t.lookupAxes memK) xs ≠ .nonterm ∧
    (∀ memK', searchCenters (t.lookupAxes memK') xs = searchCenters (t.lookupAxes memK) xs) ∧
    (∀ cs, searchCenters (t.lookupAxes memK) xs = .ok cs →
      ∀ {α : Type} (kn : UInt64 → α) (mem : Nat → Int → α), CentersInRange (t.evalDims kn mem) cs) :=
  lookup_safe t (readFixed_wf E f t h) memK xs

/-- non-vacuous: on the table read from `exValid` the coordinate 1.0 is inside the knot range and gets centre 1 -/
example : readFixed exExt exValid = .ok exValidTable ∧
    searchCenters (exValidTable.lookupAxes fun _ _ => none) [some 4607182418800017408] = .ok [1] :=
  ⟨exValid_read, by decide⟩

variable {α : Type} [A : Arith α]

/-- **Evaluation of an accepted table touches only storage the reader allocated** — C05 applies to every table the
    reader returns.  `mem` / `mem'` are two contents of everything that is not one of the `nknots[i]` knot values
    read from the file, `memC` / `memC'` two contents of everything that is not one of the `ncoeffs` coefficients read
    from the file.  If `mem` and `mem'` agree on the `order[i]` padding cells on either side of each knot vector
    (allocated by the reader, never written), then for every arithmetic, every coordinate vector, every mode list
    (`ndsplineeval`, `ndsplineeval_deriv`) and every centre vector in range the result is the same: no cell outside
    `knots[i][-order[i] .. nknots[i]+order[i])` and `coefficients[0 .. ncoeffs)` is read. -/
theorem C07_accepted_eval_reads_owned (E : Ext) (f : Fits) (t : Fits.Table) (h : readFixed E f = .ok t)
    (kn : UInt64 → α) (cf : UInt32 → α) (mem mem' : Nat → Int → α) (memC memC' : Int → α)
    (hpad : PadAgree t mem mem') (xs : List α) (cs : List Nat) (ms : List BasisMode)
    (hc : CentersInRange (t.evalDims kn mem) cs) (hx : t.ndim = xs.length) (hm : t.ndim = ms.length) :
    evalModes (t.evalView kn cf mem memC) xs cs ms = evalModes (t.evalView kn cf mem' memC') xs cs ms := by
  obtain ⟨hne, hsh, hrm, hco⟩ := evalView_owned t (readFixed_wf E f t h) kn cf mem mem' memC memC' hpad
  exact C05_eval_reads_owned _ _ xs cs ms hne hsh hrm hc ((evalDims_length t kn mem).trans hx)
    ((evalDims_length t kn mem).trans hm) hco

/-- the same for every lane of `ndsplineeval_gradient` -/
theorem C07_accepted_gradient_reads_owned (maxDim : Nat) (E : Ext) (f : Fits) (t : Fits.Table)
    (h : readFixed E f = .ok t)
    (kn : UInt64 → α) (cf : UInt32 → α) (mem mem' : Nat → Int → α) (memC memC' : Int → α)
    (hpad : PadAgree t mem mem') (xs : List α) (cs : List Nat)
    (hc : CentersInRange (t.evalDims kn mem) cs) (hx : t.ndim = xs.length) :
    ndsplineevalGradient maxDim (t.evalView kn cf mem memC) xs cs
      = ndsplineevalGradient maxDim (t.evalView kn cf mem' memC') xs cs := by
  obtain ⟨hne, hsh, hrm, hco⟩ := evalView_owned t (readFixed_wf E f t h) kn cf mem mem' memC memC' hpad
  exact C05_gradient_reads_owned maxDim _ _ xs cs hne hsh hrm hc ((evalDims_length t kn mem).trans hx) hco

/-- hypotheses satisfiable: the table read from `exValid`, exact arithmetic, centre 1, two memory contents that
    differ everywhere outside the (here empty, order 0) padding -/
example : readFixed exExt exValid = .ok exValidTable ∧
    PadAgree exValidTable (fun _ _ => (0 : Rat)) (fun _ j => if j < 0 ∨ 3 ≤ j then 7 else 0) ∧
    CentersInRange (exValidTable.evalDims (fun b => ((dkey b : Int) : Rat)) (fun _ _ => (0 : Rat))) [1] := by
  refine ⟨exValid_read, ?_, ⟨by decide, by decide, by decide⟩, trivial⟩
  intro i j h1 h2
  have hi : exValidTable.order.getD i 0 = 0 := by
    cases i with
    | zero => rfl
    | succ i => rfl
  have hk : (exValidTable.knots.getD i []).length ≤ 3 := by
    cases i with
    | zero => decide
    | succ i => exact Nat.zero_le _
  rw [hi] at h1 h2
  have : ¬ (j < 0 ∨ 3 ≤ j) := by omega
  simp [this]

/-- **C07 ∘ C04 ∘ C05: reading, then looking up, then evaluating is safe for every input.**  For every store the
    reader accepts, every coordinate vector (as comparison keys, `none` = NaN) and every memory content outside the
    arrays: the lookup terminates and reads only the knot arrays; if it returns centres, then every evaluator, in
    every arithmetic and for every coordinate values `xs` and modes `ms`, reads only cells the reader allocated
    (result independent of everything else). -/
theorem C07_read_then_use_safe (E : Ext) (f : Fits) (t : Fits.Table) (h : readFixed E f = .ok t)
    (memK : Nat → Nat → Option Int) (keys : List (Option Int)) :
    searchCenters (t.lookupAxes memK) keys ≠ .nonterm ∧
    ∀ cs, searchCenters (t.lookupAxes memK) keys = .ok cs →
      ∀ (kn : UInt64 → α) (cf : UInt32 → α) (mem mem' : Nat → Int → α) (memC memC' : Int → α),
        PadAgree t mem mem' → ∀ (xs : List α), t.ndim = xs.length →
          (∀ ms : List BasisMode, t.ndim = ms.length →
            evalModes (t.evalView kn cf mem memC) xs cs ms = evalModes (t.evalView kn cf mem' memC') xs cs ms) ∧
          (∀ maxDim, ndsplineevalGradient maxDim (t.evalView kn cf mem memC) xs cs
            = ndsplineevalGradient maxDim (t.evalView kn cf mem' memC') xs cs) := by
  obtain ⟨h1, _, h3⟩ := C07_accepted_lookup_safe E f t h memK keys
  refine ⟨h1, ?_⟩
  intro cs hcs kn cf mem mem' memC memC' hpad xs hx
  have hc := h3 cs hcs kn mem
  exact ⟨fun ms hm => C07_accepted_eval_reads_owned E f t h kn cf mem mem' memC memC' hpad xs cs ms hc hx hm,
         fun maxDim => C07_accepted_gradient_reads_owned maxDim E f t h kn cf mem mem' memC memC' hpad xs cs hc hx⟩

example : ∃ t, readFixed exExt exValid = .ok t ∧
    searchCenters (t.lookupAxes fun _ _ => none) [some 4607182418800017408] = .ok [1] :=
  ⟨_, exValid_read, by decide⟩

/-- Every array of an accepted table has the size the header-derived counts say, so every index the reader, the
    lookup, the evaluators and the writer form from `ndim`, `nknots`, `naxes`, `strides` is inside its array:
    all per-dimension arrays have `ndim` entries, the coefficient array has `strides[0]*naxes[0] = Π naxes` entries
    (what `write_fits_core` writes and what the evaluators index), extents `2·ndim`, periods `ndim`, and the two
    indices `order[i]`, `nknots[i]-order[i]-1` of the made-up extents are inside `knots[i]` (`defaultExtentsChk`
    checks every index and agrees). -/
theorem C07_accepted_sizes (E : Ext) (f : Fits) (t : Fits.Table) (h : readFixed E f = .ok t) :
    t.knots.length = t.ndim ∧ t.naxes.length = t.ndim ∧ t.strides.length = t.ndim ∧
    t.coef.length = t.strides.headD 0 * t.naxes.headD 0 ∧ t.coef.length = prod t.naxes ∧
    (∃ e p, t.extents = some e ∧ e.length = 2 * t.ndim ∧ t.periods = some p ∧ p.length = t.ndim) ∧
    defaultExtentsChk t.order t.knots = some (defaultExtents t.order t.knots) := by
  obtain ⟨hk, hnx, hs, hc1, hc2, hex, hpe, hde⟩ := (readFixed_wf E f t h).sizes
  obtain ⟨e, p, he, hp⟩ := readFixed_some_arrays E f t h
  exact ⟨hk, hnx, hs, hc1, hc2, ⟨e, p, he, hex e he, hp, hpe p hp⟩, hde⟩

example : ∃ t, readFixed exExt exValid = .ok t := ⟨_, exValid_read⟩

/-- **Re-serialising an accepted table reads every array exactly to its end.**  `write_fits_core` writes
    `Π naxes[ndim-1-i]` coefficients, `2·ndim` extents, `ndim` periods and orders and each knot vector whole; in the
    model the buffers are cut with `take` / indexed with `getD`.  On an accepted table none of these cuts or defaults
    is ever effective: the counts the writer forms are the lengths of the arrays the reader allocated. -/
theorem C07_accepted_rewrite_in_bounds (E : Ext) (f : Fits) (t : Fits.Table) (h : readFixed E f = .ok t) :
    t.coef.take (prod (wAxes t)) = t.coef ∧ prod (wAxes t) = t.coef.length ∧
    (∀ e, t.extents = some e → e.take (2 * t.ndim) = e) ∧
    (∀ p, t.periods = some p → p.length = t.ndim) ∧
    (∀ i, i < t.ndim → i < t.order.length ∧ i < t.knots.length ∧ t.ndim - i - 1 < t.naxes.length) := by
  obtain ⟨hk, hnx, _, _, hco, ⟨e, p, he, hel, hp, hpl⟩, _⟩ := C07_accepted_sizes E f t h
  have hw : prod (wAxes t) = t.coef.length := by rw [wAxes_eq t hnx, prod_reverse, hco]
  refine ⟨by rw [hw, List.take_length], hw, ?_, ?_, ?_⟩
  · intro e' he'
    rw [he] at he'; cases he'
    rw [← hel, List.take_length]
  · intro p' hp'
    rw [hp] at hp'; cases hp'
    exact hpl
  · intro i hi
    exact ⟨hi, by omega, by omega⟩

example : ∃ t, readFixed exExt exValid = .ok t := ⟨_, exValid_read⟩

section field
variable {β : Type} [Field β] [LinearOrder β]

/-- Every accepted table satisfies the full well-formedness the evaluation-correctness theorems assume
    (`Table.WF` of `Proofs/Bridge.lean`: `Dim.WF` — `nknots ≥ 2·order+2`, `naxes = nknots-order-1`, knots
    non-decreasing on `[0, nknots)` — for every dimension, last stride 1), for every interpretation of the knot bit
    patterns that respects the order of finite doubles. -/
theorem C07_accepted_eval_wf (E : Ext) (f : Fits) (t : Fits.Table) (h : readFixed E f = .ok t)
    (kn : UInt64 → β) (hk : KeyMono kn) (cf : UInt32 → β) (mem : Nat → Int → β) (memC : Int → β) :
    (t.evalView kn cf mem memC).WF :=
  evalView_WF t (readFixed_wf E f t h) kn hk cf mem memC

end field

/-- `KeyMono` is satisfiable: the integer key itself, as a rational -/
example : KeyMono (fun b => ((dkey b : Int) : Rat)) := by
  intro a b _ _ hab
  show ((dkey a : Int) : Rat) ≤ ((dkey b : Int) : Rat)
  exact_mod_cast hab

/-- … in particular with the knots read as the real numbers the doubles denote (`valQ`), in exact arithmetic: the
    hypothesis `hwf : T.WF` of the evaluation-correctness theorems (C01, C02) holds for every accepted table. -/
theorem C07_accepted_eval_wf_real (E : Ext) (f : Fits) (t : Fits.Table) (h : readFixed E f = .ok t)
    (cf : UInt32 → Rat) (mem : Nat → Int → Rat) (memC : Int → Rat) :
    _root_.PsV.Table.WF (α := Rat) (t.evalView valQ cf mem memC) :=
  C07_accepted_eval_wf E f t h valQ valQ_keyMono cf mem memC

example : ∃ t, readFixed exExt exValid = .ok t := ⟨_, exValid_read⟩

/-- **The decoder stays inside the buffer.**  For every byte string `b`: if the decoder accepts it as the store `f`,
    then `b` is tiled, without remainder, by the HDUs of `f` — each a header of at least one 2880-byte block and data
    blocks that contain the `width · Π axes` pixel bytes the header cards declare; each pixel array has exactly the
    declared number of elements and *is* the sequence of big-endian words at its offset in `b` (`Framed`, `HduSpan`).
    In particular the declared sizes are covered by bytes that are present. -/
theorem C07_bytes_framed (b : Bytes) (f : Fits) (h : decodeFits b = some f) :
    Framed b f ∧ f ≠ [] ∧ (∀ g ∈ f, g.pix.length = npix g.axes) ∧
    (f.map fun g => 2880 + g.pix.width * npix g.axes).sum ≤ b.length :=
  ⟨decodeFits_framed b f h, decodeFits_ne_nil b f h, framed_count b f (decodeFits_framed b f h),
   framed_size b f (decodeFits_framed b f h)⟩

/-- non-vacuous: the bytes of a two-HDU file are accepted by the decoder -/
example : decodeFits (encodeFits Codec.exampleFits) = some Codec.exampleFits :=
  Codec.decode_encode Codec.exampleFits (by decide) Codec.exampleFits_ok

/-- **Reading any bytes** (within the decoder's subset): for every byte string the decoder accepts, the guarded read
    of the decoded store ends either with a well-formed table in a complete, safely destructible object, or with an
    error and the empty object — what the driver's command `R` computes (`decodeFits`, then `readFixed`, then
    `cleanup (stateAt …)`), for all inputs. -/
theorem C07_bytes_total (E : Ext) (b : Bytes) (f : Fits) (h : decodeFits b = some f) :
    Framed b f ∧
    ((∃ t, readFixed E f = .ok t ∧ readGuarded E f = .ok (stateAt true t.ndim .done, .ok t) ∧ t.WF ∧
        destroy (stateAt true t.ndim .done) = .ok []) ∨
     (∃ e, readFixed E f = .error e ∧ readGuarded E f = .ok (Obj.empty, .error e) ∧
        afterFailure (f.headD default).axes.length e = .ok Obj.empty)) :=
  ⟨decodeFits_framed b f h, readFixed_total E f⟩

example : ∃ f, decodeFits (encodeFits Codec.exampleFits) = some f :=
  ⟨_, Codec.decode_encode Codec.exampleFits (by decide) Codec.exampleFits_ok⟩

end PsV
