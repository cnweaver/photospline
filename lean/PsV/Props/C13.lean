import PsV.Proofs.Fit
import PsV.Proofs.FitEntry
import PsV.Proofs.FitWitness
import PsV.Proofs.FitUnderdet
import PsV.Proofs.Lifecycle
/-!
# C13 — fit rejects inconsistent arguments instead of corrupting memory

`psvdriver C13` executes `fitEntry` / `cGlamfitEntry` (the member function with the occupied-table check and the storage
guard, and the C wrapper; under them `fitChecks`, the sanity block, and `fitBodyW`, the index arithmetic behind it with the
C integer types) against the real `splinetable::fit` / `splinetable_glamfit`.  `fitBody`, `fit`, `cGlamfit` are the same
function with the index arithmetic in `Nat` and without the two C20 repairs; they are not executed, and are tied to the
executed side by `entry_upstream_eq_fit`.

`repaired` = the code with fixes/C13-1..6 applied; `asIs` = upstream.  For `repaired` the safety statement holds for
all arguments under the size condition below; for `asIs` each missing check has a decided witness.

Standing assumptions (not checkable by `fit`): `Data.WF` — the `ndsparse` struct is what `ndsparse_allocate` makes it;
a size condition — `SizesFit` for `fitBody`, the decidable `NoWrapB` for `fitBodyW`.  The argument tuples the theorems
are exercised on stand in Proofs/FitWitness.lean.
-/
namespace PsV.Fit

/-- **checks_imply_needs.**  If every check of the repaired sanity block falls through, all the preconditions of the
    code behind it hold. -/
theorem checks_imply_needs (a : Args) (h : fitChecks repaired a = .ok) : Needs a :=
  ((fitChecks_ok_iff a).mp h).needs

/-- Conversely the repaired block rejects *only* inconsistent arguments: consistent ones pass. -/
theorem needs_imply_checks (a : Args) (hwf : a.data.WF) (hn : Needs a) : fitChecks repaired a = .ok :=
  (fitChecks_ok_iff a).mpr (hn.checksPass hwf)

/-- **needs_imply_safe.**  Under `Needs`, every array access and every stack-array declaration of the modelled
    routines (`fit` set-up, `add_penalty_term`/`calc_penalty`/`divided_diffs`, `bsplinebasis`/`bspline`, the monotone
    tail of `glamfit_complex`) is in
    bounds — for all dimensions, orders, knot counts and grid sizes. -/
theorem needs_imply_safe (a : Args) (hwf : a.data.WF) (hsz : SizesFit a) (hn : Needs a) :
    fitBody repaired a = .ok :=
  fitBody_ok hwf hsz hn

/-- The sanity block itself never reads out of bounds (this is where the `rows == 0` check is needed). -/
theorem checks_never_fault (a : Args) (hwf : a.data.WF) : (fitChecks repaired a).isFault = false :=
  noFault_iff.mpr ((fitChecks_post a hwf).mono (fun _ h => h) fun _ _ => trivial)

/-- **C13, memory safety of the repaired code**: for every argument tuple, `fit` completes, or throws — it never
    touches memory out of bounds (in the modelled index arithmetic). -/
theorem fit_never_faults (a : Args) (hwf : a.data.WF) (hsz : SizesFit a) (glamOk : Bool) (t : Tbl) :
    (fit repaired a glamOk t).1.isFault = false := by
  rcases checks_verdict a hwf with ⟨hn, hc⟩ | ⟨_, e, _, hc⟩
  · simp only [fit, hc, needs_imply_safe a hwf hsz hn]
    cases glamOk <;> rfl
  · simp only [fit, hc]
    rfl

/-- **reject_leaves_unchanged.**  All checks precede any mutation: whatever the sanity block rejects (in either
    state of the code) leaves the table exactly as it was, and is what `fit` reports. -/
theorem reject_leaves_unchanged (c : Cfg) (a : Args) (glamOk : Bool) (t : Tbl) (e : Err)
    (h : fitChecks c a = .reject e) : fit c a glamOk t = (.reject e, t) := by
  simp [fit, h]

/-- If the table changed, every check had passed. -/
theorem changed_only_after_checks (c : Cfg) (a : Args) (glamOk : Bool) (t : Tbl)
    (h : (fit c a glamOk t).2 ≠ t) : fitChecks c a = .ok := by
  unfold fit at h
  cases hc : fitChecks c a with
  | ok => rfl
  | reject e => simp [hc] at h
  | fault f => simp [hc] at h

/-- On the repaired code an inconsistent argument tuple (`¬ Needs`) is always answered by an argument error with the
    table untouched. -/
theorem inconsistent_rejected (a : Args) (hwf : a.data.WF) (glamOk : Bool) (t : Tbl) (h : ¬ Needs a) :
    ∃ e, e ≠ Err.glam ∧ fit repaired a glamOk t = (.reject e, t) :=
  let ⟨e, he, hc⟩ := checks_reject_of hwf fun hc => h (checks_imply_needs a hc)
  ⟨e, he, reject_leaves_unchanged _ a glamOk t e hc⟩

/-- **cwrapper_nonzero_iff_reject.**  `splinetable_glamfit` returns non-zero exactly when a handle is null or the
    C++ call does not complete normally. -/
theorem cwrapper_nonzero_iff_reject (c : Cfg) (tableNull dataNull : Bool) (ca : CArgs) (glamOk : Bool) (t : Tbl) :
    (cGlamfit c tableNull dataNull ca glamOk t).1 ≠ 0 ↔
      (tableNull = true ∨ dataNull = true ∨ (fit c ca.view glamOk t).1 ≠ .ok) := by
  cases tableNull
  · cases dataNull
    · rw [cGlamfit_valid]; simp
    · simp [cGlamfit]
  · simp [cGlamfit]

/-- … and a non-zero return caused by the sanity block leaves the table behind the handle unchanged. -/
theorem cwrapper_reject_unchanged (c : Cfg) (ca : CArgs) (glamOk : Bool) (t : Tbl) (e : Err)
    (h : fitChecks c ca.view = .reject e) : cGlamfit c false false ca glamOk t = (1, t) := by
  simp [cGlamfit, reject_leaves_unchanged c ca.view glamOk t e h]

/-- coordinate vector shorter than the index range: accepted, then read past its end -/
theorem asIs_short_coords :
    fitChecks asIs wShortCoords = .ok ∧ fitBody asIs wShortCoords = .fault (.oob .coordsX 1 1) ∧
    fitChecks repaired wShortCoords = .reject (.coordLen 0) := by decide +kernel

/-- too few knots: accepted; `naxes` is 0 resp. wraps, and the knot vector is read past its end -/
theorem asIs_too_few_knots :
    fitChecks asIs wThreeKnots = .ok ∧ (fitShape wThreeKnots).naxes = [0] ∧
    fitChecks asIs wTwoKnots = .ok ∧ (fitShape wTwoKnots).naxes = [2^64 - 1] ∧
    fitBody asIs wTwoKnots = .fault (.oob .knots 2 2) ∧
    fitChecks repaired wThreeKnots = .reject (.fewKnots 0) ∧ fitChecks repaired wTwoKnots = .reject (.fewKnots 0) := by
  decide +kernel

/-- penalty order = order+2: the recursion writes `out[1]` into the caller's one-element stack array `a` -/
theorem asIs_penalty_order_overruns_stack :
    fitChecks asIs wPenalty = .ok ∧ fitBody asIs wPenalty = .fault (.oob .ddOut 1 1) ∧
    fitChecks repaired wPenalty = .reject (.penaltyOrder 0) := by decide +kernel

/-- order 0: `double a[0], b[0]` — UBSan `vla-bound`; the arguments are consistent, so the repair is in glam.c -/
theorem asIs_order_zero_vla :
    fitChecks asIs wOrderZero = .ok ∧ fitBody asIs wOrderZero = .fault (.vlaBound .ddA 0) ∧
    fitChecks repaired wOrderZero = .ok ∧ fitBody repaired wOrderZero = .ok := by decide +kernel

/-- empty data: `*std::max_element` of an empty range inside the sanity block itself -/
theorem asIs_empty_data :
    fitChecks asIs wNoRows = .fault (.oob .maxElement 0 0) ∧ fitChecks repaired wNoRows = .reject .noData := by decide +kernel

/-- zero dimensions: `strides[ndim-1]` with `ndim-1 = 2^32-1` -/
theorem asIs_zero_dims :
    fitChecks asIs wNoDims = .ok ∧ fitBody asIs wNoDims = .fault (.oob .strides 0 (2^32 - 1)) ∧
    fitChecks repaired wNoDims = .reject .noDims := by decide +kernel

example : good.data.WF ∧ SizesFit good ∧ fitChecks repaired good = .ok ∧ Needs good ∧ fitBody repaired good = .ok := by
  have hsz : SizesFit good := by
    intro i hi
    have : i = 0 ∨ i = 1 := by simp [good] at hi; omega
    rcases this with rfl | rfl <;> decide
  exact ⟨good_wf, hsz, good_checks, checks_imply_needs _ good_checks, needs_imply_safe _ good_wf hsz (checks_imply_needs _ good_checks)⟩

/-- an inconsistent tuple exists and is rejected with the table (here a populated one) untouched -/
example : ¬ Needs wPenalty ∧ fit repaired wPenalty true (some (fitShape good)) = (.reject (.penaltyOrder 0), some (fitShape good)) :=
  ⟨wPenalty_inconsistent, reject_leaves_unchanged _ _ _ _ _ asIs_penalty_order_overruns_stack.2.2⟩

/-- `changed_only_after_checks`: a call that changes the table exists -/
example : (fit repaired good true none).2 ≠ none := by decide +kernel

/-- `cwrapper_reject_unchanged`: a C call whose views are rejected by the sanity block -/
example : fitChecks repaired (CArgs.view ⟨good.data, [2, 0], good.knots, [true, true], [0, 3], 1⟩)
    = .reject (.penaltyOrder 1) := by decide +kernel

/-- the wrapper: zero on a good fit, non-zero on a null handle and on a rejected call -/
example : (cGlamfit repaired false false ⟨good.data, [2, 0], good.knots, [true, true], [0, 0], 1⟩ true none).1 = 0 ∧
    (cGlamfit repaired true false ⟨good.data, [2, 0], good.knots, [true, true], [0, 0], 1⟩ true none).1 = 1 ∧
    (cGlamfit repaired false false ⟨good.data, [2, 0], good.knots, [true, true], [0, 3], 1⟩ true none).1 = 1 := by decide +kernel

/-! What the repaired sanity block accepts satisfies the precondition of every consumer behind it, for all argument
shapes (any number of dimensions, any list lengths — the hypotheses are only "the block fell through" and the
well-formedness of the C struct that no code can check).  One theorem per consumer, stated on the consumer's own
definition, plus the exactness of the penalty-order bound for the stack arrays. -/

/-- weights ↔ data, and the broadcast rules: `smoothing` and `penaltyOrder` have one entry or one per dimension, and
    the entry `fit` picks for dimension `i` exists. -/
theorem accepted_shapes (a : Args) (hc : fitChecks repaired a = .ok) :
    a.nweights = a.data.rows ∧ a.coordLens.length = a.data.ndim ∧ a.orders.length = a.data.ndim ∧
    a.knots.length = a.data.ndim ∧
    (∀ i, i < a.data.ndim → a.smoothIdx i < a.smoothNZ.length ∧ a.penIdx i < a.penalty.length) ∧
    (a.monodim = noMonodim ∨ a.monodim < a.data.ndim) := by
  have hn := checks_imply_needs a hc
  exact ⟨hn.nweights, hn.ncoords, hn.norders, hn.nknotvecs,
    fun i hi => ⟨smoothIdx_lt hn.nsmooth hi, penIdx_lt hn.npenalty hi⟩, hn.monodim⟩

/-- `bsplinebasis` (and `bspline` under it) for dimension `i`: reads `coords[i][0 .. ranges[i])`, the knots
    `[col .. col+order+1]` and writes the `ranges[i] × nsplines` cells — all in bounds. -/
theorem accepted_bsplinebasis_safe (a : Args) (hc : fitChecks repaired a = .ok) (i : Nat) (hi : i < a.data.ndim) :
    a.rangeOf i ≤ a.coordLen i ∧ sortedB (a.knotsAt i) = true ∧ 2 * a.ordAt i + 2 ≤ a.nkAt i ∧
    bsplineBasis (a.nkAt i) (a.rangeOf i) (a.coordLen i) (a.ordAt i) = .ok := by
  have hn := checks_imply_needs a hc
  exact ⟨hn.coord_len i hi, hn.sorted i hi, hn.knots_len i hi,
    bsplineBasis_ok (hn.order_add_two_le hi) (hn.coord_len i hi)⟩

/-- `divided_diffs` as `calc_penalty` calls it for dimension `i` and any row of the difference matrix: the penalty
    order is at most the spline order (hence at most the `order+1` cells of `a`, `b`), and the recursion stays inside
    `a`, `b`, `divd` and the knot vector. -/
theorem accepted_divided_diffs_safe (a : Args) (hc : fitChecks repaired a = .ok) (i : Nat) (hi : i < a.data.ndim)
    (row : Nat) (hrow : row < a.nsplAt i - a.penAt i) :
    a.penAt i ≤ a.ordAt i ∧
    dividedDiffs (a.ordAt i + 1) (a.nkAt i) (a.ordAt i) (a.penAt i) row (a.penAt i + 1) = .ok := by
  have hn := checks_imply_needs a hc
  have hp := hn.pen_le i hi
  rw [hn.nsplAt_eq hi] at hrow
  exact ⟨hp, dividedDiffs_ok (Nat.succ_pos _) _ _ _ (Nat.le_succ_of_le hp) (Nat.lt_succ_self _) (fun _ => by omega)⟩

/-- **The bound of the stack arrays is exact**: with `a[L], b[L]`, a penalty order above `L` always overruns them
    (the read `a[porder-1]`), whatever knots and output array — so `porder ≤ order+1` is what memory safety needs
    (fixes/C13-4 made `L = order+1`), and the sanity block's `porder ≤ order` is the stricter, numerically meaningful
    bound (`porder = order+1` divides by `order-(porder-1) = 0`). -/
theorem divided_diffs_bound_exact (L nk order p j outLen : Nat) (h : L ≤ p) :
    dividedDiffs L nk order (p+1) j outLen ≠ .ok := by
  intro hok
  rw [dividedDiffs] at hok
  -- the read `a[porder-1]`
  have := rd_ok_iff.mp (seqAll_ok_iff.mp hok (rd .ddA L p) (by simp only [List.mem_cons, true_or, or_true]))
  omega

/-- … while `porder = order+1` still fits them (for the repaired `order+1` cells). -/
theorem divided_diffs_order_plus_one_fits (nk order j : Nat) (h : j + 2 * order + 1 < nk) :
    dividedDiffs (order + 1) nk order (order + 1) j (order + 2) = .ok :=
  dividedDiffs_ok (Nat.succ_pos _) _ _ _ (Nat.le_refl _) (Nat.lt_succ_self _) (fun _ => by omega)

/-- the monotone tail of `glamfit_complex`: the requested dimension exists, the cumulative sums stay inside the
    coefficient array -/
theorem accepted_monotone_tail_safe (a : Args) (hc : fitChecks repaired a = .ok) (hm : a.monodim ≠ noMonodim) :
    a.monodim < a.data.ndim ∧ monoTail ((List.range a.data.ndim).map a.nsplAt) a.monodim = .ok := by
  have hn := checks_imply_needs a hc
  exact ⟨hn.monodim.resolve_left hm, monoTail_ok _ _ (monodim_lt hn hm)⟩

example : fitChecks repaired good = .ok ∧ (1 : Nat) < good.data.ndim ∧ (0 : Nat) < good.nsplAt 0 - good.penAt 0 ∧
    good.monodim ≠ noMonodim ∧ (0 : Nat) + 2 * 1 + 1 < 5 := by decide +kernel

/-! `fitBodyW` (Model/FitEntry.lean) is `fitBody` with the C integer types.  `NoWrapB a` is a decidable condition on the
arguments alone.  The sanity block does **not** imply it (`head_basis_counter_overflows`, confirmed on the real code without
fixes/C13-7: UBSan `signed integer overflow` in bsplinebasis, SIGSEGV in the as-shipped build), and its `bsplinebasis`
clause cannot be dropped (`basis_clause_necessary`). -/

/-- `SizesFit` follows from the decidable predicate -/
theorem noWrap_imply_sizesFit (a : Args) (hw : NoWrapB a = true) : SizesFit a := by
  obtain ⟨_, h, _⟩ := (noWrapB_iff a).mp hw
  exact fun i hi => Nat.lt_trans (h i hi).1 I32_lt_U32

/-- every spline count is positive once the sanity block has passed -/
theorem needs_nspl_pos (a : Args) (hn : Needs a) : ∀ x ∈ (List.range a.data.ndim).map a.nsplAt, 0 < x :=
  hn.nspl_pos

/-- **needs_noWrap_imply_safeW.**  Under `Needs` and the size condition, every array access, every stack-array bound
    *and every `int`/`long` computation* of the modelled routines is in range, and no unsigned quantity wraps — for
    all dimensions, orders, knot counts and grid sizes that satisfy the (decidable) condition. -/
theorem needs_noWrap_imply_safeW (a : Args) (hwf : a.data.WF) (hn : Needs a) (hw : NoWrapB a = true) :
    fitBodyW repaired a = .ok :=
  fitBodyW_ok hwf hn hw

/-- … in terms of the validator: whatever the repaired sanity block accepts and satisfies the size condition is safe. -/
theorem accepted_noWrap_imply_safeW (a : Args) (hwf : a.data.WF) (hc : fitChecks repaired a = .ok)
    (hw : NoWrapB a = true) : fitBodyW repaired a = .ok :=
  needs_noWrap_imply_safeW a hwf (checks_imply_needs a hc) hw

/-- Nothing behind the sanity block throws an argument error (all `std::logic_error`s come first). -/
theorem body_never_rejects (c : Cfg) (a : Args) (e : Err) : fitBodyW c a ≠ .reject e := fun h =>
  (h ▸ fitBodyW_noThrow c a : NoThrow (.reject e))

/-- Under the size condition the table holds the strides the `Nat` model says (no `uint64_t` product wrapped). -/
theorem noWrap_shape_eq (a : Args) (hn : Needs a) (hw : NoWrapB a = true) : fitShapeW a = fitShape a :=
  fitShapeW_eq hn hw

/-- **basis_clause_necessary.**  The `bsplinebasis` clause of `NoWrapB` cannot be dropped: if in some dimension the
    dense basis matrix has 2^31 or more cells, the `int` counter `k` of bsplinebasis overflows (or an earlier
    statement already went wrong) although the sanity block accepted the arguments. -/
theorem basis_clause_necessary (a : Args) (i : Nat) (hi : i < a.data.ndim)
    (hbig : I32 ≤ a.rangeOf i * a.nsplAt i) : ∃ f, fitBodyW repaired a = .fault f := by
  cases hb : fitBodyW repaired a with
  | fault f => exact ⟨f, rfl⟩
  | reject e => exact absurd hb (body_never_rejects _ _ e)
  | ok =>
    rw [fitBodyW_eq, seqAll_cons_ok] at hb
    exact absurd (bodyWith_basis_ok hb.2 hi) (bsplineBasisW_not_ok hbig)

/-- **The sanity block does not imply the size condition** (finding, fixes/C13-7.diff): `wBigBasis` is accepted and
    consistent, violates only the `bsplinebasis` clause, and the counter overflows.  On the real code without that fix: UBSan
    `signed integer overflow: 2147483647 + 1 cannot be represented in type 'int'` at splineutil.c:125; the as-shipped
    build dies with SIGSEGV (`basis->x[k]` with `k = -2^31`). -/
theorem head_basis_counter_overflows :
    wBigBasis.data.WF ∧ fitChecks repaired wBigBasis = .ok ∧ Needs wBigBasis ∧ NoWrapB wBigBasis = false ∧
    fitBody repaired wBigBasis = .ok ∧ ∃ f, fitBodyW repaired wBigBasis = .fault f := by
  have hc : fitChecks repaired wBigBasis = .ok := uni_checks (by decide) (by decide) (by decide) (Or.inl rfl)
  have hn := checks_imply_needs _ hc
  obtain ⟨hk, hr, hs⟩ := wBigBasis_dim
  have hbig : I32 ≤ wBigBasis.rangeOf 0 * wBigBasis.nsplAt 0 := by rw [hr, hs]; decide
  refine ⟨uni_wf, hc, hn, ?_, ?_, basis_clause_necessary _ 0 Nat.one_pos hbig⟩
  · exact Bool.eq_false_iff.mpr fun h => Nat.not_lt.mpr hbig (((noWrapB_iff _).mp h).2.1 0 Nat.one_pos).2
  · refine needs_imply_safe _ uni_wf (fun i hi => ?_) hn
    obtain rfl : i = 0 := Nat.lt_one_iff.mp hi
    rw [hk]; decide

/-- **With the repair** (fixes/C13-7.diff: `size_t row, col, k`; in /repo) the clause weakens from "fewer than 2^31 cells"
    to "the cell count fits `size_t`": `bsplinebasis` is then safe for every accepted dimension whose knot vector is
    shorter than 2^31 — in particular for `wBigBasis` (confirmed on the real code: the repaired build completes the
    call under ASan+UBSan without a report). -/
theorem proposed_basis_counter_safe (a : Args) (hc : fitChecks repaired a = .ok) (i : Nat) (hi : i < a.data.ndim)
    (hnk : a.nkAt i < I32) (hcells : a.rangeOf i * a.nsplAt i < U64) :
    bsplineBasisW64 (a.nkAt i) (a.rangeOf i) (a.coordLen i) (a.ordAt i) = .ok := by
  have hn := checks_imply_needs a hc
  exact bsplineBasisW64_ok (hn.order_add_two_le hi) (hn.coord_len i hi) hnk hcells

theorem proposed_basis_counter_safe_witness :
    bsplineBasisW64 (wBigBasis.nkAt 0) (wBigBasis.rangeOf 0) (wBigBasis.coordLen 0) (wBigBasis.ordAt 0) = .ok := by
  obtain ⟨hk, hr, hs⟩ := wBigBasis_dim
  exact proposed_basis_counter_safe _ head_basis_counter_overflows.2.1 0 Nat.one_pos (by rw [hk]; decide)
    (by rw [hr, hs]; decide)

theorem head_ncoeffs_wraps :
    fitChecks repaired wWrap = .ok ∧ ncoeffs wWrap = 2^64 ∧ ncoeffsW wWrap = 0 ∧ NoWrapB wWrap = false := by
  have hn : ncoeffs wWrap = U64 := (uni_ncoeffs (by decide)).trans (by decide)
  refine ⟨uni_checks (by decide) (by decide) (by decide) (Or.inl rfl), hn.trans (by decide), ?_, ?_⟩
  · unfold ncoeffsW
    rw [hn]; exact Nat.mod_self _
  · exact Bool.eq_false_iff.mpr fun h =>
      Nat.lt_asymm I64_lt_U64 (hn ▸ ((noWrapB_iff _).mp h).2.2)

/-- `NoWrapB` holds for the consistent example of this file; the safety theorem applies to it -/
example : NoWrapB good = true ∧ fitBodyW repaired good = .ok :=
  ⟨good_noWrap, accepted_noWrap_imply_safeW _ good_wf good_checks good_noWrap⟩

/-! `fitEntry c h a x t` is `splinetable::fit` from its first to its last statement (Model/FitEntry.lean); `head` = the code
in /repo (refuses a populated table, `storage_guard`), `upstream` = without the two C20 repairs. -/

/-- **entry_occupied_refused** (C20's "fit refuses an occupied table", for every argument tuple, valid or not). -/
theorem entry_occupied_refused (c : Cfg) (a : Args) (x : Ext) (s : Shape) :
    fitEntry c head a x (some s) = (.occupied, some s) := by
  simp [fitEntry, head]

/-- **entry_failure_leaves_unchanged.**  At HEAD *every* call that does not succeed — occupied table, argument error,
    allocation failure, GLAM failure — leaves the table exactly as it was (model state equality), whatever the code
    of the sanity block (`c`) is. -/
theorem entry_failure_leaves_unchanged (c : Cfg) (a : Args) (x : Ext) (t : Tbl)
    (hne : (fitEntry c head a x t).1 ≠ .ok) (hnf : (fitEntry c head a x t).1.isFault = false) :
    (fitEntry c head a x t).2 = t := by
  cases t with
  | some s => rw [entry_occupied_refused]
  | none =>
    revert hne hnf
    unfold fitEntry
    simp only [head, Option.isSome_none, Bool.and_false, Bool.false_eq_true, if_false]
    cases hc : fitChecks c a with
    | reject e => intros; rfl
    | fault f => intros; rfl
    | ok =>
      cases hb : fitBodyW c a with
      | reject e => exact absurd hb (body_never_rejects c a e)
      | fault f => intro _ hnf; cases hnf
      | ok =>
        cases x with
        | done => intro hne; exact absurd rfl hne
        | badAlloc => intros; rfl
        | glamFailed => intros; rfl

/-- **entry_never_faults** — `fit_never_faults` for the whole member function and with the integer widths, under the
    decidable size condition instead of `SizesFit`. -/
theorem entry_never_faults (h : Head) (a : Args) (hwf : a.data.WF) (hw : NoWrapB a = true) (x : Ext) (t : Tbl) :
    (fitEntry repaired h a x t).1.isFault = false := by
  rcases checks_verdict a hwf with ⟨hn, _⟩ | ⟨_, e, _, hc⟩
  · rw [fitEntry_of_needs h a hwf hw hn]
    split
    · rfl
    · cases x <;> rfl
  · unfold fitEntry
    rw [hc]
    split <;> rfl

/-- **entry_ok_iff.**  The call succeeds exactly when the table is empty, the arguments are consistent and nothing
    external fails. -/
theorem entry_ok_iff (a : Args) (hwf : a.data.WF) (hw : NoWrapB a = true) (x : Ext) (t : Tbl) :
    (fitEntry repaired head a x t).1 = .ok ↔ (t = none ∧ Needs a ∧ x = .done) := by
  cases t with
  | some s => rw [entry_occupied_refused]; exact ⟨nofun, fun h => nomatch h.1⟩
  | none =>
    rcases checks_verdict a hwf with ⟨hn, _⟩ | ⟨hn, e, _, hc⟩
    · rw [fitEntry_of_needs head a hwf hw hn]
      cases x <;> simp [head, hn]
    · simp [fitEntry, head, hc, hn]

/-- … and the table is then the one `fitShape` describes. -/
theorem entry_ok_table (a : Args) (hwf : a.data.WF) (hw : NoWrapB a = true) (hn : Needs a) :
    fitEntry repaired head a .done none = (.ok, some (fitShape a)) :=
  fitEntry_of_needs head a hwf hw hn .done none

/-- **entry_solver_failure_leaves_empty** (the failure paths behind the sanity block).  Consistent arguments on an
    empty table, and an allocation or `glamfit_complex` fails: the caller gets `bad_alloc` resp. "GLAM fit failed",
    and the table is empty again — no half-built table is ever observable at HEAD. -/
theorem entry_solver_failure_leaves_empty (a : Args) (hwf : a.data.WF) (hw : NoWrapB a = true) (hn : Needs a) :
    fitEntry repaired head a .badAlloc none = (.badAlloc, none) ∧
    fitEntry repaired head a .glamFailed none = (.glam, none) :=
  ⟨fitEntry_of_needs head a hwf hw hn .badAlloc none, fitEntry_of_needs head a hwf hw hn .glamFailed none⟩

/-- **entry_inconsistent_rejected.**  Inconsistent arguments on an empty table: a `std::logic_error` of the sanity
    block, whatever would have happened later, and the table stays empty. -/
theorem entry_inconsistent_rejected (h : Head) (a : Args) (hwf : a.data.WF) (x : Ext) (hn : ¬ Needs a) :
    ∃ e, e ≠ Err.glam ∧ fitEntry repaired h a x none = (.arg e, none) := by
  obtain ⟨e, he, hc⟩ := checks_reject_of hwf fun hc => hn (checks_imply_needs a hc)
  exact ⟨e, he, by simp [fitEntry, hc]⟩

/-- Link to the definitions of the first part: on an empty table, under the size condition, `fitEntry` without the two
    C20 repairs is `fit` (verdicts renamed), so every theorem about `fit repaired` speaks about the entry point. -/
theorem entry_upstream_eq_fit (a : Args) (hwf : a.data.WF) (hw : NoWrapB a = true) (x : Ext) (t : Tbl) :
    fitEntry repaired upstream a x t =
      (match (fit repaired a (decide (x = .done)) t).1 with
        | .ok => .ok
        | .reject .glam => (if x = .badAlloc then .badAlloc else .glam)
        | .reject e => .arg e
        | .fault f => .fault f,
       (fit repaired a (decide (x = .done)) t).2) := by
  rcases checks_verdict a hwf with ⟨hn, hc⟩ | ⟨_, e, he, hc⟩
  · rw [fitEntry_of_needs upstream a hwf hw hn]
    simp only [fit, hc, needs_imply_safe a hwf (noWrap_imply_sizesFit a hw) hn]
    cases x <;> rfl
  · cases e with
    | glam => exact absurd rfl he
    | _ => simp only [fitEntry, fit, hc, upstream, Bool.false_and, Bool.false_eq_true, if_false]

/-- The C wrapper on top of the entry point: non-zero exactly when a handle is null or the call did not succeed … -/
theorem cwrapperEntry_nonzero_iff (c : Cfg) (h : Head) (tableNull dataNull : Bool) (ca : CArgs) (x : Ext) (t : Tbl) :
    (cGlamfitEntry c h tableNull dataNull ca x t).1 ≠ 0 ↔
      (tableNull = true ∨ dataNull = true ∨ (fitEntry c h ca.view x t).1 ≠ .ok) := by
  cases tableNull
  · cases dataNull
    · rw [cGlamfitEntry_valid]; simp
    · simp [cGlamfitEntry]
  · simp [cGlamfitEntry]

/-- … and at HEAD a non-zero return (that is not a memory fault) leaves the table behind the handle unchanged, for
    every reason of failure. -/
theorem cwrapperEntry_failure_unchanged (c : Cfg) (tableNull dataNull : Bool) (ca : CArgs) (x : Ext) (t : Tbl)
    (hnz : (cGlamfitEntry c head tableNull dataNull ca x t).1 ≠ 0)
    (hnf : (fitEntry c head ca.view x t).1.isFault = false) :
    (cGlamfitEntry c head tableNull dataNull ca x t).2 = t := by
  cases tableNull
  · cases dataNull
    · rw [cGlamfitEntry_valid] at hnz ⊢
      exact entry_failure_leaves_unchanged c ca.view x t (fun hok => hnz (if_pos hok)) hnf
    · rfl
  · rfl

/-- Without the two C20 repairs: a populated table is overwritten (its storage leaks, C20), and a GLAM failure leaves
    the new, unusable table behind. -/
theorem upstream_entry_witnesses :
    fitEntry repaired upstream good .done (some (fitShape wOrderZero)) = (.ok, some (fitShape good)) ∧
    fitEntry repaired upstream good .glamFailed none = (.glam, some (fitShape good)) ∧
    fitEntry repaired head good .glamFailed none = (.glam, none) ∧
    fitEntry repaired head good .done (some (fitShape wOrderZero)) = (.occupied, some (fitShape wOrderZero)) := by
  decide +kernel

/-- non-vacuity of the entry-point theorems: `good` satisfies their hypotheses, `wPenalty` is inconsistent -/
example : good.data.WF ∧ NoWrapB good = true ∧ Needs good ∧ ¬ Needs wPenalty ∧
    (fitEntry repaired head wPenalty .done (some (fitShape good))).1 ≠ .ok ∧
    (fitEntry repaired head wPenalty .done (some (fitShape good))).1.isFault = false ∧
    (cGlamfitEntry repaired head false false ⟨good.data, [2, 0], good.knots, [true, true], [0, 3], 1⟩ .done none).1 ≠ 0 :=
  ⟨good_wf, good_noWrap, checks_imply_needs _ good_checks, wPenalty_inconsistent, by decide +kernel, by decide +kernel, by decide +kernel⟩

/-! `PsV.Lifecycle.fit` (Model/Lifecycle.lean, property C20) abstracts the arguments of `fit` to a flag `valid`.
The theorem gives that flag its meaning (`toLifecycle`: `valid` = the repaired sanity block accepts = `Needs`) and shows
that the two hand-written models of `splinetable::fit` agree where they overlap: same success/exception verdict, and the
table is non-empty afterwards in the one exactly when it is in the other.  (Allocation failures are a countdown in
C20's model and `Ext.badAlloc` here; the theorem is about the runs without one.) -/

theorem entry_agrees_with_lifecycle (a : Args) (hwf : a.data.WF) (hw : NoWrapB a = true) (x : Ext)
    (hx : x ≠ .badAlloc) (t : PsV.Lifecycle.Tab) (tb : Tbl) (hrel : tb.isSome = true ↔ t.ndim ≠ 0) :
    ((PsV.Lifecycle.fit PsV.Lifecycle.Cfg.head t none (toLifecycle a x)).res = .ok ↔
        (fitEntry repaired head a x tb).1 = .ok) ∧
    ((PsV.Lifecycle.fit PsV.Lifecycle.Cfg.head t none (toLifecycle a x)).res = .threw ↔
        (fitEntry repaired head a x tb).1 ≠ .ok) ∧
    ((PsV.Lifecycle.fit PsV.Lifecycle.Cfg.head t none (toLifecycle a x)).tab.ndim ≠ 0 ↔
        (fitEntry repaired head a x tb).2.isSome = true) := by
  by_cases ht : t.ndim = 0
  · -- empty table on both sides
    have htb : tb = none := by
      cases tb with
      | none => rfl
      | some s => exact absurd ht (hrel.mp rfl)
    subst htb
    by_cases hn : Needs a
    · have hlen := toLifecycle_dims_length a x
      have hv : (toLifecycle a x).valid = true := decide_eq_true (needs_imply_checks a hwf hn)
      have hd : (toLifecycle a x).dims ≠ [] := fun h => by
        rw [h] at hlen; exact absurd hlen.symm (Nat.ne_of_gt hn.ndim_pos)
      have hfit := PsV.Lifecycle.fit_empty_valid PsV.Lifecycle.Cfg.head rfl t none _ ht hv hd
      simp only [PsV.Lifecycle.completes_fitSteps_iff] at hfit
      cases x with
      | badAlloc => exact absurd rfl hx
      | done =>
        obtain ⟨h1, h2⟩ := hfit.1 rfl
        rw [h1, h2, hlen, entry_ok_table a hwf hw hn]; simpa using Nat.ne_of_gt hn.ndim_pos
      | glamFailed =>
        obtain ⟨h1, h2⟩ := hfit.2 (by simp [toLifecycle])
        rw [h1, h2, (entry_solver_failure_leaves_empty a hwf hw hn).2]; simp [ht]
    · have hv : (toLifecycle a x).valid = false := decide_eq_false fun hc => hn (checks_imply_needs a hc)
      obtain ⟨e, _, he⟩ := entry_inconsistent_rejected head a hwf x hn
      rw [he, PsV.Lifecycle.fit_refused _ t _ _ (Or.inr hv)]
      simp [ht]
  · -- populated table: refused by both
    obtain ⟨s, rfl⟩ := Option.isSome_iff_exists.mp (hrel.mpr ht)
    rw [entry_occupied_refused, PsV.Lifecycle.fit_refused _ t _ _ (Or.inl ⟨rfl, ht⟩)]
    simp [ht]

/-- non-vacuity: an empty and a fitted life-cycle table, related to `none` / `some _` -/
example : good.data.WF ∧ NoWrapB good = true ∧ Ext.glamFailed ≠ Ext.badAlloc ∧
    ((none : Tbl).isSome = true ↔ PsV.Lifecycle.Tab.empty.ndim ≠ 0) ∧
    ((some (fitShape good) : Tbl).isSome = true ↔ ({ ndim := 2 } : PsV.Lifecycle.Tab).ndim ≠ 0) ∧
    (PsV.Lifecycle.fit PsV.Lifecycle.Cfg.head PsV.Lifecycle.Tab.empty none (toLifecycle good .done)).res = .ok :=
  ⟨good_wf, good_noWrap, by decide +kernel, by decide +kernel, by decide +kernel, by decide +kernel⟩

/-! The sanity block checks shapes, not well-posedness.  `UnderdeterminedB a` (no smoothing in any dimension, fewer data
points than coefficients) is a decidable class of argument tuples that the sanity block accepts although the normal
matrix `BᵀWB` of *every* numerical fit problem of that shape is singular — the precondition "positive definite" of
C09's `C09_fit_is_minimiser` / of `cholesky_solve` fails whatever the knots, abscissae, weights and data are.  What
the code then does is not an argument error (observed: `cholesky_solve` returns non-finite or arbitrary coefficients
with status 0; `fit` reports success) and belongs to C09/C10; if the solver does report failure, the table is empty
again (`entry_solver_failure_leaves_empty`). -/

section wellposed
open PsV.NormalEq
variable {α : Type} [Field α] [LinearOrder α] [IsStrictOrderedRing α] [A : Arith α] [L : LawfulArith α]

/-- What ties a numerical fit problem (C09's `FitProblem`) to an argument tuple: as many data rows, as many coefficients,
    and no smoothing strength other than 0 where `a` has none. -/
structure InstanceOf (P : FitProblem α) (a : Args) : Prop where
  rows : P.rows.size = a.data.rows
  ncoef : P.ncoef = ncoeffs a
  smooth : (∀ i, i < a.data.ndim → a.smoothAt i = false) → ∀ l ∈ P.smooth, l = 0

/-- **underdetermined_not_wellposed.**  For every numerical instance of an `UnderdeterminedB` argument tuple the
    normal matrix is not positive definite. -/
theorem underdetermined_not_wellposed (a : Args) (hu : UnderdeterminedB a = true) (P : FitProblem α)
    (hP : InstanceOf P a) (hw : ∀ r < P.rows.size, 0 ≤ rowW P r) : ¬ PosDef P.ncoef (Mf P) := by
  simp only [UnderdeterminedB, Bool.and_eq_true, List.all_eq_true, List.mem_range, Bool.not_eq_true',
    decide_eq_true_eq] at hu
  -- the sign of the weights plays no role (`underdetermined_not_posDef` has no such hypothesis)
  have _ := hw
  exact underdetermined_not_posDef P (hP.smooth hu.1) (by rw [hP.rows, hP.ncoef]; exact hu.2)

end wellposed

/-- `wUnder` is consistent, within the size condition, accepted, and `fit` builds the table when the solver reports
    success. -/
theorem accepted_underdetermined_exists :
    fitChecks repaired wUnder = .ok ∧ NoWrapB wUnder = true ∧ UnderdeterminedB wUnder = true ∧
    fitEntry repaired head wUnder .done none = (.ok, some (fitShape wUnder)) := by decide +kernel

/-- non-vacuity: C09's example problem without smoothing, cut down to its first data row, is an instance of `wUnder` -/
example : InstanceOf ({ PsV.exP0 with rows := #[⟨[0], 1, 1⟩] } : PsV.FitProblem Rat) wUnder ∧
    (∀ r < ({ PsV.exP0 with rows := #[⟨[0], 1, 1⟩] } : PsV.FitProblem Rat).rows.size,
      0 ≤ PsV.rowW ({ PsV.exP0 with rows := #[⟨[0], 1, 1⟩] } : PsV.FitProblem Rat) r) := by
  refine ⟨⟨rfl, by decide, fun _ l hl => ?_⟩, fun r hr => ?_⟩
  · simp [PsV.exP0, PsV.exP] at hl; exact hl
  · have : r = 0 := by simp at hr; omega
    subst this; decide +kernel

end PsV.Fit
