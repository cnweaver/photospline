import PsV.Proofs.LifecycleWorld
/-!
# C20 — a table object stays valid and leak-free across any history, even failed calls

The theorems are about `PsV.Lifecycle.step` / `run`, the definitions the driver
executes.  Histories are arbitrary `List Op` (unbounded length, any number of object slots, operations
on dead slots are skipped) over the whole modelled API — default / file / stacking construction, read,
fit, key edits, convolve, permute, move construction / assignment, comparison, write, destruction —;
the environment `cd` is an arbitrary position of one injected `std::bad_alloc`, and read, GLAM and output
failures are arbitrary arguments of the operations.

Three layers:
* `Cfg.repaired` (every fix in force, C20-1 … C20-15, C16-4): the full property for all histories
  (`C20_ownership_inv` … `C20_no_undefined_behaviour`).
* any `Cfg` (`C20_anyCfg_*`): the invariant, absence of undefined behaviour and "failed ⇒ unchanged or empty"
  hold for every call issued in the circumstances `SafeCall c w op` — for each repair, either it is in
  force or the call does not run into the defect it repairs.  This covers every operation for the
  snapshot `Cfg.asIs` (`C20_asIs_partial` is the corollary for the harmless operations) and for `Cfg.head`.
* `Cfg.head` (what the driver runs by default: C20-1 … C20-12 in force, the three repairs of the stacking
  constructor C20-13 … C20-15 not; /repo has all fifteen): equal to `Cfg.repaired` on every history
  without a stacking constructor (`C20_head_eq_repaired`), and with it everything but the `extents` clause
  as long as its arguments are usable and no allocation fails inside it (`C20_head_*`).

The `asIs_*` / `head_*` witness theorems are decided counterexamples, one per defect, keyed by the
minimal failing history.
-/
namespace PsV
open Lifecycle

/-- Every world reachable from nothing by any history under any single allocation failure. -/
def C20.reach (cd : Option Nat) (ops : List Op) : World := run Cfg.repaired (World.init cd) ops

/-- **ownership_inv**: in every reachable world every live table satisfies `ndim = 0 ⇒ nothing owned`,
    `ndim ≠ 0 ⇒ all arrays owned` (and is not half-built) — after every operation, failed or not. -/
theorem C20_ownership_inv (cd : Option Nat) (ops : List Op) (t : Tab)
    (h : some t ∈ (C20.reach cd ops).objs) : t.Own :=
  ((reach_inv cd ops).live t h).toOwn

/-- Companion of `ownership_inv` on the allocator side: what the allocator has handed out to a live
    table and not got back is exactly the blocks the table owns; nothing was released twice. -/
theorem C20_ledger_balanced (cd : Option Nat) (ops : List Op) (t : Tab)
    (h : some t ∈ (C20.reach cd ops).objs) : t.ledger.Perm t.blocks ∧ t.bad = 0 :=
  ⟨((reach_inv cd ops).live t h).ledger, ((reach_inv cd ops).live t h).bad⟩

/-- **ledger_empty_after_destroy**: every object whose lifetime has ended (destructor, failed
    constructor, the temporary inside move assignment) left an empty ledger with no bad release, and
    destroying any object that is still alive leaves an empty ledger too: all memory obtained from
    the allocator is returned exactly once. -/
theorem C20_ledger_empty_after_destroy (cd : Option Nat) (ops : List Op) :
    (∀ r ∈ (C20.reach cd ops).retired, r = ([], 0)) ∧
    (∀ t, some t ∈ (C20.reach cd ops).objs → (destroy t).1.ledger = [] ∧ (destroy t).1.bad = 0) ∧
    (∀ r ∈ (destroyAll Cfg.repaired (C20.reach cd ops)).retired, r = ([], 0)) :=
  ⟨(reach_inv cd ops).dead,
   fun t h => Prod.mk.inj (destroy_spec ((reach_inv cd ops).live t h).toInvX),
   (run_inv (reach_inv cd ops) _).dead⟩

theorem onTab_get {w : World} {i : Nat} {t : Tab} (f : Tab → Option Nat → Out) (h : w.get i = some t) :
    (onTab w i f).w.get i = some (f t w.cd).tab ∧ (onTab w i f).res = (f t w.cd).res := by
  unfold onTab
  rw [h]
  exact ⟨World.get_put_same w i _, rfl⟩

/-- **anyCfg_step**: whatever the configuration, a call issued in the circumstances `SafeCall c w op` keeps
    every table destructible and leak-free (`InvX`: ownership without the `extents` clause, balanced ledger,
    dead objects returned everything), has no undefined behaviour, and keeps the full invariant `Inv` unless it is
    the stacking constructor without C20-13. -/
theorem C20_anyCfg_step (c : Cfg) (w : World) (op : Op) (h : w.InvX) (hs : SafeCall c w op) :
    (step c w op).w.InvX ∧ (step c w op).res ≠ .crash ∧
    (w.Inv → c.stackExtents = true ∨ op.isStack = false → (step c w op).w.Inv) :=
  ⟨(step_ok c h op hs).inv, (step_ok c h op hs).nocrash,
   fun hi he => (step_ok c h op hs).inv.toInv ((step_ok c h op hs).ext hi.allExt he)⟩

/-- **anyCfg_history**: the same along a whole history all of whose calls are safe where they are issued. -/
theorem C20_anyCfg_history (c : Cfg) (w : World) (ops : List Op) (h : w.InvX) (hs : SafeHist c w ops) :
    (run c w ops).InvX ∧
    (∀ pre op post, ops = pre ++ op :: post → (step c (run c w pre) op).res ≠ .crash) ∧
    (w.Inv → (c.stackExtents = true ∨ ∀ op ∈ ops, op.isStack = false) → (run c w ops).Inv) :=
  ⟨run_invX c ops h hs, fun pre op post e => run_nocrash c ops pre op post h hs e, fun hi he => run_inv_of c ops hi hs he⟩

/-- **anyCfg_failed_op_unchanged_or_empty**: whatever the configuration, a safe call on a table that throws
    leaves that table unchanged or empty. -/
theorem C20_anyCfg_failed_op_unchanged_or_empty (c : Cfg) {w : World} (h : w.InvX) (op : Op) (i : Nat) (t : Tab)
    (hop : op.target = some i) (hget : w.get i = some t) (hs : SafeCall c w op)
    (hthrew : (step c w op).res = .threw) :
    ∃ t', (step c w op).w.get i = some t' ∧ (t'.shape = t.shape ∨ t'.isEmpty = true) := by
  have hinv : t.InvX := h.live t (World.get_mem hget)
  have key : ∀ f : Tab → Option Nat → Out, Spec t (f t w.cd) → (onTab w i f).res = .threw →
      ∃ t', (onTab w i f).w.get i = some t' ∧ (t'.shape = t.shape ∨ t'.isEmpty = true) := by
    intro f hsp hr
    obtain ⟨h1, h2⟩ := onTab_get f hget
    exact ⟨_, h1, hsp.threw (h2 ▸ hr)⟩
  obtain ⟨f, e, hf⟩ := target_spec c w hop
  rw [e] at hthrew ⊢
  exact key f (hf t hget hinv hs) hthrew

/-- hypotheses of the three `anyCfg` theorems, for the snapshot: a fitted table; `read` into it is safe (it is refused)
    and throws; `fit` on it is not safe (C20-2) -/
example : (run Cfg.asIs (World.init none) [.construct 0, .fit 0 ⟨true, true, [⟨2, 8, 5⟩]⟩]).InvX :=
  (C20_anyCfg_history Cfg.asIs _ _ (World.init_inv none).toInvX (safeHistB_sound (by decide +kernel))).1
example : SafeCall Cfg.asIs (run Cfg.asIs (World.init none) [.construct 0, .fit 0 ⟨true, true, [⟨2, 8, 5⟩]⟩])
    (.read 0 ⟨0, 0, [⟨2, 8, 5⟩], true, []⟩) := safeCallB_sound (by decide +kernel)
example : (step Cfg.asIs (run Cfg.asIs (World.init none) [.construct 0, .fit 0 ⟨true, true, [⟨2, 8, 5⟩]⟩])
    (.read 0 ⟨0, 0, [⟨2, 8, 5⟩], true, []⟩)).res = .threw := by decide +kernel
example : safeCallB Cfg.asIs (run Cfg.asIs (World.init none) [.construct 0, .fit 0 ⟨true, true, [⟨2, 8, 5⟩]⟩])
    (.fit 0 ⟨true, true, [⟨2, 8, 5⟩]⟩) = false := by decide +kernel

/-- **safeCall_repaired**: with every repair in force no circumstance is excluded: in a world whose tables satisfy
    the invariant every call is safe.  (So the `anyCfg` theorems specialise to the `Cfg.repaired` theorems.) -/
theorem C20_safeCall_repaired (w : World) (h : w.Inv) (op : Op) : SafeCall Cfg.repaired w op :=
  safeCall_repaired h.allExt op

example : (World.init (some 3)).Inv := World.init_inv _

/-- **stack_sources_untouched**: whatever the configuration and however it ends, the stacking constructor changes
    no object other than the one it constructs. -/
theorem C20_stack_sources_untouched (c : Cfg) (w : World) (i : Nat) (srcs : List Nat) (order : Nat) (j : Nat) (hj : i ≠ j) :
    (step c w (.stack i srcs order)).w.get j = w.get j := by
  simp only [step]
  cases w.get i with
  | some _ => rfl
  | none =>
    cases srcs.mapM w.get with
    | none => rfl
    | some ts => exact stack_get_ne c w ts order hj

/-- **failed_op_unchanged_or_empty**: in a reachable world, an operation on a table that throws
    (invalid argument, I/O failure, allocation failure, failed fit) leaves that table with its abstract
    state unchanged, or empty; and no operation has undefined behaviour (`C20_no_undefined_behaviour`). -/
theorem C20_failed_op_unchanged_or_empty (cd : Option Nat) (ops : List Op) (op : Op) (i : Nat) (t : Tab)
    (hop : op.target = some i) (hget : (C20.reach cd ops).get i = some t)
    (hthrew : (step Cfg.repaired (C20.reach cd ops) op).res = .threw) :
    ∃ t', (step Cfg.repaired (C20.reach cd ops) op).w.get i = some t' ∧
      (t'.shape = t.shape ∨ t'.isEmpty = true) :=
  C20_anyCfg_failed_op_unchanged_or_empty Cfg.repaired (reach_inv cd ops).toInvX op i t hop hget
    (C20_safeCall_repaired _ (reach_inv cd ops) op) hthrew

/-- **no_undefined_behaviour**: no call of any history has undefined behaviour (null dereference, out-of-bounds
    write, double free — `Res.crash` in the model), whatever its arguments and whichever allocation fails. -/
theorem C20_no_undefined_behaviour (cd : Option Nat) (ops : List Op) (op : Op) :
    (step Cfg.repaired (C20.reach cd ops) op).res ≠ .crash :=
  (step_ok Cfg.repaired (reach_inv cd ops).toInvX op (C20_safeCall_repaired _ (reach_inv cd ops) op)).nocrash

/-- **moved_from_empty**: after move construction or move assignment from a different object the
    source is the empty table (`ndim = 0`, nothing owned, empty ledger). -/
theorem C20_moved_from_empty (w : World) (i j : Nat) (hij : i ≠ j) :
    ((step Cfg.repaired w (.moveConstruct i j)).done = true →
      (step Cfg.repaired w (.moveConstruct i j)).w.get j = some Tab.empty) ∧
    ((step Cfg.repaired w (.moveAssign i j)).done = true →
      (step Cfg.repaired w (.moveAssign i j)).w.get j = some Tab.empty) :=
  moved_from_empty Cfg.repaired rfl w i j hij

/-- **failing_read_any_stage**: with the read guard in force (C07 / C20-11; `Cfg.repaired` and `Cfg.head` have it), a read
    into an empty table which fails at ANY stage of `read_fits_core` — before `ndim` is assigned (`kind = 1`: open, first
    HDU, dimension count), at the `ORDERi` keys (2), at the size of the coefficient image (4), at the coefficient pixels
    (5: e.g. a file cut short inside the primary data), at the header / size (3) or the data (6) of any knot vector, at
    the extents data (7) — and under any position of an injected allocation failure: throws, leaves the abstract state
    of the table as it was (empty), and has returned every block it obtained exactly once (`InvX`: ledger = blocks
    owned = nothing, no bad release).  The failure stages of the model are failures indeed (not silently successful). -/
theorem C20_failing_read_any_stage (c : Cfg) (hg : c.readGuard = true) (t : Tab) (cd : Option Nat) (f : FileDesc)
    (h : t.InvX) (h0 : t.ndim = 0) (hs : c.readAuxExact = true ∨ ∀ e ∈ f.aux, e.stored = e.raw)
    (hf : f.kind = 1 ∨ f.failsLate) :
    (Lifecycle.read c t cd f).res = .threw ∧ (Lifecycle.read c t cd f).tab.shape = t.shape ∧ (Lifecycle.read c t cd f).tab.InvX ∧
      (Lifecycle.read c t cd f).tab.ledger = [] := by
  have hspec := read_spec c t cd f h (Or.inr ⟨Or.inl hg, hs⟩)
  have key := read_fails c hg t cd f h0 hf
  exact ⟨key.1, key.2, hspec.inv, hspec.inv.ledger_nil ((congrArg Prod.fst key.2).trans h0)⟩

/-- the hypotheses are satisfiable: a two-dimensional file with a key whose value changes size, every failing stage
    (for the per-knot-vector stages: both dimensions), the empty table, an allocation failure before the stage -/
example : ∀ f ∈ ([(1, 0), (2, 0), (3, 0), (3, 1), (4, 0), (5, 0), (6, 0), (6, 1), (7, 0)].map fun ka =>
    (⟨ka.1, ka.2, [⟨2, 8, 5⟩, ⟨1, 6, 4⟩], true, [⟨7, 4, 11, 9⟩]⟩ : FileDesc)), f.kind = 1 ∨ f.failsLate := by decide +kernel
example : Tab.empty.InvX ∧ Tab.empty.ndim = 0 := ⟨Tab.empty_invX, rfl⟩
/-- what the stages look like on that file, no allocation failure: the coefficient stage (5) obtains 14 blocks (aux store 4 and
    the raw value block exchanged for the exact one, order, periods, knots, nknots, extents 2, naxes, strides, coefficients:
    15 events) and returns the 13 it still holds; stage 6 of dimension 1
    has also obtained both knot vectors -/
example : ((read Cfg.repaired Tab.empty none ⟨5, 0, [⟨2, 8, 5⟩, ⟨1, 6, 4⟩], true, [⟨7, 4, 11, 9⟩]⟩).evs.length,
           (read Cfg.repaired Tab.empty none ⟨6, 1, [⟨2, 8, 5⟩, ⟨1, 6, 4⟩], true, [⟨7, 4, 11, 9⟩]⟩).evs.length,
           (read Cfg.repaired Tab.empty none ⟨4, 0, [⟨2, 8, 5⟩, ⟨1, 6, 4⟩], true, [⟨7, 4, 11, 9⟩]⟩).evs.length,
           (read Cfg.repaired Tab.empty (some 9) ⟨5, 0, [⟨2, 8, 5⟩, ⟨1, 6, 4⟩], true, [⟨7, 4, 11, 9⟩]⟩).res) =
          (28, 32, 22, Res.threw) := by decide +kernel


namespace C20
def d1 : List Dim := [⟨2, 8, 5⟩]
def d2 : List Dim := [⟨2, 8, 5⟩, ⟨1, 6, 4⟩]
def fit1 : FitArgs := ⟨true, true, d1⟩
def file2 : FileDesc := ⟨0, 0, d2, true, [⟨7, 4, 11, 9⟩]⟩
def badFile : FileDesc := ⟨3, 1, d2, true, [⟨7, 4, 11, 9⟩]⟩
def key1 : KeyArg := ⟨0, 1, 4, 4⟩
/-- read, edit keys, convolve, permute, move, compare, write (one hitting an I/O error), stack, a fit whose GLAM
    step fails, destroy; with `cd = some 29` the 30th allocation fails inside convolve -/
def hist : List Op :=
  [.construct 0, .read 0 file2, .writeKey 0 key1, .writeKey 0 ⟨0, 1, 4, 9⟩, .removeKey 0 7, .construct 1,
   .fit 1 fit1, .read 1 file2, .permute 0 [1, 0], .convolve 0 1 2, .moveAssign 1 0, .moveConstruct 2 1,
   .compare 0 1, .read 0 badFile, .writeFits 2 true, .writeFits 2 false, .stack 3 [2, 2, 2] 2,
   .fit 0 ⟨true, false, d1⟩, .destroy 2]
/-- three fitted tables stacked, the result used and destroyed -/
def stackHist : List Op :=
  [.construct 0, .fit 0 fit1, .construct 1, .fit 1 fit1, .stack 2 [0, 1, 0] 2, .writeFits 2 true, .destroy 0, .destroy 1]
end C20

example : (C20.reach none C20.hist).okB = true := (reach_inv _ _).okB
example : (C20.reach (some 29) C20.hist).okB = true := (reach_inv _ _).okB
example : ((C20.reach none C20.hist).objs.map (Option.map Tab.ndim)) = [some 0, some 0, none, some 3] := by decide +kernel
example : (C20.reach none C20.hist).retired.length = 4 := by decide +kernel
/-- a throwing call that leaves the table unchanged (read into a populated table) and one that empties it
    (allocation failure inside convolve) -/
example : (step Cfg.repaired (C20.reach none [.construct 0, .read 0 C20.file2]) (.read 0 C20.file2)).res = .threw := by decide +kernel
example : (step Cfg.repaired (C20.reach (some 16) [.construct 0, .read 0 C20.file2]) (.convolve 0 0 2)).res = .threw ∧
    ((step Cfg.repaired (C20.reach (some 16) [.construct 0, .read 0 C20.file2]) (.convolve 0 0 2)).w.get 0).map Tab.isEmpty = some true := by decide +kernel
example : (step Cfg.repaired (C20.reach none [.construct 0, .read 0 C20.file2]) (.moveConstruct 1 0)).done = true := by decide +kernel
/-- a fit whose GLAM step fails and a write hitting an I/O error throw and leave the table as it was -/
example : (step Cfg.repaired (C20.reach none [.construct 0]) (.fit 0 ⟨true, false, C20.d1⟩)).res = .threw ∧
    ((step Cfg.repaired (C20.reach none [.construct 0]) (.fit 0 ⟨true, false, C20.d1⟩)).w.get 0).map Tab.isEmpty = some true := by decide +kernel
example : (step Cfg.repaired (C20.reach none [.construct 0, .read 0 C20.file2]) (.writeFits 0 false)).res = .threw := by decide +kernel
/-- the stacking constructor: completing; with each of the first 26 of its 28 allocations failing in turn; with unusable arguments -/
example : (C20.reach none C20.stackHist).okB = true ∧
    ((C20.reach none C20.stackHist).objs.map (Option.map Tab.ndim)) = [none, none, some 2] :=
  ⟨(reach_inv _ _).okB, by decide +kernel⟩
example : ∀ k ∈ List.range 26, (run Cfg.repaired (C20.reach none (C20.stackHist.take 4)) [.stack 2 [0, 1, 0] 2]).okB = true ∧
    (step Cfg.repaired { C20.reach none (C20.stackHist.take 4) with cd := some k } (.stack 2 [0, 1, 0] 2)).res = .threw :=
  fun k hk => ⟨(run_inv (reach_inv _ _) _).okB, (by decide +kernel : ∀ k ∈ List.range 26,
    (step Cfg.repaired { C20.reach none (C20.stackHist.take 4) with cd := some k } (.stack 2 [0, 1, 0] 2)).res = .threw) k hk⟩
example : (step Cfg.repaired (C20.reach none [.construct 0]) (.convolve 0 0 2)).res = .threw := by decide +kernel
example : (step Cfg.repaired (C20.reach none [.construct 0, .read 0 C20.file2]) (.stack 1 [0] 2)).res = .threw := by decide +kernel
/-- `SafeHist` is satisfiable for the snapshot by a history which uses every operation excluded from `C20.harmless`
    (and is then kept by `C20_anyCfg_history`) -/
example : SafeHist Cfg.asIs (World.init none)
    [.construct 0, .fit 0 C20.fit1, .writeKey 0 C20.key1, .removeKey 0 1, .convolve 0 0 2, .permute 0 [0], .construct 1,
     .read 1 ⟨0, 0, C20.d2, true, [⟨7, 4, 9, 9⟩]⟩, .compare 0 1, .moveAssign 0 1, .constructFile 2 ⟨0, 0, C20.d1, true, []⟩,
     .destroy 0] := safeHistB_sound (by decide +kernel)

/-! The full statements above are FALSE for the snapshot `Cfg.asIs` (decided witnesses, one per defect, keyed by the minimal
history); what holds for it is `C20_anyCfg_step` with `SafeCall Cfg.asIs` (and its corollary `C20_asIs_partial`) below. -/

def C20.asIs (cd : Option Nat) (ops : List Op) : World := run Cfg.asIs (World.init cd) ops

/-- `write_key` on an empty table allocates aux storage the destructor never releases (fix C20-1) -/
theorem C20_asIs_write_key_on_empty :
    (C20.asIs none [.construct 0, .writeKey 0 C20.key1]).okB = false ∧
    (C20.asIs none [.construct 0, .writeKey 0 C20.key1, .destroy 0]).retired = [([4, 4, 16, 8], 0)] := by decide +kernel

/-- `fit` on a populated table overwrites every pointer: the old arrays are never released (fix C20-2) -/
theorem C20_asIs_fit_on_populated :
    (C20.asIs none [.construct 0, .fit 0 C20.fit1, .fit 0 C20.fit1, .destroy 0]).retired ≠ [([], 0)] := by decide +kernel

/-- an allocation failure inside `fit` leaves `ndim ≠ 0` with null arrays: the destructor crashes (fix C20-3) -/
theorem C20_asIs_fit_alloc_failure :
    ((C20.asIs (some 3) [.construct 0, .fit 0 C20.fit1]).get 0).map Tab.broken = some true := by decide +kernel

/-- a GLAM failure leaves a populated table behind a throwing call (fix C20-3) -/
theorem C20_asIs_fit_glam_failure :
    ((C20.asIs none [.construct 0, .fit 0 ⟨true, false, C20.d1⟩]).get 0).map Tab.ndim = some 1 := by decide +kernel

/-- an allocation failure inside `convolve` (after the old arrays are released) leaves dangling pointers (fix C20-4) -/
theorem C20_asIs_convolve_alloc_failure :
    ((C20.asIs (some 15) [.construct 0, .read 0 C20.file2, .convolve 0 0 2]).get 0).map Tab.broken = some true := by decide +kernel

/-- `convolve` on an empty table dereferences null (fix C20-5) -/
theorem C20_asIs_convolve_on_empty :
    (step Cfg.asIs (C20.asIs none [.construct 0]) (.convolve 0 0 2)).res = .crash := by decide +kernel

/-- an allocation failure inside `remove_key` leaves `aux` dangling and the other entries unreachable (fix C20-6) -/
theorem C20_asIs_remove_key_alloc_failure :
    ((C20.asIs (some 13) [.construct 0, .fit 0 C20.fit1, .writeKey 0 C20.key1, .removeKey 0 1]).get 0).map Tab.broken = some true := by decide +kernel

/-- `operator==` on two empty tables reads through null (fix C20-7) -/
theorem C20_asIs_compare_empty :
    (step Cfg.asIs (C20.asIs none [.construct 0, .construct 1]) (.compare 0 1)).res = .crash := by decide +kernel

/-- `permuteDimensions({})` on an empty table writes into zero-length arrays (fix C20-8) -/
theorem C20_asIs_permute_empty :
    (step Cfg.asIs (C20.asIs none [.construct 0]) (.permute 0 [])).res = .crash := by decide +kernel

/-- an aux value read from a file is released with a size different from the one it was allocated with (fix C20-9) -/
theorem C20_asIs_read_aux_size :
    (C20.asIs none [.construct 0, .read 0 C20.file2, .destroy 0]).retired = [([11], 1)] := by decide +kernel

/-- move assignment swaps: the moved-from table holds the target's old contents (fix C20-10) -/
theorem C20_asIs_move_assign_not_empty :
    ((step Cfg.asIs (C20.asIs none [.construct 0, .fit 0 C20.fit1, .construct 1, .fit 1 C20.fit1]) (.moveAssign 0 1)).w.get 1).map Tab.ndim = some 1 := by decide +kernel

/-- a failed read after `ndim` is assigned leaves a half-built table (C07 guard / C20-11) -/
theorem C20_asIs_read_failure :
    ((C20.asIs none [.construct 0, .read 0 C20.badFile]).get 0).map Tab.broken = some true := by decide +kernel


/-- the stacking constructor never deletes the two padding tables it makes: 2 × 9 blocks stay allocated (fix C20-12) -/
theorem C20_asIs_stack_leaks_paddings :
    (C20.asIs none C20.stackHist).retired.map (fun r => r.1.length) = [0, 0, 9, 9] := by decide +kernel

/-- What does hold for the snapshot without looking at the circumstances (`_partial`): histories made only of
    default construction, move construction, reading keys, writing files and destruction keep every invariant.

    **Excluded** from `harmless`, each because of the defect named (the decided witnesses above), and what
    `SafeCall Cfg.asIs` demands of a call instead (`C20_asIs_safeCall`):
    * `constructFile`, `read` — a failed read leaves a half-built table / leaks (C20-11); aux values are released
      with another size than allocated (C20-9).  Safe when the read runs to its end and no aux value changes size.
    * `fit` — on a populated table leaks it (C20-2); failure leaves a half-built table (C20-3).  Safe on an empty
      table when no allocation and not GLAM fails (or the arguments are refused).
    * `writeKey` — on an empty table leaks (C20-1).  Safe on a populated table (or when the key is refused).
    * `removeKey` — allocation failure leaves `aux` dangling (C20-6).  Safe when the allocation succeeds or the key is absent.
    * `convolve` — bad dimension / empty kernel dereferences null (C20-5), allocation failure leaves dangling
      pointers (C20-4).  Safe with arguments in range and no allocation failure.
    * `permute` — `permuteDimensions({})` on an empty table overflows (C20-8).  Safe on a populated table or with a refused permutation.
    * `compare` — two empty tables: null dereference (C20-7).  Safe when one of them is populated.
    * `moveAssign` — keeps the invariant (always safe); what fails is `moved_from_empty` (C20-10).
    * `stack` — leaks its paddings when it completes (C20-12), leaks what it had obtained when an allocation fails
      (C20-14), undefined behaviour on unusable arguments (C20-15): never safe, since with usable arguments it either
      completes or is hit by an allocation failure (`C20_asIs_stack_never_safe`). -/
def C20.harmless : Op → Bool
  | .construct _ | .moveConstruct _ _ | .getKey _ _ | .writeFits _ _ | .destroy _ => true
  | _ => false

theorem C20_asIs_partial (w : World) (h : w.Inv) (op : Op) (hop : C20.harmless op = true) :
    (step Cfg.asIs w op).w.Inv := by
  have : SafeCall Cfg.asIs w op ∧ op.isStack = false := by
    cases op with
    | construct | moveConstruct | getKey | writeFits | destroy => exact ⟨trivial, rfl⟩
    | _ => cases hop
  exact (C20_anyCfg_step Cfg.asIs w op h.toInvX this.1).2.2 h (Or.inr this.2)

example : (run Cfg.asIs (World.init none) [.construct 0, .moveConstruct 1 0, .getKey 1 3, .writeFits 1 false, .destroy 1]).okB = true := by decide +kernel

/-- **asIs_safeCall**: what `SafeCall` demands of the operations excluded from `harmless` in the snapshot, spelled
    out (sufficient conditions in terms of the arguments and of `Completes`, the program running to its end). -/
theorem C20_asIs_safeCall (w : World) :
    (∀ i j, SafeCall Cfg.asIs w (.moveAssign i j)) ∧
    (∀ i f, Completes w.cd (readSteps Cfg.asIs f) → (∀ e ∈ f.aux, e.stored = e.raw) →
      SafeCall Cfg.asIs w (.read i f) ∧ SafeCall Cfg.asIs w (.constructFile i f)) ∧
    (∀ i a, (∀ t, w.get i = some t → t.ndim = 0) → Completes w.cd (fitSteps a) → SafeCall Cfg.asIs w (.fit i a)) ∧
    (∀ i a, (∀ t, w.get i = some t → t.ndim ≠ 0) → SafeCall Cfg.asIs w (.writeKey i a)) ∧
    (∀ i id, (∀ t, w.get i = some t → Completes w.cd [.a (8 * (t.aux.length - 1))]) → SafeCall Cfg.asIs w (.removeKey i id)) ∧
    (∀ i dim nk, (∀ t, w.get i = some t → dim < t.ndim ∧ nk ≠ 0 ∧ t.noExtents = false ∧ Completes w.cd (convSteps t dim nk)) →
      SafeCall Cfg.asIs w (.convolve i dim nk)) ∧
    (∀ i p, (∀ t, w.get i = some t → t.ndim ≠ 0 ∧ t.noExtents = false) → SafeCall Cfg.asIs w (.permute i p)) ∧
    (∀ i j, (∀ t, w.get i = some t → t.ndim ≠ 0) → SafeCall Cfg.asIs w (.compare i j)) := by
  refine ⟨fun _ _ => trivial, fun i f hc he => ⟨fun t _ => Or.inr ⟨Or.inr hc, Or.inr he⟩, fun _ => ⟨Or.inr hc, Or.inr he⟩⟩,
    fun i a h0 hc t ht => ⟨Or.inr (Or.inl (h0 t ht)), Or.inr hc⟩, fun i a h0 t ht => Or.inr (Or.inl (h0 t ht)),
    fun i id hc t ht => Or.inr (Or.inr (hc t ht)), fun i dim nk hc t ht => ?_, fun i p hc t ht => ?_,
    fun i j h0 t s ht _ => Or.inr (Or.inl (h0 t ht))⟩
  · obtain ⟨h1, h2, h3, h4⟩ := hc t ht
    exact ⟨Or.inr ⟨h1, h2⟩, Or.inl h3, Or.inr h4⟩
  · obtain ⟨h1, h2⟩ := hc t ht
    exact ⟨Or.inr (Or.inl h1), Or.inl h2⟩

/-- in the snapshot the stacking constructor is never safe for usable arguments: it leaks its paddings when it
    completes and whatever it had obtained when an allocation fails -/
theorem C20_asIs_stack_never_safe (cd : Option Nat) (ts : List Tab) (order : Nat) (hv : stackValid ts = true) :
    ¬ StackSafe Cfg.asIs cd ts order := by
  intro ⟨_, h⟩
  obtain ⟨h1, h2⟩ := h hv
  have hc := h1.resolve_left (by decide)
  exact (h2.resolve_left (by decide)) hc

example : stackValid [{ ndim := 1, dims := [⟨2, 8, 5⟩], core := true }, { ndim := 1, dims := [⟨2, 8, 5⟩], core := true }] = true := by decide +kernel

/-! `Cfg.head`, what the driver runs by default: C20-1 … C20-12 in force, the three repairs of the stacking constructor
(fixes/C20-13 … C20-15) not.  Witnesses of the three defects, then what holds. -/

def C20.head (cd : Option Nat) (ops : List Op) : World := run Cfg.head (World.init cd) ops

/-- the table made by the stacking constructor has no `extents` arrays (`extents == NULL`, `ndim ≠ 0`): the ownership
    invariant fails (fix C20-13) … -/
theorem C20_head_stack_no_extents :
    ((C20.head none C20.stackHist).get 2).map Tab.noExtents = some true ∧ (C20.head none C20.stackHist).okB = false ∧
    (C20.head none C20.stackHist).okXB = true := by decide +kernel

/-- … and `permuteDimensions` / `convolve` on it read through the null pointer -/
theorem C20_head_stack_then_permute_or_convolve :
    (step Cfg.head (C20.head none C20.stackHist) (.permute 2 [1, 0])).res = .crash ∧
    (step Cfg.head (C20.head none C20.stackHist) (.convolve 2 0 3)).res = .crash := by decide +kernel

/-- an allocation failure inside the stacking constructor (here: the 20th of its 26 allocations) leaks what the three
    objects had obtained: 9 + 9 + 1 blocks (fix C20-14) -/
theorem C20_head_stack_alloc_failure :
    (step Cfg.head { C20.head none (C20.stackHist.take 4) with cd := some 19 } (.stack 2 [0, 1, 0] 2)).res = .threw ∧
    ((step Cfg.head { C20.head none (C20.stackHist.take 4) with cd := some 19 } (.stack 2 [0, 1, 0] 2)).w.retired.map
      (fun r => r.1.length)) = [9, 9, 1] := by decide +kernel

/-- a single table, an empty table among the inputs, tables of different shapes: undefined behaviour (the arguments are
    examined by `assert` only, and not all of these by any; fix C20-15) -/
theorem C20_head_stack_unusable_arguments :
    (step Cfg.head (C20.head none (C20.stackHist.take 4)) (.stack 2 [0] 2)).res = .crash ∧
    (step Cfg.head (C20.head none (C20.stackHist.take 4 ++ [.construct 3])) (.stack 2 [0, 3, 1] 2)).res = .crash ∧
    (step Cfg.head (C20.head none (C20.stackHist.take 4 ++ [.convolve 1 0 2])) (.stack 2 [0, 1, 0] 2)).res = .crash := by decide +kernel

/-- **head_eq_repaired**: on every operation but the stacking constructor `Cfg.head` is `Cfg.repaired` … -/
theorem C20_head_eq_repaired (w : World) (op : Op) (h : op.isStack = false) : step Cfg.head w op = step Cfg.repaired w op :=
  step_stackCfg Cfg.repaired false false false w op h

/-- … so a history without it reaches the same world, and all theorems about `C20.reach` apply to what the driver runs -/
theorem C20_head_reach_eq (cd : Option Nat) (ops : List Op) (h : ∀ op ∈ ops, op.isStack = false) :
    C20.head cd ops = C20.reach cd ops :=
  run_congr _ fun op ho w => C20_head_eq_repaired w op (h op ho)

example : ∀ op ∈ (C20.hist.take 16), op.isStack = false := by decide +kernel

/-- **head_safeCall**: under `Cfg.head` a call is safe unless it is `convolve` / `permuteDimensions` on a table
    without `extents` (and not refused anyway), or a stacking constructor with unusable arguments or hit by the
    injected allocation failure. -/
theorem C20_head_safeCall (w : World) (op : Op)
    (hconv : ∀ i dim nk, op = .convolve i dim nk → ∀ t, w.get i = some t → t.noExtents = false ∨ t.ndim ≤ dim ∨ nk = 0)
    (hperm : ∀ i p, op = .permute i p → ∀ t, w.get i = some t → t.noExtents = false ∨ p.isPerm (List.range t.ndim) = false)
    (hstack : ∀ i srcs order, op = .stack i srcs order → ∀ ts, srcs.mapM w.get = some ts →
      stackValid ts = true ∧ StackCompletes Cfg.head w.cd (ts.headD Tab.empty).dims ts.length order) :
    SafeCall Cfg.head w op :=
  safeCall_of _ rfl w op hconv hperm fun i srcs order e ts hm =>
    ⟨Or.inr (hstack i srcs order e ts hm).1, fun _ => ⟨Or.inr (hstack i srcs order e ts hm).2, Or.inl rfl⟩⟩

/-- **head_invX** (`_partial`: the `extents` clause of the ownership invariant and the unsafe calls are what is
    missing, see the witnesses): along every history of safe calls, under any allocation-failure position, `Cfg.head`
    keeps every table destructible and leak-free, every dead object has returned all memory exactly once —
    including the padding tables of the stacking constructor —, no call has undefined behaviour, and destroying
    everything that is still alive leaves nothing behind. -/
theorem C20_head_invX_partial (cd : Option Nat) (ops : List Op) (hs : SafeHist Cfg.head (World.init cd) ops) :
    (∀ t, some t ∈ (C20.head cd ops).objs → t.OwnX ∧ t.ledger.Perm t.blocks ∧ t.bad = 0) ∧
    (∀ r ∈ (C20.head cd ops).retired, r = ([], 0)) ∧
    (∀ pre op post, ops = pre ++ op :: post → (step Cfg.head (C20.head cd pre) op).res ≠ .crash) ∧
    (∀ r ∈ (destroyAll Cfg.head (C20.head cd ops)).retired, r = ([], 0)) := by
  have h := C20_anyCfg_history Cfg.head (World.init cd) ops (World.init_inv cd).toInvX hs
  refine ⟨fun t ht => ⟨(h.1.live t ht).toOwnX, (h.1.live t ht).ledger, (h.1.live t ht).bad⟩, h.1.dead, h.2.1, ?_⟩
  exact (run_invX Cfg.head _ h.1 (safeHist_destroys Cfg.head _ _)).dead

/-- the stacked table is used, moved and destroyed; the failing stacking constructor of the witness above is not safe -/
example : SafeHist Cfg.head (World.init none) (C20.stackHist ++ [.writeKey 2 C20.key1, .moveConstruct 0 2, .permute 0 [0], .destroy 0]) :=
  safeHistB_sound (by decide +kernel)
example : safeCallB Cfg.head { C20.head none (C20.stackHist.take 4) with cd := some 19 } (.stack 2 [0, 1, 0] 2) = false := by decide +kernel

end PsV
