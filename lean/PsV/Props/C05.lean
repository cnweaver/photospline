import PsV.Proofs.Search
import PsV.Proofs.Reads
/-!
# C05 — lookup and evaluation are memory-safe for every coordinate vector

* `C05_nan_lookup_rejected`: a NaN coordinate (every comparison false) is rejected before any search,
  provided no axis can run out of fuel; for non-NaN coordinates on sorted knots that and the range of the
  centres (`[order, nknots-order-2]`) is `C04_searchCenters`.  The step from the centres C04 returns to
  `CentersInRange` is taken where a concrete table is at hand (`Proofs/FitsEvalBridge`).
* `C05_eval_reads_owned`: for **every** arithmetic — arbitrary comparison outcomes, so NaN, ±inf,
  denormals, anything — and centres in range, the result of `ndsplineeval` / `ndsplineeval_deriv`
  (bitmask derivatives, arbitrary-order derivatives: `evalModes` with any mode list) is unchanged when
  the knot arrays are altered outside `[-order, nknots+order)` and the coefficient array outside
  `[0, ncoef)`: every index passed to `knots[·]` / `coefficients[·]` is inside owned storage
  (`allocate(nknots+2*order)+order`, `ncoef = strides[0]*naxes[0]`).  All loops of the model are
  structural recursions or fuel-bounded (margin loops: `nknots+1` steps), so they terminate.
* `C05_gradient_reads_owned`: the same for every lane of the value-plus-gradient evaluation
  (`ndsplineeval_gradient`); `C05_gradient_rows_read_owned` is the same fact for one dimension's rows;
  `C05_gradient_refused`: more than `maxDim-1` dimensions are refused before any lane is touched.
-/
namespace PsV

/-- NaN in any dimension ⇒ the n-dimensional lookup rejects, it never returns centres. -/
theorem C05_nan_lookup_rejected {α : Type} [Cmp α] :
    ∀ (axes : List (Axis (Option α))) (xs : List (Option α)), axes.length = xs.length → none ∈ xs →
      (∀ a ∈ axes, ∀ x, searchAxis a.order a.nknots a.knots x ≠ .nonterm) →
      searchCenters axes xs = .reject := by
  intro axes xs hl hm hnt
  have hnt' := searchCenters_ne_nonterm id axes xs hnt
  rw [List.map_id] at hnt'
  cases hs : searchCenters axes xs with
  | reject => rfl
  | nonterm => exact absurd hs hnt'
  | ok cs =>
    -- an accepted vector has every coordinate accepted by its axis, and no axis accepts NaN
    rw [← List.map_id axes] at hs
    refine absurd hm (searchCenters_ok_induct id (motive := fun l xs _ => l.length = xs.length → none ∉ xs)
      (fun xs hl => ?_) (fun a l x xs c cs ha _ ih hl => ?_) axes xs cs hs hl)
    · rw [List.eq_nil_of_length_eq_zero hl.symm]; exact List.not_mem_nil
    · cases x with
      | none => rw [searchAxis_nan] at ha; cases ha
      | some v => exact fun h => ih (Nat.succ.inj hl) (by simpa using h)

variable {α : Type} [A : Arith α]

/-- **Evaluation touches only owned memory**, for every coordinate vector and every arithmetic. -/
theorem C05_eval_reads_owned (T T' : Table α) (xs : List α) (cs : List Nat) (ms : List BasisMode)
    (hne : T.dims ≠ []) (hshape : SameShape T.dims T'.dims) (hrm : RowMajor T.dims)
    (hc : CentersInRange T.dims cs) (hx : T.dims.length = xs.length) (hm : T.dims.length = ms.length)
    (hcoef : AgreeOn T.coef T'.coef 0 ((ncoef T.dims : Int) - 1)) :
    evalModes T xs cs ms = evalModes T' xs cs ms :=
  evalModes_owned T T' xs cs ms hshape hrm hc hx hm hcoef

/-- the basis rows of the gradient code read only owned knot storage -/
theorem C05_gradient_rows_read_owned (t t' : Int → α) (nknots : Nat) (x : α) (c n : Nat)
    (hc1 : n ≤ c) (hc2 : c + n + 2 ≤ nknots)
    (h : AgreeOn t t' (-(n : Int)) ((nknots : Int) + n - 1)) :
    bsplineNonzero t nknots x c n = bsplineNonzero t' nknots x c n :=
  bsplineNonzero_congr t t' nknots x c n hc2 h

/-- **The value-plus-gradient evaluation touches only owned memory**, every lane, every arithmetic. -/
theorem C05_gradient_reads_owned (maxDim : Nat) (T T' : Table α) (xs : List α) (cs : List Nat)
    (hne : T.dims ≠ []) (hshape : SameShape T.dims T'.dims) (hrm : RowMajor T.dims)
    (hc : CentersInRange T.dims cs) (hx : T.dims.length = xs.length)
    (hcoef : AgreeOn T.coef T'.coef 0 ((ncoef T.dims : Int) - 1)) :
    ndsplineevalGradient maxDim T xs cs = ndsplineevalGradient maxDim T' xs cs :=
  ndsplineevalGradient_owned maxDim T T' xs cs hshape hrm hc hx hcoef

/-- requests the SIMD layout cannot serve are refused (model of the `throw`) -/
theorem C05_gradient_refused (maxDim : Nat) (T : Table α) (xs : List α) (cs : List Nat)
    (h : T.dims.length + 1 > maxDim) : ndsplineevalGradient maxDim T xs cs = none := by
  simp [ndsplineevalGradient, h]

/-- Non-vacuity of `C05_eval_reads_owned`: a 2-d table (orders 1 and 2) with row-major strides and
centres in range. -/
example : RowMajor ([⟨1, 5, 3, 4, fun _ => A.zero⟩, ⟨2, 7, 4, 1, fun _ => A.zero⟩] : List (Dim α)) ∧
    CentersInRange ([⟨1, 5, 3, 4, fun _ => A.zero⟩, ⟨2, 7, 4, 1, fun _ => A.zero⟩] : List (Dim α)) [2, 3] := by
  refine ⟨⟨rfl, rfl⟩, ⟨by simp, by simp, rfl⟩, ⟨by simp, by simp, rfl⟩, trivial⟩

end PsV
