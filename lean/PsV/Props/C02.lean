import PsV.Proofs.Bridge
import PsV.Proofs.PolyDerivK
import PsV.Proofs.RoundingDeriv
/-!
# C02 — derivative and gradient evaluations

* a derivative along an order-0 dimension is zero: the single-derivative row of the code, and every derivative of
  positive order in the specification (for every arithmetic);
* the value-plus-gradient evaluation uses, lane by lane, exactly the rows of plain / single-derivative
  evaluation, for every arithmetic — so lane 0 is the plain value and lane `1+d` the bitmask
  derivative `1<<d`, bit for bit.
* `C02_mask_eval_eq_spec_partial`: evaluation with any derivative bitmask (single and mixed first
  derivatives) equals the sum over all coefficients of coefficient × Π_d (basis function, or its
  knot-difference derivative formula `n (B_{i,n-1}/(t_{i+n}-t_i) − B_{i+1,n-1}/(t_{i+n+1}-t_{i+1}))` in the
  selected dimensions), with the one-sided convention of C01, over any linearly ordered field.
  That this formula is the derivative of the polynomial piece is `C02_formula_is_derivative`;
  arbitrary-order derivatives (`derivK`, the recursive routine): `C02_deriv_eval_eq_spec_partial`.

**Rounding** (section `rounding`).  Derivative basis values are *differences*
`n·B_{i,n-1}/(t_{i+n}−t_i) − n·B_{i+1,n-1}/(t_{i+n+1}−t_{i+1})`, so the error of a rounded evaluation cannot be
proportional to the derivative itself; it is proportional to the **majorant** `ndsplineevalAbs ⟨dims, |coef|⟩ x c mask`
= `Σ |coef| · Π_d (B_d or Babs_d)`, the code's own formula with the subtraction of the two terms (and the negation in
slot 0) replaced by addition (`PsV.Model.DerivAbs`; `Babs_i = n(B_{i,n-1}/(t_{i+n}−t_i) + B_{i+1,n-1}/(t_{i+n+1}−t_{i+1}))`).
* `C02_deriv_basis_rounding_envelope`: every slot of `bspline_deriv_nonzero` run with any roundings of relative error `ε`
  is within `((1+ε)^(7·order) − 1)·Babs` of the exact slot;
* `C02_rounding_envelope_partial`: `|ndsplineeval@rounded − ndsplineeval@exact| ≤ ((1+ε)^K − 1)·majorant` for **every bitmask**,
  `K = 3 + ndim(7·maxorder+3) + 2·Π(order_d+1)` — the constant of plain evaluation (C01): a derivative row costs `7·order`
  roundings per entry, a value row `7·order + 1`;
* `C02_rounded_deriv_near_spec_partial`: the same against the specification (true derivative, by `C02_mask_eval_eq_spec_partial`
  and `C02_formula_is_derivative`);
* `C02_gradient_rounding_envelope`: every lane of `ndsplineeval_gradient`; `C02_deriv_orders_rounding_envelope_partial`:
  `ndsplineeval_deriv` with all orders ≤ 1;
* `C02_majorant_dominates`, `C02_majorant_mask_zero`, and a concrete evaluation in which majorant = |derivative|: the
  majorant is a genuine, attainable bound.
Partial: restricted by `AllInterior` to points of a knot interval of the fully supported range
(`order ≤ c`, `c+order+2 ≤ nknots`, `knots[c] ≤ x ≤ knots[c+1]`); the partially supported margins (where the recurrences
also produce discarded entries from the padding, handled for values in `Proofs/Rounding.lean`) are not redone for the
derivative combination; arbitrary-order derivatives (`derivK`) and underflow/overflow stay with the measured envelope.
-/
namespace PsV
variable {α : Type} [A : Arith α]

/-- code: the single-derivative basis of an order-0 dimension is the one-element row `[0]` -/
theorem C02_order0_deriv_zero_code (t : Int → α) (nknots : Nat) (x : α) (left : Int) :
    bsplineDerivNonzero t nknots x left 0 = [A.rnd A.zero] := by
  simp [bsplineDerivNonzero]

/-- specification: every derivative of positive order of an order-0 basis function is zero -/
theorem C02_order0_deriv_zero_spec (ind : Int → Bool) (t : Int → α) (x : α) (k : Nat) (i : Int) :
    Dind ind t x (k+1) 0 i = A.zero := by
  simp [Dind]

/-- gradient lanes are built from the rows of plain evaluation (values) and of the single
derivative (derivatives): `gradRows` for lane `1+d` equals `rows` with the bitmask `1<<d`, and for
lane 0 the rows of plain evaluation, whenever every dimension has order ≥ 1. -/
theorem C02_gradient_rows : ∀ (ds : List (Dim α)) (xs : List α) (cs : List Nat) (lane n : Nat),
    (∀ d ∈ ds, d.order ≠ 0) →
    gradRows ds xs cs lane n =
      rows ds xs cs ((List.range ds.length).map fun j => if lane = n + j + 1 then BasisMode.deriv1 else BasisMode.value) :=
  gradRows_eq_rows

/-- **Every gradient lane is the corresponding scalar evaluation, operation for operation** — for
every arithmetic (so bit for bit in IEEE): `ndsplineeval_gradient` returns
`[ndsplineeval(x, c, 0), ndsplineeval(x, c, 1<<0), …, ndsplineeval(x, c, 1<<(ndim-1))]`
whenever every dimension has order ≥ 1 and the SIMD layout can serve the request. -/
theorem C02_gradient_eq_mask_evals (maxDim : Nat) (T : Table α) (xs : List α) (cs : List Nat)
    (hord : ∀ d ∈ T.dims, d.order ≠ 0) (hdim : T.dims.length + 1 ≤ maxDim) :
    ndsplineevalGradient maxDim T xs cs =
      some ((List.range (T.dims.length + 1)).map fun lane => ndsplineeval T xs cs (laneMask lane)) := by
  unfold ndsplineevalGradient
  rw [if_neg (by omega)]
  congr 1
  apply List.map_congr_left
  intro lane _
  unfold ndsplineeval evalModes maskModes
  rw [C02_gradient_rows T.dims xs cs lane 0 hord]
  congr 2
  apply List.map_congr_left
  intro j _
  cases lane with
  | zero => simp [laneMask]
  | succ l =>
    simp only [laneMask, Nat.testBit_two_pow, Nat.zero_add, Nat.add_right_cancel_iff, decide_eq_true_eq]

section field
variable {β : Type} [Field β] [LinearOrder β]
attribute [local instance] Arith.ofField

/-- **Bitmask derivatives = specification.** -/
theorem C02_mask_eval_eq_spec_partial (T : Table β) (xs : List β) (cs : List Nat) (mask : Nat) (hwf : T.WF)
    (hlen : T.dims.length = xs.length) (hnd : AllNonDegenerate T.dims xs)
    (hs : @searchCenters β (cmpLO β) (T.dims.map Dim.axis) xs = .ok cs) :
    ndsplineeval T xs cs mask = specEval T xs (maskModes T.dims.length mask) :=
  ndsplineeval_mask_eq_specEval T xs cs mask (allOK_of_search T.dims xs cs hwf.dims hlen hnd hs) hwf.stride

/-- **Value-plus-gradient = specification**: lane 0 is the specification sum, lane `1+d` the sum with the
knot-difference derivative in dimension `d`. -/
theorem C02_gradient_eq_spec_partial (maxDim : Nat) (T : Table β) (xs : List β) (cs : List Nat) (hwf : T.WF)
    (hlen : T.dims.length = xs.length) (hnd : AllNonDegenerate T.dims xs)
    (hs : @searchCenters β (cmpLO β) (T.dims.map Dim.axis) xs = .ok cs)
    (hord : ∀ d ∈ T.dims, d.order ≠ 0) (hdim : T.dims.length + 1 ≤ maxDim) :
    ndsplineevalGradient maxDim T xs cs =
      some ((List.range (T.dims.length + 1)).map fun lane =>
        specEval T xs (maskModes T.dims.length (laneMask lane))) := by
  rw [C02_gradient_eq_mask_evals maxDim T xs cs hord hdim]
  congr 1
  apply List.map_congr_left
  intro lane _
  exact C02_mask_eval_eq_spec_partial T xs cs _ hwf hlen hnd hs

/-- **Arbitrary-order derivatives = specification.**  `ndsplineeval_deriv` with per-dimension
derivative orders `ks` (0 = value, 1 = single derivative, `k ≥ 2` = the recursive routine) equals the
sum over all coefficients of coefficient × Π_d (k_d-th iterated knot-difference derivative of the basis
function), provided every dimension with `k_d ≥ 2` has its coordinate below `knots[naxes]` or not on a
knot (there the recursive routine's right-continuous convention differs from plain evaluation: known
finding `deriv>=2-at-upper-knot`).  Exact arithmetic; IEEE faithfulness of the recursive routine needs
strictly increasing knots (no 0/0), which the correspondence generator respects. -/
theorem C02_deriv_eval_eq_spec_partial (T : Table β) (xs : List β) (cs : List Nat) (ks : List Nat) (hwf : T.WF)
    (hlen : T.dims.length = xs.length) (hnd : AllNonDegenerate T.dims xs)
    (hs : @searchCenters β (cmpLO β) (T.dims.map Dim.axis) xs = .ok cs)
    (hks : AllModesOK T.dims xs (derivModes ks)) :
    ndsplineevalDeriv T xs cs ks = specEval T xs (derivModes ks) :=
  evalModes_eq_specEval T xs cs _ (allOK_of_search T.dims xs cs hwf.dims hlen hnd hs) hks hwf.stride

/-- **The knot-difference formula is the true derivative of the polynomial piece**: `Pp` is the
piece of basis function `i` on interval `left` as a `Polynomial`, its evaluation is what the code's
value recurrence computes (`Bp`), and the evaluation of its `Polynomial.derivative` is the formula
`(n+1)(B_{i,n}/(t_{i+n+1}-t_i) − B_{i+1,n}/(t_{i+n+2}-t_{i+1}))` that `bspline_deriv_nonzero` computes —
for knots non-decreasing on the indices the function uses (repeated knots allowed, `a/0 = 0`). -/
theorem C02_formula_is_derivative (t : Int → β) (x : β) (left : Int) (n : Nat) (i : Int)
    (hmono : ∀ a b : Int, i ≤ a → a ≤ b → b ≤ i + n + 2 → t a ≤ t b) :
    (Pp t left (n+1) i).eval x = Bp t x left (n+1) i ∧
    (Polynomial.derivative (Pp t left (n+1) i)).eval x = DBp t x left n i :=
  ⟨eval_Pp t x left (n+1) i,
    (iterate_derivative_Pp t x left 1 (n+1) i (fun a b h1 h2 h3 => hmono a b h1 h2 (by push_cast at h3; omega))).trans
      (DBp_eq_Dind t x left n i).symm⟩

/-- **Arbitrary-order derivatives are the true derivatives**: the specification's `k`-fold knot-difference
formula `Dind … k` of basis function `i` (all of whose knots are valid and non-decreasing) equals the
evaluation of `Polynomial.derivative^[k]` of the polynomial piece the indicator selects. -/
theorem C02_formula_is_iterated_derivative (t : Int → β) (x : β) (nknots : Nat) (l : Int) (ind : Int → Bool)
    (hind : ∀ j : Int, 0 ≤ j → j ≤ (nknots:Int) - 2 → (ind j = true ↔ j = l))
    (k n : Nat) (i : Int) (h0 : 0 ≤ i) (h1 : i + n + 1 ≤ (nknots:Int) - 1)
    (hmono : ∀ a b : Int, i ≤ a → a ≤ b → b ≤ i + n + 1 → t a ≤ t b) :
    Dind ind t x k n i = (Polynomial.derivative^[k] (Pp t l n i)).eval x := by
  rw [Dind_eq_piece t x l k n i fun q q1 q2 => hind q (by omega) (by omega), iterate_derivative_Pp t x l k n i hmono]

end field

end PsV

namespace PsV
section rounding
variable {F : Type} [Field F] [LinearOrder F] [IsStrictOrderedRing F] {ε : F} {fl st : F → F}

/-- **Forward error of `bspline_deriv_nonzero`** (one dimension, point inside a knot interval of the fully
supported range): the three rows — absolute (`Babs`), exact, rounded — have `order+1` slots, and in every slot
`|rounded − exact| ≤ ((1+ε)^(7·order) − 1)·Babs` and `|exact| ≤ Babs`. -/
theorem C02_deriv_basis_rounding_envelope (hε : 0 ≤ ε) (hfl : ∀ a, RelErr ε 1 a (fl a)) (hst : ∀ a, RelErr ε 1 a (st a))
    (d : Dim F) (x : F) (c : Nat) (hint : Interior d x c) :
    (@bsplineDerivNonzeroAbs F (Arith.ofField F) d.knots d.nknots x c d.order).length = d.order + 1 ∧
    (@bsplineDerivNonzero F (Arith.ofField F) d.knots d.nknots x c d.order).length = d.order + 1 ∧
    (@bsplineDerivNonzero F (Arith.rounded fl st) d.knots d.nknots x c d.order).length = d.order + 1 ∧
    ∀ (i : Nat) (m e r : F),
      (@bsplineDerivNonzeroAbs F (Arith.ofField F) d.knots d.nknots x c d.order)[i]? = some m →
      (@bsplineDerivNonzero F (Arith.ofField F) d.knots d.nknots x c d.order)[i]? = some e →
      (@bsplineDerivNonzero F (Arith.rounded fl st) d.knots d.nknots x c d.order)[i]? = some r →
      |r - e| ≤ gfac ε (7 * d.order) * m ∧ |e| ≤ m := by
  obtain ⟨hrow, hlen⟩ := bsplineDerivNonzero_row3 hε hfl hst d x c hint
  obtain ⟨l1, l2⟩ := hrow.length_eq
  exact ⟨by rw [l1, hlen], hlen, by rw [l2, hlen], fun i m e r hm he hr => hrow.get i m e r hm he hr⟩

/-- **Forward error bound for evaluation with a derivative bitmask** (model at rounded arithmetic vs the same model
exact; any bitmask — single and mixed first derivatives, `mask = 0` is C01).

Partial: the one restricting hypothesis is `hint : AllInterior T.dims xs cs` (`Interior` in every dimension).  The two
partially supported margins and points that sit exactly on `knots[naxes]` are not covered: `derivCombine_row3` has no
margin version (values have one: `bsplvbSimple_relerr_all`). -/
theorem C02_rounding_envelope_partial (hε : 0 ≤ ε) (hfl : ∀ a, RelErr ε 1 a (fl a)) (hst : ∀ a, RelErr ε 1 a (st a))
    (T : Table F) (xs : List F) (cs : List Nat) (n mask : Nat)
    (hint : AllInterior T.dims xs cs) (hn : ∀ d ∈ T.dims, d.order ≤ n) :
    |@ndsplineeval F (Arith.rounded fl st) T xs cs mask - @ndsplineeval F (Arith.ofField F) T xs cs mask| ≤
      gfac ε (3 + T.dims.length * (7 * n + 3) + 2 * blockSize T.dims) *
        @ndsplineevalAbs F (Arith.ofField F) ⟨T.dims, fun i => |T.coef i|⟩ xs cs mask :=
  (ndsplineeval_mask_rounding hε hfl hst T xs cs n mask hint hn).1

/-- the same for `ndsplineeval_deriv` when every requested derivative order is 0 or 1 (the routine then uses the same two
basis routines; orders ≥ 2 go through the recursive `bspline_deriv` and are not covered) -/
theorem C02_deriv_orders_rounding_envelope_partial (hε : 0 ≤ ε) (hfl : ∀ a, RelErr ε 1 a (fl a)) (hst : ∀ a, RelErr ε 1 a (st a))
    (T : Table F) (xs : List F) (cs : List Nat) (n : Nat) (ks : List Nat)
    (hint : AllInterior T.dims xs cs) (hn : ∀ d ∈ T.dims, d.order ≤ n)
    (hkl : ks.length = T.dims.length) (hk1 : ∀ k ∈ ks, k ≤ 1) :
    |@ndsplineevalDeriv F (Arith.rounded fl st) T xs cs ks - @ndsplineevalDeriv F (Arith.ofField F) T xs cs ks| ≤
      gfac ε (3 + T.dims.length * (7 * n + 3) + 2 * blockSize T.dims) *
        @evalModesAbs F (Arith.ofField F) ⟨T.dims, fun i => |T.coef i|⟩ xs cs (derivModes ks) :=
  (evalModes_rounding hε hfl hst T xs cs n (derivModes ks) hint hn (by simp [derivModes, hkl]) (derivModes_mem ks hk1)).1

/-- the majorant dominates the exact derivative (it is the sum of the magnitudes of the terms the derivative sums) -/
theorem C02_majorant_dominates (T : Table F) (xs : List F) (cs : List Nat) (mask : Nat)
    (hint : AllInterior T.dims xs cs) :
    |@ndsplineeval F (Arith.ofField F) T xs cs mask| ≤
      @ndsplineevalAbs F (Arith.ofField F) ⟨T.dims, fun i => |T.coef i|⟩ xs cs mask := by
  have hid : ∀ a : F, RelErr (0 : F) 1 a (id a) := fun a => (RelErr.refl a).mono (le_refl _) (by omega)
  obtain ⟨n, hn⟩ : ∃ n : Nat, ∀ d ∈ T.dims, d.order ≤ n :=
    ⟨(T.dims.map Dim.order).sum, fun d hd => List.single_le_sum (fun _ _ => Nat.zero_le _) _ (List.mem_map_of_mem hd)⟩
  exact (ndsplineeval_mask_rounding (le_refl (0 : F)) hid hid T xs cs n mask hint hn).2

/-- with no derivative selected the majorant is plain evaluation (of whatever table it is applied to): the
envelope of `C02_rounding_envelope_partial` at `mask = 0` is the envelope of `C01_rounding_envelope_partial` -/
theorem C02_majorant_mask_zero {α : Type} [A : Arith α] (T : Table α) (xs : List α) (cs : List Nat) :
    ndsplineevalAbs T xs cs 0 = ndsplineeval T xs cs 0 :=
  ndsplineevalAbs_zero T xs cs

/-- `C02_rounding_envelope_partial` against the specification (the true partial derivative of the tensor-product sum,
one-sided convention of C01). -/
theorem C02_rounded_deriv_near_spec_partial (hε : 0 ≤ ε) (hfl : ∀ a, RelErr ε 1 a (fl a)) (hst : ∀ a, RelErr ε 1 a (st a))
    (T : Table F) (xs : List F) (cs : List Nat) (n mask : Nat) (hwf : T.WF)
    (hlen : T.dims.length = xs.length) (hnd : AllNonDegenerate T.dims xs)
    (hs : @searchCenters F (cmpLO F) (T.dims.map Dim.axis) xs = .ok cs)
    (hint : AllInterior T.dims xs cs) (hn : ∀ d ∈ T.dims, d.order ≤ n) :
    |@ndsplineeval F (Arith.rounded fl st) T xs cs mask
        - @specEval F (Arith.ofField F) T xs (maskModes T.dims.length mask)| ≤
      gfac ε (3 + T.dims.length * (7 * n + 3) + 2 * blockSize T.dims) *
        @ndsplineevalAbs F (Arith.ofField F) ⟨T.dims, fun i => |T.coef i|⟩ xs cs mask := by
  have h := C02_rounding_envelope_partial hε hfl hst T xs cs n mask hint hn
  rw [C02_mask_eval_eq_spec_partial T xs cs mask hwf hlen hnd hs] at h
  exact h

/-- **Every lane of the value-plus-gradient evaluation** under rounding: `ndsplineeval_gradient` returns `ndim+1` lanes
in both arithmetics, and lane `l` (0 = value, `1+d` = derivative along `d`) is within the envelope with the majorant of
the bitmask `laneMask l`.  (The lanes perform the scalar evaluation's operations in every arithmetic,
`C02_gradient_eq_mask_evals`, so the bound transfers without a second analysis.) -/
theorem C02_gradient_rounding_envelope (hε : 0 ≤ ε) (hfl : ∀ a, RelErr ε 1 a (fl a)) (hst : ∀ a, RelErr ε 1 a (st a))
    (maxDim : Nat) (T : Table F) (xs : List F) (cs : List Nat) (n : Nat)
    (hint : AllInterior T.dims xs cs) (hn : ∀ d ∈ T.dims, d.order ≤ n)
    (hord : ∀ d ∈ T.dims, d.order ≠ 0) (hdim : T.dims.length + 1 ≤ maxDim) :
    ∃ gR gE : List F,
      @ndsplineevalGradient F (Arith.rounded fl st) maxDim T xs cs = some gR ∧
      @ndsplineevalGradient F (Arith.ofField F) maxDim T xs cs = some gE ∧
      gR.length = T.dims.length + 1 ∧ gE.length = T.dims.length + 1 ∧
      ∀ (lane : Nat) (vR vE : F), gR[lane]? = some vR → gE[lane]? = some vE →
        |vR - vE| ≤ gfac ε (3 + T.dims.length * (7 * n + 3) + 2 * blockSize T.dims) *
          @ndsplineevalAbs F (Arith.ofField F) ⟨T.dims, fun i => |T.coef i|⟩ xs cs (laneMask lane) := by
  refine ⟨_, _, @C02_gradient_eq_mask_evals F (Arith.rounded fl st) maxDim T xs cs hord hdim,
    @C02_gradient_eq_mask_evals F (Arith.ofField F) maxDim T xs cs hord hdim, by simp, by simp, ?_⟩
  intro lane vR vE hR hE
  simp only [List.getElem?_map, Option.map_eq_some_iff] at hR hE
  obtain ⟨l1, h1, rfl⟩ := hR
  obtain ⟨l2, h2, rfl⟩ := hE
  have e : ∀ l, (List.range (T.dims.length + 1))[lane]? = some l → l = lane := fun l h => by
    obtain ⟨_, rfl⟩ := List.getElem?_eq_some_iff.1 h
    exact List.getElem_range _
  rw [e l1 h1, e l2 h2]
  exact C02_rounding_envelope_partial hε hfl hst T xs cs n _ hint hn

end rounding

/-- 2-d table for the non-vacuity examples: orders 2 and 1, knots 0..6 and 0..4, strides 3 and 1, coefficients of both signs -/
def c02ExDims : List (Dim Rat) := [⟨2, 7, 4, 3, fun i => (i : Rat)⟩, ⟨1, 5, 3, 1, fun i => (i : Rat)⟩]
def c02ExTable : Table Rat := ⟨c02ExDims, fun i => (i : Rat) - 5⟩

/-- hypotheses of `C02_rounding_envelope_partial` / `C02_deriv_basis_rounding_envelope` (and the rounding part of the other two):
roundings (`fl = st = id`, `ε = 1/8`; any `ε ≥ 0` works), an interior point of the 2-d table, the order bound -/
example : (∀ a : Rat, RelErr (1/8 : Rat) 1 a (id a)) ∧
    AllInterior c02ExTable.dims [(7/2 : Rat), 3/2] [3, 1] ∧ (∀ d ∈ c02ExTable.dims, d.order ≤ 2) ∧
    Interior (⟨2, 7, 4, 3, fun i => (i : Rat)⟩ : Dim Rat) (7/2) 3 := by
  have h1 : Interior (⟨2, 7, 4, 3, fun i => (i : Rat)⟩ : Dim Rat) (7/2) 3 :=
    interior_intKnots 2 7 4 3 3 _ (by decide) (by decide) (by norm_num) (by norm_num)
  have h2 : Interior (⟨1, 5, 3, 1, fun i => (i : Rat)⟩ : Dim Rat) (3/2) 1 :=
    interior_intKnots 1 5 3 1 1 _ (by decide) (by decide) (by norm_num) (by norm_num)
  refine ⟨fun a => (RelErr.refl a).mono (by norm_num) (by omega), ⟨h1, h2, trivial⟩, ?_, h1⟩
  intro d hd
  simp only [c02ExTable, c02ExDims, List.mem_cons, List.not_mem_nil, or_false] at hd
  rcases hd with rfl | rfl <;> decide

/-- remaining hypotheses of `C02_rounded_deriv_near_spec_partial` at the same point -/
example : c02ExTable.WF ∧ c02ExTable.dims.length = [(7/2 : Rat), 3/2].length ∧
    AllNonDegenerate c02ExTable.dims [(7/2 : Rat), 3/2] ∧
    @searchCenters Rat (cmpLO Rat) (c02ExTable.dims.map Dim.axis) [(7/2 : Rat), 3/2] = .ok [3, 1] := by
  refine ⟨⟨?_, rfl⟩, rfl, ?_, ?_⟩
  · intro d hd
    simp only [c02ExTable, c02ExDims, List.mem_cons, List.not_mem_nil, or_false] at hd
    rcases hd with rfl | rfl
    · exact dimWF_intKnots 2 7 3 (by decide)
    · exact dimWF_intKnots 1 5 1 (by decide)
  · exact ⟨Or.inl (by norm_num), Or.inl (by norm_num), trivial⟩
  · decide +kernel

/-- remaining hypotheses of `C02_gradient_rounding_envelope` and of `C02_deriv_orders_rounding_envelope_partial` (orders `[1, 0]`) -/
example : (∀ d ∈ c02ExTable.dims, d.order ≠ 0) ∧ c02ExTable.dims.length + 1 ≤ maxDimDefault ∧
    ([1, 0] : List Nat).length = c02ExTable.dims.length ∧ (∀ k ∈ ([1, 0] : List Nat), k ≤ 1) := by
  refine ⟨?_, by decide, rfl, by decide⟩
  intro d hd
  simp only [c02ExTable, c02ExDims, List.mem_cons, List.not_mem_nil, or_false] at hd
  rcases hd with rfl | rfl <;> decide

/-- the majorant is a concrete finite number where the derivative cancels completely: mixed partial d²/dx dy of the 2-d
table (coefficients linear in the position) at (7/2, 3/2) is 0, the majorant 9 — the envelope cannot be proportional
to the derivative itself -/
example : @ndsplineeval Rat (Arith.ofField Rat) c02ExTable [7/2, 3/2] [3, 1] 3 = 0 ∧
    @ndsplineevalAbs Rat (Arith.ofField Rat) ⟨c02ExTable.dims, fun i => |c02ExTable.coef i|⟩ [7/2, 3/2] [3, 1] 3 = 9 := by
  -- the derivative rows and their majorants
  have h : @rows Rat (Arith.ofField Rat) c02ExTable.dims [7/2, 3/2] [3, 1] (maskModes c02ExTable.dims.length 3)
      = [(3, [-1/2, 0, 1/2]), (1, [-1, 1])] := by decide +kernel
  have hAbs : @rowsAbs Rat (Arith.ofField Rat) c02ExTable.dims [7/2, 3/2] [3, 1] (maskModes c02ExTable.dims.length 3)
      = [(3, [1/2, 1, 1/2]), (1, [1, 1])] := by decide +kernel
  simp only [ndsplineeval, ndsplineevalAbs, evalModes, evalModesAbs, h, hAbs, walk, walkRow, walkLast]
  decide +kernel

/-- … and it is attained: for the 1-d table of order 2 on knots 0..6 with coefficients `i − 2` (the spline `x ↦ x − 5/2 + …`
of slope 1) the derivative at 7/2 is 1 and the majorant is 1 — all terms of the derivative sum have one sign. -/
example : @ndsplineeval Rat (Arith.ofField Rat) ⟨[⟨2, 7, 4, 1, fun i => (i : Rat)⟩], fun i => (i : Rat) - 2⟩ [7/2] [3] 1 = 1 ∧
    @ndsplineevalAbs Rat (Arith.ofField Rat) ⟨[⟨2, 7, 4, 1, fun i => (i : Rat)⟩], fun i => |(i : Rat) - 2|⟩ [7/2] [3] 1 = 1 := by
  have h : @rows Rat (Arith.ofField Rat) [⟨2, 7, 4, 1, fun i => (i : Rat)⟩] [7/2] [3] (maskModes 1 1)
      = [(1, [-1/2, 0, 1/2])] := by decide +kernel
  have hAbs : @rowsAbs Rat (Arith.ofField Rat) [⟨2, 7, 4, 1, fun i => (i : Rat)⟩] [7/2] [3] (maskModes 1 1)
      = [(1, [1/2, 1, 1/2])] := by decide +kernel
  simp only [ndsplineeval, ndsplineevalAbs, evalModes, evalModesAbs, List.length_singleton, h, hAbs, walk, walkLast]
  decide +kernel
end PsV
