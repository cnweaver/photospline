import PsV.Generated.Dispatch
import PsV.Proofs.Lanes
import PsV.Proofs.Odometer
import Mathlib.Algebra.BigOperators.Group.List.Defs
import Mathlib.Algebra.Group.Nat.Defs
/-!
# C03 — the evaluation result is independent of the evaluation path selected

* `C03_dispatch_sound_*`: for **every** list of per-dimension orders (any length, any values) the
  routine pair that `get_evaluator` selects — according to the dispatch table *regenerated from the
  source on this run* — has template arguments that describe exactly that table (`Compat`), in both
  template modes.
* `C03_value_lane`, `C03_deriv_lane`: the value / derivative rows of the gradient code are,
  operation for operation, those of plain evaluation — for every arithmetic (`Arith` instance, no
  laws), hence bit-identical.
* `C03_generic_loop_is_walk`, `C03_templated_loop_is_generic`, `C03_selected_core_eq_generic`: the odometer
  loops as written (`while(true){chunk; if(++n==nchunks) break; advance}` of the generic core,
  `for(n<nchunks-1){chunk; advance} chunk` of the templated cores, carry loop and incremental
  `basis_tree` update included — `PsV.Model.Walk`) equal the nested block walk for every arithmetic,
  and the routine `get_evaluator` selects has the table's chunk count; so it computes, bit for bit,
  what the generic core computes.
The loop bodies are additionally compared bitwise in the real binary by the correspondence check (both
template modes, as-shipped and sanitizer flags).
-/
namespace PsV
open Dispatch

/-- what the labels of a table entry promise about its routines.  `fixedOrder` wants `O ≠ 0` because
`constOrder` returns 0 for "the orders differ", so a `case 0:` label promises nothing about the orders;
`knownOrder` is never sound for a table entry: it may only come from an `orders_are` override. -/
def RoutineSound (e : Entry) : Routine → Prop
  | .generic => True
  | .coreD D => e.ndim = some D
  | .fixedOrder D O => e.ndim = some D ∧ e.constOrder = some O ∧ O ≠ 0
  | .knownOrder _ => False

instance (e : Entry) (r : Routine) : Decidable (RoutineSound e r) := by
  cases r <;> unfold RoutineSound <;> infer_instance

def EntrySound (e : Entry) : Prop := RoutineSound e e.scalar ∧ RoutineSound e e.vector
instance (e : Entry) : Decidable (EntrySound e) := by unfold EntrySound; infer_instance

def OverrideSound (o : Override) : Prop := o.scalar = .knownOrder o.orders ∧ o.vector = .knownOrder o.orders
instance (o : Override) : Decidable (OverrideSound o) := by unfold OverrideSound; infer_instance

theorem constOrder_all (orders : List Nat) (O : Nat) (h : constOrder orders = O) (hO : O ≠ 0) :
    ∀ o ∈ orders, o = O := by
  cases orders with
  | nil => intro o ho; simp at ho
  | cons a as =>
    simp only [constOrder] at h
    split at h
    · rename_i hall
      subst h
      intro o ho
      simp only [List.mem_cons] at ho
      rcases ho with rfl | ho
      · rfl
      · have := List.all_eq_true.mp hall o ho
        simpa using this
    · exact absurd h.symm hO

theorem select_spec (tbl : List Entry) (orders : List Nat) (e : Entry) (h : select tbl orders = some e) :
    e ∈ tbl ∧ (∀ D, e.ndim = some D → D = orders.length) ∧ (∀ O, e.constOrder = some O → O = constOrder orders) := by
  simp only [select] at h
  have hm := List.mem_of_find?_eq_some h
  have hp := List.find?_some h
  rw [List.mem_filter] at hm
  refine ⟨hm.1, ?_, ?_⟩
  · intro D hD
    rw [hD] at hp
    simpa [matchLabel] using hp
  · intro O hO
    have := hm.2
    rw [hO] at this
    simpa [matchLabel] using this

theorem getEvaluator_compat (tbl : List Entry) (ovr : List Override)
    (htbl : ∀ e ∈ tbl, EntrySound e) (hovr : ∀ o ∈ ovr, OverrideSound o)
    (orders : List Nat) (s v : Routine) (h : getEvaluator tbl ovr orders = some (s, v)) :
    Compat orders s ∧ Compat orders v := by
  simp only [getEvaluator] at h
  split at h
  · rename_i o ho
    have hm := List.mem_of_find?_eq_some ho
    have hp := List.find?_some ho
    have heq : o.orders = orders := by simpa using hp
    obtain ⟨h1, h2⟩ := hovr o hm
    simp only [Option.some.injEq, Prod.mk.injEq] at h
    rw [← h.1, ← h.2, h1, h2]
    exact ⟨heq, heq⟩
  · cases hsel : select tbl orders with
    | none => rw [hsel] at h; simp at h
    | some e =>
      rw [hsel] at h
      simp only [Option.map_some, Option.some.injEq, Prod.mk.injEq] at h
      obtain ⟨hmem, hnd, hco⟩ := select_spec tbl orders e hsel
      obtain ⟨es, ev⟩ := htbl e hmem
      have key : ∀ r, RoutineSound e r → Compat orders r := by
        intro r hr
        cases r with
        | generic => trivial
        | coreD D => exact hnd D hr
        | fixedOrder D O =>
          obtain ⟨a, b, c⟩ := hr
          exact ⟨hnd D a, constOrder_all orders O (hco O b).symm c⟩
        | knownOrder os => exact hr.elim
      rw [← h.1, ← h.2]
      exact ⟨key _ es, key _ ev⟩

/-- **Dispatch soundness, templates enabled** (table generated from the current source). -/
theorem C03_dispatch_sound_templated (orders : List Nat) (s v : Routine)
    (h : getEvaluator Gen.templatedEntries Gen.templatedOverrides orders = some (s, v)) :
    Compat orders s ∧ Compat orders v :=
  getEvaluator_compat _ _ (by decide) (by decide) orders s v h

/-- **Dispatch soundness, `PHOTOSPLINE_NO_EVAL_TEMPLATES`.** -/
theorem C03_dispatch_sound_generic (orders : List Nat) (s v : Routine)
    (h : getEvaluator Gen.genericEntries Gen.genericOverrides orders = some (s, v)) :
    Compat orders s ∧ Compat orders v :=
  getEvaluator_compat _ _ (by decide) (by decide) orders s v h

/-- The model's `maxDimDefault` is the `PHOTOSPLINE_MAXDIM` regenerated from simd.h, and the SIMD layout
(`nvecs` vectors of `vectorSize` lanes) holds exactly that many lanes.  The refusal itself is
`C05_gradient_refused`. -/
theorem C03_gradient_capacity : Gen.nvecs * Gen.vectorSize = Gen.maxDim ∧ maxDimDefault = Gen.maxDim := by decide

/-- value lane of the gradient = plain value basis, for every arithmetic (order ≥ 1) -/
theorem C03_value_lane {α : Type} [Arith α] (t : Int → α) (nknots : Nat) (x : α) (left : Int) (n : Nat) (hn : n ≠ 0) :
    (bsplineNonzero t nknots x left n).1 = bsplvbSimple t nknots x left n :=
  bsplineNonzero_values t nknots x left n hn

/-- derivative lane of the gradient = single-derivative basis, for every arithmetic -/
theorem C03_deriv_lane {α : Type} [Arith α] (t : Int → α) (nknots : Nat) (x : α) (left : Int) (n : Nat) :
    (bsplineNonzero t nknots x left n).2 = bsplineDerivNonzero t nknots x left n :=
  bsplineNonzero_derivs t nknots x left n

/-- a templated core whose compile-time chunk count is the table's computes what the generic core computes -/
theorem C03_templated_loop_is_generic {α : Type} [Arith α] (coef : Int → α) (ds : List (ODim α)) (last : List α)
    (start : Int) (nchunks : Nat) (h : nchunks = nchunksOf ds) :
    coreTemplated coef ds last start nchunks = coreGeneric coef ds last start := by
  subst h
  exact coreTemplated_eq_coreGeneric coef ds last start

/-- the generic core's loop, as written, is the nested block walk (any arithmetic) -/
theorem C03_generic_loop_is_walk {α : Type} [Arith α] (coef : Int → α) (ds : List (ODim α)) (last : List α) (start : Int) :
    coreGeneric coef ds last start =
      walk coef (ds.reverse.map rowOf ++ [(1, last)]) (Arith.rnd Arith.one) start (Arith.rnd Arith.zero) := by
  rw [← C03_templated_loop_is_generic coef ds last start _ rfl, coreTemplated_eq_walk coef ds last start _ rfl]

/-- chunk count a routine derives from its template arguments (`orders` = the table's, most significant first) -/
def templateChunks (orders : List Nat) : Routine → Nat
  | .generic => (orders.dropLast.map (· + 1)).prod
  | .coreD _ => (orders.dropLast.map (· + 1)).prod
  | .fixedOrder D O => (O + 1) ^ (D - 1)
  | .knownOrder os => (os.dropLast.map (· + 1)).prod

theorem nchunksOf_eq_prod {α : Type} : ∀ (ds : List (ODim α)),
    nchunksOf ds = (ds.reverse.map fun d => d.order + 1).prod := by
  intro ds
  induction ds with
  | nil => rfl
  | cons d R ih => simp [nchunksOf, ih, Nat.mul_comm]

theorem templateChunks_compat (orders : List Nat) (r : Routine) (h : Compat orders r) :
    templateChunks orders r = (orders.dropLast.map (· + 1)).prod := by
  cases r with
  | generic => rfl
  | coreD D => rfl
  | fixedOrder D O =>
    obtain ⟨hD, hO⟩ := h
    simp only [templateChunks]
    have : orders.dropLast.map (· + 1) = List.replicate (D - 1) (O + 1) := by
      apply List.eq_replicate_iff.mpr
      constructor
      · simp [hD]
      · intro b hb
        simp only [List.mem_map] at hb
        obtain ⟨o, ho, rfl⟩ := hb
        rw [hO o (List.dropLast_subset _ ho)]
    rw [this, List.prod_replicate]
  | knownOrder os => simp only [templateChunks]; rw [h]

/-- **Selected core = generic core.**  For every table (outer dimensions `ds`, least significant first, whose
orders are those of `orders` without its last entry), the scalar routine that `get_evaluator` selects
according to the table regenerated from the source runs the templated loop with the table's chunk
count, hence returns exactly what the generic core returns — for every arithmetic. -/
theorem C03_selected_core_eq_generic {α : Type} [Arith α] (coef : Int → α) (ds : List (ODim α)) (last : List α)
    (start : Int) (orders : List Nat) (hds : ds.reverse.map (·.order) = orders.dropLast) (s v : Routine)
    (h : getEvaluator Gen.templatedEntries Gen.templatedOverrides orders = some (s, v)) :
    coreTemplated coef ds last start (templateChunks orders s) = coreGeneric coef ds last start := by
  apply C03_templated_loop_is_generic
  rw [templateChunks_compat orders s (C03_dispatch_sound_templated orders s v h).1, nchunksOf_eq_prod, ← hds]
  simp only [List.map_map]
  rfl

/-- Non-vacuity: the generated table does select specialised routines. -/
example : getEvaluator Gen.templatedEntries Gen.templatedOverrides [2, 2, 2] = some (.fixedOrder 3 2, .fixedOrder 3 2) ∧
    getEvaluator Gen.templatedEntries Gen.templatedOverrides [2, 2, 2, 5, 2, 2] = some (.knownOrder [2,2,2,5,2,2], .knownOrder [2,2,2,5,2,2]) ∧
    getEvaluator Gen.templatedEntries Gen.templatedOverrides [1, 4] = some (.coreD 2, .coreD 2) ∧
    getEvaluator Gen.templatedEntries Gen.templatedOverrides [3,3,3,3,3,3,3,3,3] = some (.generic, .generic) := by decide

end PsV
