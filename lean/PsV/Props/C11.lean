import PsV.Proofs.Nnls
import PsV.Proofs.NnlsTerm
import PsV.Proofs.NnlsExist
import PsV.Proofs.WalkBlocks
import PsV.Proofs.FactorRows
import Mathlib.Tactic.NormNum
/-!
# C11 — the non-negative least-squares solvers return the constrained optimum

`qf A b z = ½ zᵀAz − bᵀz`, `gradM A b z = Az − b`, `SPD`, `KKT`, `TolKKT` are defined in
`PsV/Proofs/QuadMin.lean`; `kktCheck`, `refNnls`, `distCheck`, `block3Run` are the executable definitions of
`PsV/Model/Nnls.lean` that the driver runs on the vectors returned by the C solvers.

What is **not** claimed: that the four C solvers converge for every input.  The check is certificate checking with a
proved checker (`kktCheck_sound` + `kkt_tol_gap` + `kkt_tol_dist` + `kkt_unique_min`): whatever vector a solver
returns is accepted only if the verified checker accepts it.  Exits of BLOCK3:
* `B3Exit.converged`  (`if (nH2 == 0 && optimal_on_F) break;`) — convergence: `block3_exit_kkt` (with exact solves
  the returned point satisfies the tolerance-KKT conditions);
* `B3Exit.iterCap`    (`iter == max_iter = 120`) — iteration cap, no optimality claim (`block3_cap_exit_not_kkt`
  exhibits a capped run that is not a KKT point);
* `B3Exit.innerFuel`  — model-only bound on the `while (!feasible)` loop.
All three return a component-wise non-negative vector (`block3_nonneg_invariant`), which is what C10 needs.

Not proved: a decreasing measure for the outer `for` loop of BLOCK3 (the C code stores an unaccepted last
trial of `walk_descents` and binds coefficients below `kkt_tolerance`, both of which can raise the objective; the cap
`max_iter` is a real exit), and anything about the floating-point solves of the C code (covered by certificate checking).
-/
namespace PsV
open Matrix Nnls

section Exact
variable {n : ℕ} {α : Type} [Field α] [LinearOrder α] [IsStrictOrderedRing α]

/-- **KKT ⇒ unique global minimiser.**  `A` symmetric positive definite, `x ≥ 0`, `g = Ax − b` with `g_i = 0` where
`x_i > 0` and `g_i ≥ 0` where `x_i = 0`: then `x` minimises `½zᵀAz − bᵀz` over `z ≥ 0`, and any `z ≥ 0` with the
same value is `x`. -/
theorem kkt_unique_min (A : Matrix (Fin n) (Fin n) α) (b x : Fin n → α) (hA : SPD A) (hx : KKT A b x) :
    ∀ z : Fin n → α, (∀ i, 0 ≤ z i) → qf A b x ≤ qf A b z ∧ (qf A b z = qf A b x → z = x) :=
  fun _ hz => hx.unique_min hA hz

/-- **Tolerance-KKT ⇒ explicit optimality gap.**  If `x ≥ 0`, `g_i ≥ −tol_i` and `g_i ≤ tol_i` where `x_i > 0`, then for
every feasible `z` (in particular the minimiser `x*`): `f x − f z ≤ Σ_i tol_i (x_i + z_i)`. -/
theorem kkt_tol_gap (A : Matrix (Fin n) (Fin n) α) (b x tol : Fin n → α) (hA : SPSD A) (hx : TolKKT A b x tol)
    (z : Fin n → α) (hz : ∀ i, 0 ≤ z i) :
    qf A b x - qf A b z ≤ ∑ i, tol i * (x i + z i) :=
  (le_add_of_nonneg_right (mul_nonneg one_half_pos.le (hA.2 _))).trans (hx.gap hA.1 hz)

/-- **Tolerance-KKT ⇒ distance to the minimiser** (in the energy norm of `A`): if `xs` is an exact KKT point then
`½ (x − xs)ᵀ A (x − xs) ≤ Σ_i tol_i (x_i + xs_i)`.  This is the relation the driver decides (`distCheck`). -/
theorem kkt_tol_dist (A : Matrix (Fin n) (Fin n) α) (b x xs tol : Fin n → α) (hA : SPSD A) (hx : TolKKT A b x tol)
    (hxs : KKT A b xs) :
    (1/2) * ((x - xs) ⬝ᵥ A *ᵥ (x - xs)) ≤ ∑ i, tol i * (x i + xs i) :=
  (le_neg_iff_add_nonpos_left.mpr (hxs.gap hA.1 hx.1)).trans
    ((neg_sub _ _).le.trans (kkt_tol_gap A b x tol hA hx xs hxs.1))

end Exact

/-- **Soundness of the executable checker**: `kktCheck … = true` implies the tolerance-KKT predicate for the matrix
and vectors it was given. -/
theorem kktCheck_sound (n : ℕ) (A : Mat) (b x tol : Vec) (h : kktCheck n A b x tol = true) :
    TolKKT (toMat n A) (toVec n b) (toVec n x) (toVec n tol) :=
  kktCheck_iff_tolKKT.mp h

/-- with tolerance 0 the checker certifies exact KKT -/
theorem kktCheck_zero_sound (n : ℕ) (A : Mat) (b x : Vec) (h : kktCheck n A b x (fun _ => 0) = true) :
    KKT (toMat n A) (toVec n b) (toVec n x) := by
  have key := fun i : Fin n => kktCheck_zero_iff.mp h i i.2
  exact ⟨fun i => (key i).1, fun i => grad_eq n A b x i ▸ (key i).2.1, fun i hi => grad_eq n A b x i ▸ (key i).2.2 hi⟩

/-- the executable distance test is the relation of `kkt_tol_dist` -/
theorem distCheck_iff (n : ℕ) (A : Mat) (tol x z : Vec) :
    distCheck n A tol x z = true ↔
      (1/2) * ((toVec n x - toVec n z) ⬝ᵥ (toMat n A) *ᵥ (toVec n x - toVec n z))
        ≤ ∑ i, toVec n tol i * (toVec n x i + toVec n z i) := by
  unfold distCheck
  rw [decide_eq_true_eq, halfQuad_eq, gapBound_eq]
  rfl

theorem refSearch_sound (n : ℕ) (A : Mat) (b : Vec) (fuel mask : ℕ) (xa : Array ℚ)
    (h : refSearch n A b fuel mask = some xa) : kktCheck n A b (at0 xa) (fun _ => 0) = true := by
  induction fuel generalizing mask with
  | zero => simp [refSearch] at h
  | succ f ih =>
    unfold refSearch at h
    cases ht : tryMask n A b mask with
    | none => rw [ht] at h; exact ih _ h
    | some y =>
      rw [ht] at h
      obtain rfl := Option.some.inj h
      exact (tryMask_eq_some.mp ht).2.2

/-- **Soundness of the reference solver**: whatever `refNnls` returns satisfies the exact KKT conditions … -/
theorem refNnls_sound (n : ℕ) (A : Mat) (b : Vec) (xa : Array ℚ) (h : refNnls n A b = some xa) :
    KKT (toMat n A) (toVec n b) (toVec n (at0 xa)) :=
  kktCheck_zero_sound n A b _ (refSearch_sound n A b _ _ xa h)

/-- … hence, for a symmetric positive-definite matrix, it *is* the unique constrained minimiser. -/
theorem refNnls_is_minimiser (n : ℕ) (A : Mat) (b : Vec) (xa : Array ℚ) (hA : SPD (toMat n A))
    (h : refNnls n A b = some xa) (z : Fin n → ℚ) (hz : ∀ i, 0 ≤ z i) :
    qf (toMat n A) (toVec n b) (toVec n (at0 xa)) ≤ qf (toMat n A) (toVec n b) z ∧
      (qf (toMat n A) (toVec n b) z = qf (toMat n A) (toVec n b) (toVec n (at0 xa)) → z = toVec n (at0 xa)) :=
  kkt_unique_min _ _ _ hA (refNnls_sound n A b xa h) z hz

/-- **What the correspondence establishes per accepted vector**: if `kktCheck` with tolerance `tol` accepts the
(projected) vector `x` returned by a C solver and `refNnls = some xs`, then `x` is a tolerance-KKT point, its objective
value exceeds that of every feasible `z` by at most `Σ tol_i (x_i + z_i)`, and the driver's third decision `distCheck`
succeeds.  (That `xs` is the unique constrained minimiser is `refNnls_is_minimiser`; see `C11_certificate_full`.) -/
theorem C11_certificate (n : ℕ) (A : Mat) (b x tol : Vec) (xa : Array ℚ) (hA : SPD (toMat n A))
    (hk : kktCheck n A b x tol = true) (hr : refNnls n A b = some xa) :
    TolKKT (toMat n A) (toVec n b) (toVec n x) (toVec n tol) ∧
    (∀ z : Fin n → ℚ, (∀ i, 0 ≤ z i) →
        qf (toMat n A) (toVec n b) (toVec n x) - qf (toMat n A) (toVec n b) z
          ≤ ∑ i, toVec n tol i * (toVec n x i + z i)) ∧
    distCheck n A tol x (at0 xa) = true := by
  have hT := kktCheck_sound n A b x tol hk
  have hK := refNnls_sound n A b xa hr
  refine ⟨hT, fun z hz => kkt_tol_gap _ _ _ _ hA.spsd hT z hz, ?_⟩
  rw [distCheck_iff]
  exact kkt_tol_dist _ _ _ _ _ hA.spsd hT hK

/-- **Non-negativity invariant** (needed by C10): for *every* environment — any linear solver, any residual
function, any dual update, any iteration caps — and every exit (`converged`, `iterCap`, `innerFuel`), the vector the
state machine returns is component-wise `≥ 0`: an unconstrained solution is accepted only if it has no negative
entry, bound coefficients are set to zero, and projected trial points are clamped. -/
theorem block3_nonneg_invariant (E : B3Env) (y0 : ℕ → ℚ) :
    ∀ i, 0 ≤ at0 (block3Run E y0).1.x i :=
  (outerLoop_exit E (pass_nn E) _ _ _ (b3Init_nn _ _) rfl).1

/-- **The convergence exit certifies KKT.**  If the environment computes exact solves on the passive set and exact
duals (`ExactEnv`), a run that leaves through `if (nH2 == 0 && optimal_on_F) break;` returns a point accepted by the
verified checker with the solver's tolerance `kkt_tolerance` — hence (`kktCheck_sound`, `kkt_tol_gap`) a tolerance-KKT
point.  Nothing of the kind holds for the `iterCap` exit (`block3_cap_exit_not_kkt`).
Before the repair `fixes/C11-1.diff` the C code left through `if (nH2 == 0) break;` also right after a projected
step of `walk_descents`, where `x[F]` is not the solution on `F`: the statement was false for the code as it was. -/
theorem block3_exit_kkt (E : B3Env) (A : Mat) (b : Vec) (hE : ExactEnv E A b)
    (hexit : (block3Run E fun i => -(b i)).2 = B3Exit.converged) :
    kktCheck E.n A b (at0 (block3Run E fun i => -(b i)).1.x) (fun _ => E.tol) = true := by
  obtain ⟨hinv, hconv, _⟩ := outerLoop_exit E (P := B3Inv E A b) (fun _ _ hs hin => dualSt_inv hE hin hs.nn)
    _ _ _ (b3Init_inv E A b) rfl
  exact hinv.kktCheck hE (hconv hexit).1 (hconv hexit).2

/-- the dual update of the executable exact environment is exact, for any matrix (its solve is exact on a certified
one: `exactEnv_ExactEnv`) -/
theorem exactEnv_dual_exact (n : ℕ) (A : Mat) (b : Vec) (tol : ℚ) (mi fu : ℕ) (inF : ℕ → Bool) (x : ℕ → ℚ) (i : ℕ) :
    (exactEnv n A b tol mi fu).dual inF x i = grad n A b (fun j => if inF j then x j else 0) i :=
  exactEnv_dual n A b tol mi fu inF x i


/-! The proofs about `solveOn` and `spdCert` go through an entry-function description of the elimination
(`PsV/Proofs/NnlsElim.lean`) that the array code is shown to compute (`PsV/Proofs/NnlsBridge.lean`, `gj_bridge`). -/

/-- **The exact solve is correct.**  Whatever `solveOn n A b S` (Gauss–Jordan without row exchanges on `[A_SS | b_S]`,
scattered back) returns for a duplicate-free `S ⊆ [0,n)` is zero off `S` and satisfies the rows `i ∈ S` of `A x = b`. -/
theorem solveOn_solves (n : ℕ) (A : Mat) (b : Vec) (S : List ℕ) (x : Array ℚ) (hS : S.Nodup) (hn : ∀ i ∈ S, i < n)
    (h : solveOn n A b S = some x) :
    (∀ i, i ∉ S → at0 x i = 0) ∧ ∀ i, i ∈ S → Nnls.mulVec n A (at0 x) i = b i := by
  obtain ⟨h1, h2⟩ := solveOn_correct hS hn h
  exact ⟨h1, fun i hi => sub_eq_zero.mp (h2 i hi)⟩

/-- **The SPD certificate is sound**: `spdCert n A = true` — symmetric and every pivot of the elimination without row
exchanges `> 0` — implies `vᵀAv > 0` for every `v ≠ 0`.  Proof through the `LDLᵀ` factorisation the elimination computes,
one step at a time (`posRun_iff_pd`; the step is `SchurStep`'s `posDefFrom_step_iff`). -/
theorem spdCert_sound (n : ℕ) (A : Mat) (h : spdCert n A = true) : SPD (toMat n A) := spdCert_spd n A h

/-- … and complete: the certificate accepts exactly the symmetric positive-definite matrices. -/
theorem spdCert_iff (n : ℕ) (A : Mat) : spdCert n A = true ↔ SPD (toMat n A) :=
  spdCert_iff_spd n A

/-- **On a certified matrix the exact solve returns** for every passive set (no zero pivot: principal submatrices of
an SPD matrix are SPD, and SPD blocks have positive pivots). -/
theorem solveOn_returns (n : ℕ) (A : Mat) (b : Vec) (S : List ℕ) (hA : spdCert n A = true) (hS : S.Nodup)
    (hn : ∀ i ∈ S, i < n) : ∃ x, solveOn n A b S = some x :=
  solveOn_spd b (spdCert_spd n A hA) hS hn

/-- **`ExactEnv` holds for the executable exact environment** of a certified system: the hypothesis of
`block3_exit_kkt` is discharged for the definition the driver runs. -/
theorem exactEnv_ExactEnv (n : ℕ) (A : Mat) (b : Vec) (tol : ℚ) (mi fu : ℕ) (hA : spdCert n A = true)
    (htol : 0 ≤ tol) : ExactEnv (exactEnv n A b tol mi fu) A b :=
  exactEnv_exact n A b tol mi fu (spdCert_spd n A hA) htol

/-- **Acceptance by the checker with tolerance 0 on a certified matrix = the unique global optimum.** -/
theorem kktCheck_zero_optimal (n : ℕ) (A : Mat) (b x : Vec) (hA : spdCert n A = true)
    (hk : kktCheck n A b x (fun _ => 0) = true) (z : Fin n → ℚ) (hz : ∀ i, 0 ≤ z i) :
    qf (toMat n A) (toVec n b) (toVec n x) ≤ qf (toMat n A) (toVec n b) z ∧
      (qf (toMat n A) (toVec n b) z = qf (toMat n A) (toVec n b) (toVec n x) → z = toVec n x) :=
  kkt_unique_min _ _ _ (spdCert_spd n A hA) (kktCheck_zero_sound n A b x hk) z hz

/-- **Acceptance by the checker with a tolerance on a certified matrix**: explicit optimality gap against every
feasible point, and distance (energy norm) to any exact KKT point — which is then the unique minimiser. -/
theorem kktCheck_tol_optimal (n : ℕ) (A : Mat) (b x tol : Vec) (hA : spdCert n A = true)
    (hk : kktCheck n A b x tol = true) :
    (∀ z : Fin n → ℚ, (∀ i, 0 ≤ z i) →
      qf (toMat n A) (toVec n b) (toVec n x) - qf (toMat n A) (toVec n b) z
        ≤ ∑ i, toVec n tol i * (toVec n x i + z i)) ∧
    (∀ xs : Fin n → ℚ, KKT (toMat n A) (toVec n b) xs →
      (1/2) * ((toVec n x - xs) ⬝ᵥ (toMat n A) *ᵥ (toVec n x - xs)) ≤ ∑ i, toVec n tol i * (toVec n x i + xs i)) := by
  have hS := (spdCert_spd n A hA).spsd
  have hT := kktCheck_sound n A b x tol hk
  exact ⟨fun z hz => kkt_tol_gap _ _ _ _ hS hT z hz, fun xs hxs => kkt_tol_dist _ _ _ _ _ hS hT hxs⟩

/-- **The convergence exit of the executable state machine certifies KKT — no hypothesis on the solver left.**
For a certified system and `tol ≥ 0`, a run of `block3Run` on `exactEnv` that leaves through
`if (nH2 == 0 && optimal_on_F) break;` returns a point accepted by `kktCheck` with the tolerance `tol`. -/
theorem block3_exit_kkt_exact (n : ℕ) (A : Mat) (b : Vec) (tol : ℚ) (mi fu : ℕ) (hA : spdCert n A = true)
    (htol : 0 ≤ tol)
    (hexit : (block3Run (exactEnv n A b tol mi fu) fun i => -(b i)).2 = B3Exit.converged) :
    kktCheck n A b (at0 (block3Run (exactEnv n A b tol mi fu) fun i => -(b i)).1.x) (fun _ => tol) = true :=
  block3_exit_kkt (exactEnv n A b tol mi fu) A b (exactEnv_ExactEnv n A b tol mi fu hA htol) hexit

/-- … hence it is within the explicit gap of the constrained optimum, and with `tol = 0` it *is* the unique
constrained minimiser. -/
theorem block3_exit_optimal (n : ℕ) (A : Mat) (b : Vec) (tol : ℚ) (mi fu : ℕ) (hA : spdCert n A = true)
    (htol : 0 ≤ tol)
    (hexit : (block3Run (exactEnv n A b tol mi fu) fun i => -(b i)).2 = B3Exit.converged)
    (z : Fin n → ℚ) (hz : ∀ i, 0 ≤ z i) :
    qf (toMat n A) (toVec n b) (toVec n (at0 (block3Run (exactEnv n A b tol mi fu) fun i => -(b i)).1.x))
        - qf (toMat n A) (toVec n b) z
      ≤ ∑ i, tol * (toVec n (at0 (block3Run (exactEnv n A b tol mi fu) fun i => -(b i)).1.x) i + z i) ∧
    (tol = 0 → qf (toMat n A) (toVec n b) z
        = qf (toMat n A) (toVec n b) (toVec n (at0 (block3Run (exactEnv n A b tol mi fu) fun i => -(b i)).1.x)) →
      z = toVec n (at0 (block3Run (exactEnv n A b tol mi fu) fun i => -(b i)).1.x)) := by
  have hk := block3_exit_kkt_exact n A b tol mi fu hA htol hexit
  refine ⟨(kktCheck_tol_optimal n A b _ _ hA hk).1 z hz, fun h0 => ?_⟩
  subst h0
  exact (kktCheck_zero_optimal n A b _ hA hk z hz).2

/-- **The constrained minimiser exists and is unique** on every certified system (existence by induction on the
dimension with the Schur-complement step, `kktOn_exists`; no compactness argument, everything stays in `ℚ`). -/
theorem nnls_minimiser_exists_unique (n : ℕ) (A : Mat) (b : Vec) (hA : spdCert n A = true) :
    ∃ xs : Fin n → ℚ, KKT (toMat n A) (toVec n b) xs ∧
      ∀ z : Fin n → ℚ, (∀ i, 0 ≤ z i) →
        qf (toMat n A) (toVec n b) xs ≤ qf (toMat n A) (toVec n b) z ∧
        (qf (toMat n A) (toVec n b) z = qf (toMat n A) (toVec n b) xs → z = xs) := by
  obtain ⟨x, hx⟩ := kkt_point_exists n A b (spdCert_spd n A hA)
  exact ⟨toVec n x, kktCheck_zero_sound n A b x hx, fun z hz => kktCheck_zero_optimal n A b x hA hx z hz⟩

/-- **The reference solver is complete**: on a certified system `refNnls` returns (so the `ref=1` answer of the driver
is a theorem, and `C11_certificate` needs no hypothesis about it). -/
theorem refNnls_returns (n : ℕ) (A : Mat) (b : Vec) (hA : spdCert n A = true) : ∃ xa, refNnls n A b = some xa :=
  refNnls_complete n A b (spdCert_spd n A hA)

/-- **Acceptance by the checker, full strength**: on a certified system a vector accepted by `kktCheck` with
tolerance `tol` is within the `kkt_tol_dist` distance of the vector `refNnls` returns, which exists and is the unique
constrained minimiser. -/
theorem C11_certificate_full (n : ℕ) (A : Mat) (b x tol : Vec) (hA : spdCert n A = true)
    (hk : kktCheck n A b x tol = true) :
    ∃ xa, refNnls n A b = some xa ∧ distCheck n A tol x (at0 xa) = true ∧
      ∀ z : Fin n → ℚ, (∀ i, 0 ≤ z i) →
        qf (toMat n A) (toVec n b) (toVec n (at0 xa)) ≤ qf (toMat n A) (toVec n b) z ∧
        (qf (toMat n A) (toVec n b) z = qf (toMat n A) (toVec n b) (toVec n (at0 xa)) → z = toVec n (at0 xa)) := by
  obtain ⟨xa, hr⟩ := refNnls_returns n A b hA
  have hS := spdCert_spd n A hA
  exact ⟨xa, hr, (C11_certificate n A b x tol xa hS hk hr).2.2, fun z hz => refNnls_is_minimiser n A b xa hS hr z hz⟩

/-- **BLOCK3 with exact solves, convergence exit, full strength**: the returned point is within the `kkt_tol_dist`
distance (tolerance `kkt_tolerance` on every component) of the unique constrained minimiser, which `refNnls`
computes. -/
theorem block3_exit_near_minimiser (n : ℕ) (A : Mat) (b : Vec) (tol : ℚ) (mi fu : ℕ) (hA : spdCert n A = true)
    (htol : 0 ≤ tol)
    (hexit : (block3Run (exactEnv n A b tol mi fu) fun i => -(b i)).2 = B3Exit.converged) :
    ∃ xa, refNnls n A b = some xa ∧
      distCheck n A (fun _ => tol) (at0 (block3Run (exactEnv n A b tol mi fu) fun i => -(b i)).1.x) (at0 xa) = true := by
  obtain ⟨xa, hr, hd, _⟩ := C11_certificate_full n A b _ _ hA (block3_exit_kkt_exact n A b tol mi fu hA htol hexit)
  exact ⟨xa, hr, hd⟩

/-- **The `while (!feasible)` loop terminates.**  On a certified system with exact
solves every pass of the inner loop that does not leave it removes at least one coefficient from the passive set
(bound at the boundary, or clamped by an unsuccessful projected step — an unsuccessful *unprojected* step is
impossible because the objective strictly decreases along the segment to the minimiser on `F`), so the loop ends
within `n + 1` passes: with `innerFuel > n` the model-only exit `innerFuel` is unreachable, from any start `y0`.
No such measure is proved for the outer `for` loop; its cap `max_iter` is a real exit (`block3_cap_exit_not_kkt`). -/
theorem block3_inner_terminates (n : ℕ) (A : Mat) (b : Vec) (tol : ℚ) (mi fu : ℕ) (y0 : ℕ → ℚ)
    (hA : spdCert n A = true) (htol : 0 ≤ tol) (hfu : n < fu) :
    (block3Run (exactEnv n A b tol mi fu) y0).2 ≠ B3Exit.innerFuel :=
  outerLoop_no_innerFuel (exactEnv n A b tol mi fu) A b (spdCert_spd n A hA)
    (exactEnv_ExactEnv n A b tol mi fu hA htol) (exactEnv_resid n A b tol mi fu) hfu _ _ (b3Init_nn _ _)

/-- **An accepted projected step strictly decreases the objective.**  When `walk_descents` returns `feasible = true`
from a point `x ≥ 0`, the objective of the projected trial point (both restricted to the passive set `F`) is strictly
smaller.  (An *unaccepted* last trial is nevertheless stored by the C code and by the model; together with the
"descent at boundary" binding, which can raise the objective by `O(kkt_tolerance)`, this is why no monotone measure is
proved for the outer loop.) -/
theorem walk_accepted_step_decreases (n : ℕ) (A : Mat) (b : Vec) (tol : ℚ) (mi fu : ℕ) (inF : ℕ → Bool)
    (x xF : ℕ → ℚ) (hx : ∀ i, 0 ≤ x i) (hw : (walkDescents (exactEnv n A b tol mi fu) inF x xF).2 = true) :
    qf (toMat n A) (toVec n b) (restr n inF (trialVal inF x xF (walkDescents (exactEnv n A b tol mi fu) inF x xF).1))
      < qf (toMat n A) (toVec n b) (restr n inF x) :=
  walk_feasible_decreases (exactEnv n A b tol mi fu) A b (exactEnv_resid n A b tol mi fu) inF x xF hx hw

/-- **An accepted unconstrained solve strictly decreases the objective.**  On a certified system, if `x` is supported
on the passive set `F` and its gradient does not vanish somewhere on `F` (the situation right after coefficients with
multipliers `< −kkt_tolerance` have been added to `F`), the exact solve on `F` — which the loop accepts when it has no
negative entry — has a strictly smaller objective. -/
theorem accepted_solve_decreases (n : ℕ) (A : Mat) (b : Vec) (tol : ℚ) (mi fu : ℕ) (hA : spdCert n A = true)
    (htol : 0 ≤ tol) (inF : ℕ → Bool) (x : ℕ → ℚ) (hsup : ∀ i, i < n → inF i = false → x i = 0)
    (hg : ∃ i, i < n ∧ inF i = true ∧ grad n A b x i ≠ 0) :
    qf (toMat n A) (toVec n b) (restr n inF (at0 ((exactEnv n A b tol mi fu).solve inF)))
      < qf (toMat n A) (toVec n b) (toVec n x) :=
  full_step_decreases (exactEnv n A b tol mi fu) A b (spdCert_spd n A hA)
    (exactEnv_ExactEnv n A b tol mi fu hA htol).solve_exact inF x hsup hg

/-- every exit of a run on a certified system with `innerFuel > n` is one of the two exits of the C code -/
theorem block3_exits (n : ℕ) (A : Mat) (b : Vec) (tol : ℚ) (mi fu : ℕ) (y0 : ℕ → ℚ)
    (hA : spdCert n A = true) (htol : 0 ≤ tol) (hfu : n < fu) :
    (block3Run (exactEnv n A b tol mi fu) y0).2 = B3Exit.converged ∨
    (block3Run (exactEnv n A b tol mi fu) y0).2 = B3Exit.iterCap := by
  have := block3_inner_terminates n A b tol mi fu y0 hA htol hfu
  cases h : (block3Run (exactEnv n A b tol mi fu) y0).2 with
  | converged => exact Or.inl rfl
  | iterCap => exact Or.inr rfl
  | innerFuel => exact absurd h this

/-- a 2 × 2 system: `A = [[2,1],[1,2]]`, `b = (1, −1)`; minimiser `(1/2, 0)` with gradient `(0, 3/2)` -/
def exA : Mat := fun i j => if i = j then 2 else 1
def exb : Vec := fun i => if i = 0 then 1 else -1

/-- the example system is certified -/
theorem exA_cert : spdCert 2 exA = true := by decide +kernel

theorem exA_spd : SPD (toMat 2 exA) := spdCert_sound 2 exA exA_cert

/-- `refNnls` finds the minimiser of the example (kernel evaluation of the executable definition) -/
theorem ex_ref : refNnls 2 exA exb = some #[1/2, 0] := by decide +kernel

/-- hypotheses of `kkt_unique_min`, `kkt_tol_dist`: an SPD matrix with an exact KKT point that has an active and an
inactive constraint -/
example : SPD (toMat 2 exA) ∧ KKT (toMat 2 exA) (toVec 2 exb) (toVec 2 (at0 #[1/2, 0])) :=
  ⟨exA_spd, refNnls_sound 2 exA exb _ ex_ref⟩

/-- hypotheses of `kktCheck_sound`, `kkt_tol_gap`, `C11_certificate`: a slightly wrong point accepted with a positive
tolerance (and rejected with tolerance 0) -/
example : kktCheck 2 exA exb (at0 #[1/2 + 1/1000, 0]) (fun _ => 1/100) = true ∧
    kktCheck 2 exA exb (at0 #[1/2 + 1/1000, 0]) (fun _ => 0) = false ∧
    distCheck 2 exA (fun _ => 1/100) (at0 #[1/2 + 1/1000, 0]) (at0 #[1/2, 0]) = true := by decide +kernel

/-- hypothesis of `block3_exit_kkt`: the executable exact environment on the example leaves through the convergence
exit (after freeing coefficient 0 and accepting the solve), with the minimiser -/
example : (block3Run (exactEnv 2 exA exb (1/1000000) 120 16) fun i => -(exb i)).2 = B3Exit.converged ∧
    (block3Run (exactEnv 2 exA exb (1/1000000) 120 16) fun i => -(exb i)).1.x = #[1/2, 0] := by decide +kernel

/-- `ExactEnv` is satisfiable: a one-variable system with its exact solve -/
example : ExactEnv { n := 1, tol := 0, solve := fun _ => #[3/2], resid := fun _ _ => 0,
                     dual := fun inF x i => grad 1 (fun _ _ => 2) (fun _ => 3) (fun j => if inF j then x j else 0) i,
                     maxIter := 120, innerFuel := 8 } (fun _ _ => 2) (fun _ => 3) := by
  refine ⟨le_refl _, fun inF i hi hF => ?_, fun _ _ _ _ => rfl⟩
  obtain rfl : i = 0 := Nat.lt_one_iff.mp hi
  show 0 + 2 * (if inF 0 then (3 / 2 : ℚ) else 0) - 3 = 0
  rw [if_pos hF]
  norm_num

/-- **The iteration-cap exit carries no optimality claim**: a run stopped by the cap before the first iteration returns
`x = 0`, which is not a KKT point of the example (`g₀ = −1 < 0`). -/
theorem block3_cap_exit_not_kkt :
    (block3Run (exactEnv 2 exA exb (1/1000000) 0 16) fun i => -(exb i)).2 = B3Exit.iterCap ∧
    kktCheck 2 exA exb (at0 (block3Run (exactEnv 2 exA exb (1/1000000) 0 16) fun i => -(exb i)).1.x)
      (fun _ => 1/1000000) = false := by decide +kernel

/-- on the 5 × 5 system `exA5`, `exb5` the walk branch is exercised by the model, the run still ends at the convergence
exit, and its result passes the checker (an instance of `block3_exit_kkt` evaluated by the kernel, `ex5_run`; before the
repair the C code stopped right after the projected step, at a point that is not KKT) -/
example :
    let r := block3Run (exactEnv 5 exA5 exb5 (5 / 45035996273) 120 28) fun i => -(exb5 i)
    r.2 = B3Exit.converged ∧ r.1.nWalk = 1 ∧ r.1.nBoundary = 1 ∧ r.1.nFull = 2 ∧
      kktCheck 5 exA5 exb5 (at0 r.1.x) (fun _ => 5 / 45035996273) = true :=
  ex5_run

theorem exA5_cert : spdCert 5 exA5 = true := by decide +kernel

/-- hypothesis of `solveOn_solves`: solves that return — the full passive set of the 2 × 2 system (the solution has a
negative entry: the solve is unconstrained) and the passive set `{0,1,3}` of the 5 × 5 system -/
example : [0, 1].Nodup ∧ (∀ i ∈ [0, 1], i < 2) ∧ solveOn 2 exA exb [0, 1] = some #[1, -1] ∧
    (solveOn 5 exA5 exb5 [0, 1, 3]).isSome = true := by
  refine ⟨by decide, by decide, by decide +kernel, by decide +kernel⟩

/-- a matrix the certificate rejects although it is symmetric with a positive diagonal: `[[1,2],[2,1]]` -/
example : spdCert 2 (fun i j => if i = j then 1 else 2) = false := by decide +kernel

/-- hypotheses of `block3_exit_kkt_exact` / `block3_exit_optimal` / `block3_inner_terminates` on the 5 × 5 system
(the fuel the driver uses is `4 n + 8`) -/
example : spdCert 5 exA5 = true ∧ (0 : ℚ) ≤ 5 / 45035996273 ∧ 5 < 28 ∧
    (block3Run (exactEnv 5 exA5 exb5 (5 / 45035996273) 120 28) fun i => -(exb5 i)).2 = B3Exit.converged := by
  refine ⟨exA5_cert, by norm_num, by decide, ex5_run.1⟩

/-- `kktCheck_zero_optimal` applies to the reference solution of the 2 × 2 system -/
example : kktCheck 2 exA exb (at0 #[1/2, 0]) (fun _ => 0) = true := by decide +kernel

/-- hypothesis of `walk_accepted_step_decreases`: from `x = (1,1)` towards the solve `(1,−1)` of the 2 × 2 system the
first trial (distance 1, projected to `(1,0)`) is accepted -/
example : (walkDescents (exactEnv 2 exA exb 0 120 16) (fun _ => true) (fun _ => 1) (at0 #[1, -1])) = (1, true) := by
  decide +kernel

/-- hypotheses of `accepted_solve_decreases`: the first iteration on the 2 × 2 system (`x = 0`, coefficient 0 freed,
gradient `−1` there) -/
example : (∀ i, i < 2 → (fun i => decide (i = 0)) i = false → (fun _ => (0 : ℚ)) i = 0) ∧
    ∃ i, i < 2 ∧ (fun i => decide (i = 0)) i = true ∧ grad 2 exA exb (fun _ => 0) i ≠ 0 :=
  ⟨fun _ _ _ => rfl, 0, by norm_num, by simp, by rw [grad_zero]; simp [exb]⟩

/-! ## the result loop of `walk_descents` for every number of line-search workers (seeded change C11-6)

`Sync.Cfg` (C12): `c.n` workers (`get_nthreads()`), `c.m = n_alpha` trial steps, `c.blocks = ⌈m/n⌉`, `c.active i` = workers
used in block `i`, `c.less a b` = "residual of trial `a` < residual of trial `b`".  `blockLoop c` is the coordinator's result
loop of `walk_descents` after the hand-shake with the workers (block `i`, worker `j` ↦ trial index `i*n + j`; that every
worker reports the trial it was given is `C12_each_trial_evaluated_once` / `C12_scanned_records`), `blockLoopL c mult` the same
loop with the last-trial test `i*mult + j == n_alpha-1`.  `C12_result_is_sequential` proves that the *threaded* routine
returns `selectSeq`; the theorems here are about the index arithmetic of the loop itself, which is what the seeded change
C11-6 (`i*n_blocks + j`) breaks, and they connect C12's `selectSeq` with the sequential `walkScan` that `block3Run` executes. -/

/-- **Every trial index is looked at exactly once**: for every number of workers `n ≥ 1` the scan organised in blocks
    (block `i`, worker `j < active i ≤ n` ↦ index `i*n + j`) enumerates `0, 1, …, n_alpha-1`, each once, in ascending order. -/
theorem walk_trials_visited_once (c : Sync.Cfg) (hn : 0 < c.n) :
    trialIndices c = List.range c.m ∧ ∀ i j, j < c.active i → j < c.n := by
  refine ⟨?_, fun i _ hj => Nat.lt_of_lt_of_le hj (Sync.active_le c i)⟩
  unfold trialIndices
  rw [trialIndices_prefix c hn c.blocks (Nat.le_refl _), Nat.min_eq_right (blocks_cover c hn)]

/-- **The last-trial test `i*n_threads + j == n_alpha-1` holds for exactly one started (block, worker) pair**, for every
    number of workers `n ≥ 1`: the forced step is reachable whatever `get_nthreads()` returns. -/
theorem walk_last_trial_unique (c : Sync.Cfg) (hn : 0 < c.n) (hm : 1 ≤ c.m) :
    ∃ i j, i < c.blocks ∧ j < c.active i ∧ j < c.n ∧ i * c.n + j = c.m - 1 ∧
      ∀ i' j', i' < c.blocks → j' < c.active i' → i' * c.n + j' = c.m - 1 → i' = i ∧ j' = j :=
  trial_pair_unique c hn (c.m - 1) (Nat.sub_lt hm Nat.one_pos)

/-- **The loop as written is the sequential selection of C12**, for every number of workers `n ≥ 1` (hence the same for all). -/
theorem walk_block_loop_sequential (c : Sync.Cfg) (hn : 0 < c.n) : blockLoop c = Sync.selectSeq c.less c.m := by
  rw [blockLoop_eq_fold, (walk_trials_visited_once c hn).1]
  rfl

/-- **The forced step is taken for every number of workers**: when no trial reduces the residual, the loop as written
    chooses the last trial `n_alpha-1` and reports `feasible = false` (`success` is set: `walk_descents` copies that trial and
    its `H1`, and `nnls_normal_block3` binds the blocking coefficients). -/
theorem walk_forced_step_reachable (c : Sync.Cfg) (hn : 0 < c.n) (hm : 2 ≤ c.m)
    (hno : ∀ k, 1 ≤ k → k < c.m → c.less k 0 = false) :
    blockLoop c = (some 0, some (some (c.m - 1), false)) := by
  obtain ⟨k, hk1, hkm, hsel, hor, _⟩ := Sync.selectSeq_spec c.less c.m hm
  have hk : k = c.m - 1 := by
    rcases hor with h | h
    · rw [hno k hk1 hkm] at h; cases h
    · exact h
  rw [walk_block_loop_sequential c hn, hsel, hno k hk1 hkm, hk]

/-- **Why the seeded change C11-6 hangs** (`i*n_blocks + j == n_alpha-1`, one worker, `n_alpha ≥ 2`): no started
    (block, worker) pair passes the test, so when no trial reduces the residual `success` is never set — `walk_descents`
    returns `feasible = false` with `x` and `H1` unchanged and the `while (!feasible)` loop of `nnls_normal_block3` repeats the
    same solve for ever.  (`n_alpha ≥ 3` in every call: index 0, distance 1 and at least one constraint crossing.) -/
theorem walk_wrong_multiplier_never_steps (c : Sync.Cfg) (h1 : c.n = 1) (hm : 2 ≤ c.m)
    (hno : ∀ k, 1 ≤ k → k < c.m → c.less k 0 = false) :
    blockLoopL c c.blocks = (some 0, none) ∧
      ∀ i j, i < c.blocks → j < c.active i → i * c.blocks + j ≠ c.m - 1 :=
  ⟨blockLoopL_wrong_prefix c h1 hm hno c.blocks (blocks_one c h1 ▸ Nat.le_of_succ_le hm) (Nat.le_refl _),
    wrong_multiplier_never_last c h1 hm⟩

/-- **The line search that `block3Run` executes is that loop**: for every number of workers `n ≥ 1` the block loop over the
    trials of one call of `walkDescents` (current point, then the distances `walkAlphas`) chooses the index `k` whose
    distance and `feasible` flag the sequential model `walkDescents` returns.  So the state machine of
    `block3_exit_kkt` / `block3_inner_terminates`, which knows nothing of workers, describes the C routine for every
    `OMP_NUM_THREADS` — as long as the loop is the one written (`blockLoop`). -/
theorem walkDescents_is_block_loop (E : B3Env) (inF : ℕ → Bool) (x xF : ℕ → ℚ) (n : ℕ) (hn : 0 < n) :
    let res0 := E.resid inF (trialVal inF x xF 0)
    let as := walkAlphas E.n inF x xF
    ∃ k, 1 ≤ k ∧ k ≤ as.length ∧
      blockLoop (walkCfg E inF x xF res0 as n) = (some 0, some (some k, walkLess E inF x xF res0 as k 0)) ∧
      walkDescents E inF x xF = (as.getD (k - 1) 0, walkLess E inF x xF res0 as k 0) := by
  intro res0 as
  obtain ⟨k, hk, hsel, heq⟩ := walkScan_select E inF x xF res0 as (List.cons_ne_nil _ _)
  exact ⟨k + 1, Nat.succ_pos k, hk, (walk_block_loop_sequential _ hn).trans hsel, heq⟩

/-! ## rows added to the full-size factor by `modify_factor_p` (seeded changes C11-2, C11-5)

Abstraction (`PsV/Model/WalkBlocks.lean`): the full-size factor is described by the matrix it represents (`repMat A S`: `A` on
the passive set `S`, identity elsewhere); `rowAdd` is `cholmod_rowadd` with its documented precondition ("the kth row and
column of L must originally be equal to the kth row and column of the identity matrix"), `getColumn` is `get_column`,
`addRows` the `H2` loop as written, `addRowsSettled` the variant that moves all of `H2` into `F` before the first
`get_column`.  The floating-point factor is not modelled; on the C side the multi-row path is exercised and judged through
the KKT residual (input class 11 of the check). -/

/-- **Rows added one at a time, each column taken from `A` restricted to `F ∪ {rows already added}`, yield the factor of
    `A[F',F']`**: every `cholmod_rowadd` meets its precondition, and the represented matrix is `A` on `F' = F ∪ H2`,
    identity elsewhere. -/
theorem modify_factor_add_rows_represents (n : ℕ) (A : Mat) (S : ℕ → Bool) (H2 : List ℕ) (R : Mat)
    (hsym : ∀ i j, i < n → j < n → A i j = A j i) (hlt : ∀ k ∈ H2, k < n) (hnd : H2.Nodup)
    (hdisj : ∀ k ∈ H2, S k = false) (hR : AgreeOn n R (repMat A S)) :
    ∃ R', addRows n A S H2 R = some R' ∧ AgreeOn n R' (repMat A (fun i => S i || H2.contains i)) :=
  addRows_repMat n A S H2 R hsym hlt hnd hdisj hR

/-- … **independently of the order of addition**, and the exact solve of the model on the enlarged passive set
    (`exactEnv.solve`, i.e. `solveOn` on `F'`) is the solve with the represented matrix: the state machine's `solve` is
    what a correctly updated factor computes. -/
theorem modify_factor_add_rows_order_independent (n : ℕ) (A : Mat) (b : Vec) (S : ℕ → Bool) (H2 H2' : List ℕ) (R : Mat)
    (hsym : ∀ i j, i < n → j < n → A i j = A j i) (hlt : ∀ k ∈ H2, k < n) (hnd : H2.Nodup)
    (hdisj : ∀ k ∈ H2, S k = false) (hR : AgreeOn n R (repMat A S)) (hperm : H2.Perm H2') :
    ∃ R1 R2, addRows n A S H2 R = some R1 ∧ addRows n A S H2' R = some R2 ∧ AgreeOn n R1 R2 ∧
      ∀ P : List ℕ, (∀ i ∈ P, i < n ∧ (S i || H2.contains i) = true) →
        solveOn n R1 b P = solveOn n A b P ∧ solveOn n R2 b P = solveOn n A b P := by
  obtain ⟨R1, h1, hA1⟩ := modify_factor_add_rows_represents n A S H2 R hsym hlt hnd hdisj hR
  obtain ⟨R2, h2, hA2⟩ := modify_factor_add_rows_represents n A S H2' R hsym (fun k hk => hlt k (hperm.mem_iff.mpr hk))
    (hperm.nodup_iff.mp hnd) (fun k hk => hdisj k (hperm.mem_iff.mpr hk)) hR
  have hS : (fun i => S i || H2'.contains i) = (fun i => S i || H2.contains i) := by
    funext i; rw [hperm.contains_eq]
  rw [hS] at hA2
  exact ⟨R1, R2, h1, h2, fun i j hi hj => (hA1 i j hi hj).trans (hA2 i j hi hj).symm, fun P hP =>
    ⟨solveOn_of_repMat n A R1 b _ hA1 P hP, solveOn_of_repMat n A R2 b _ hA2 P hP⟩⟩

/-- **Why the seeded changes C11-2 / C11-5 break the factor**: when all of `H2` is moved into `F` before the first
    `get_column`, the column of the first row `k₁` carries the entry `A[k₂,k₁]` of a row that is still identity in the factor;
    after that row/column `k₂` is no longer identity and the second `cholmod_rowadd` is called outside its precondition —
    as soon as the first two released coefficients are coupled (`A[k₂,k₁] ≠ 0`).  With a single row (or uncoupled rows) the
    two loops coincide, which is why small and sparse systems do not notice. -/
theorem modify_factor_settle_first_breaks_rowadd (n : ℕ) (A : Mat) (Sfinal : ℕ → Bool) (k1 k2 : ℕ) (rest : List ℕ)
    (R : Mat) (h1 : k1 < n) (hne : k1 ≠ k2) (hS2 : Sfinal k2 = true) (hc : A k2 k1 ≠ 0) :
    addRowsSettled n A Sfinal (k1 :: k2 :: rest) R = none := by
  unfold addRowsSettled
  cases hfirst : rowAdd n k1 (getColumn A Sfinal k1) R with
  | none => rfl
  | some R1 =>
    -- the first `rowadd` has put `A[k₂,k₁]` into column `k₂` of a row that the second one needs to be identity
    have hR1 : R1 k1 k2 = A k2 k1 := (rowAdd_row hfirst k2).trans (if_pos hS2)
    show (match rowAdd n k2 (getColumn A Sfinal k2) R1 with
      | none => none
      | some R' => addRowsSettled n A Sfinal rest R') = none
    rw [rowAdd_of_coupled _ h1 hne (hR1 ▸ hc)]

/-- one worker, three trials, no trial reduces the residual: the loop as written takes the forced step, the loop with the
    multiplier `n_blocks` never sets `success`; the same with three workers and four trials (two blocks) -/
example : blockLoop { n := 1, m := 3, less := fun _ _ => false, repaired := true } = (some 0, some (some 2, false)) ∧
    blockLoopL { n := 1, m := 3, less := fun _ _ => false, repaired := true } 3 = (some 0, none) ∧
    blockLoop { n := 3, m := 4, less := fun _ _ => false, repaired := true } = (some 0, some (some 3, false)) ∧
    blockLoopL { n := 3, m := 4, less := fun _ _ => false, repaired := true } 2 = (some 0, none) ∧
    trialIndices { n := 3, m := 4, less := fun _ _ => false, repaired := true } = [0, 1, 2, 3] := by decide

/-- hypotheses of `walk_forced_step_reachable` / `walk_wrong_multiplier_never_steps` -/
example : (0 : ℕ) < 1 ∧ 2 ≤ 3 ∧ ∀ k, 1 ≤ k → k < 3 → (fun _ _ : ℕ => false) k 0 = false := ⟨by decide, by decide, fun _ _ _ => rfl⟩

/-- a system of the check's corpus (bin/props/C11_forced_corpus.txt, n = 4) -/
def exA4 : Mat := fun i j =>
  (([[6, -6, -3, 2], [-6, 19, 13, -4], [-3, 13, 12, -4], [2, -4, -4, 12]] : List (List ℚ)).getD i []).getD j 0
def exb4 : Vec := fun i => ([19, 0, -10, 9] : List ℚ).getD i 0

/-- … on which the exact state machine takes the forced step: one line search, no trial reduces the residual
    (`nForced = 1`), the run then converges to a KKT point -/
example :
    let r := block3Run (exactEnv 4 exA4 exb4 (1 / 11258999068) 120 24) fun i => -(exb4 i)
    r.2 = B3Exit.converged ∧ r.1.nWalk = 1 ∧ r.1.nForced = 1 ∧ r.1.nFull = 2 ∧
      kktCheck 4 exA4 exb4 (at0 r.1.x) (fun _ => 1 / 11258999068) = true := by
  decide +kernel

/-- a 3 × 3 symmetric matrix whose coefficients 1 and 2 are coupled; passive set `{0}`, both released in one call -/
def exA3 : Mat := fun i j => (([[4, -1, -1], [-1, 3, 1], [-1, 1, 3]] : List (List ℚ)).getD i []).getD j 0

/-- as written the two rows are added (`modify_factor_add_rows_represents`: the result is `exA3`); with the sets settled
    first the second `cholmod_rowadd` is outside its precondition (`modify_factor_settle_first_breaks_rowadd`); a single
    row is added identically by both loops -/
example :
    ((addRows 3 exA3 (fun i => i == 0) [1, 2] (repMat exA3 fun i => i == 0)).map fun R =>
        (List.range 3).map fun i => (List.range 3).map (R i)) = some [[4, -1, -1], [-1, 3, 1], [-1, 1, 3]] ∧
    (addRowsSettled 3 exA3 (fun _ => true) [1, 2] (repMat exA3 fun i => i == 0)).isNone = true ∧
    ((addRowsSettled 3 exA3 (fun i => i == 0 || i == 1) [1] (repMat exA3 fun i => i == 0)).map fun R =>
        (List.range 3).map fun i => (List.range 3).map (R i)) =
      ((addRows 3 exA3 (fun i => i == 0) [1] (repMat exA3 fun i => i == 0)).map fun R =>
        (List.range 3).map fun i => (List.range 3).map (R i)) := by
  decide +kernel

/-- hypotheses of `modify_factor_add_rows_represents` for that instance -/
example : (∀ i j, i < 3 → j < 3 → exA3 i j = exA3 j i) ∧ (∀ k ∈ [1, 2], k < 3) ∧ [1, 2].Nodup ∧
    (∀ k ∈ [1, 2], (fun i : ℕ => i == 0) k = false) ∧ AgreeOn 3 (repMat exA3 fun i => i == 0) (repMat exA3 fun i => i == 0) ∧
    exA3 2 1 ≠ 0 := by
  have hsym : ∀ i < 3, ∀ j < 3, exA3 i j = exA3 j i := by decide +kernel
  exact ⟨fun i j hi hj => hsym i hi j hj, by decide, by decide, by decide, fun _ _ _ _ => rfl, by decide +kernel⟩

end PsV
