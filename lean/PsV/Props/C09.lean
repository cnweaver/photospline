import PsV.Proofs.FitQuad
import PsV.Proofs.FitDiffs
import PsV.Proofs.FitPosDef
import PsV.Proofs.PolyReproNd
import PsV.Proofs.ElimPosDef
/-!
# C09 — the unconstrained fit minimises the penalised weighted least-squares objective

The objective of `PsV/Spec/Fit.lean` is the quadratic `cᵀMc − 2rᵀc + k` of the normal equations `M c = r` (`M = specM P`,
`r = specR P`): for positive definite `M` their solution is the unique minimiser; `M` is positive definite iff no non-zero
coefficient vector is invisible to both the data and the penalty; data generated by a coefficient vector that the penalty
does not see (any spline for `λ = 0`, polynomials of degree below the penalty order for every `λ`) are reproduced; the
code's `divided_diffs` yields the derivative coefficients the penalty squares.  The definitions the statements use stand in
`PsV/Proofs/FitQuad.lean` (`Mf`, `rf`, `fitVal`, `penaltyGram`, `PenaltyVanishes`, `DerivVanishes`, the example `exP`),
`NormalEq.lean`, `FitPosDef.lean`, `Marsden1d.lean` (`dualCoef`) and `PolyReproNd.lean` (`polyCoef`, `PolyDegOK`, `PolyData`
and their any-degree forms, the examples `polyP`, `polyP2`).  The carrier is any ordered field whose `Arith` bundle is lawful;
`Rat` with the instance the compiled driver executes is one.

Notation: `N = P.ncoef`, `R = P.rows.size`, `Mf P i j = (specM P).get i j`, `rf P i = (specR P).getD i 0`.
No well-formedness of `P` is assumed anywhere: `penaltySum` and `penaltyTabs`/`penaltyEntry` both stop at
the shortest of the lists `dims`/`smooth`/`porder`, and `(N / (n·s))·n·s ≤ N` always holds, which is all
the line geometry needs.
-/
namespace PsV
open NormalEq
set_option linter.unusedSectionVars false
section
variable {α : Type} [Field α] [LinearOrder α] [IsStrictOrderedRing α] [A : Arith α] [L : LawfulArith α]

/-- `M = BᵀWB + Σ_d λ_d K_dᵀK_d`: entry `(i,j)` of `specM` is `Σ_r w_r B[r,i] B[r,j]` plus the penalty
Gram matrix (`penaltyGram`: `Σ_d λ_d Σ_{q < nK_d} K_d[q,i] K_d[q,j]`, `K_d[q,·] = penaltyRow`). -/
theorem specM_entries (P : FitProblem α) (i j : Nat) (hi : i < P.ncoef) (hj : j < P.ncoef) :
    (specM P).get i j
      = ∑ r ∈ Finset.range P.rows.size, rowW P r * designEntry P r i * designEntry P r j
        + penaltyGram P.dims P.smooth P.porder P.ncoef i j := Mf_eq P i j hi hj

/-- `penaltyGram` written out for one more dimension. -/
theorem penaltyGram_cons (d : Dim α) (ds : List (Dim α)) (l : α) (ls : List α) (p : Nat) (ps : List Nat)
    (N i j : Nat) :
    penaltyGram (d :: ds) (l :: ls) (p :: ps) N i j
      = l * (∑ q ∈ Finset.range ((N / (d.naxes * d.stride)) * (d.naxes - p) * d.stride),
              penaltyRow d.knots d.order p d.naxes d.stride q i
                * penaltyRow d.knots d.order p d.naxes d.stride q j)
        + penaltyGram ds ls ps N i j := rfl

/-- `PenaltyVanishes` written out for one more dimension. -/
theorem penaltyVanishes_cons (d : Dim α) (ds : List (Dim α)) (l : α) (ls : List α) (p : Nat)
    (ps : List Nat) (N : Nat) (c : Nat → α) :
    PenaltyVanishes (d :: ds) (l :: ls) (p :: ps) N c ↔
      (l = 0 ∨ ∀ q < (N / (d.naxes * d.stride)) * (d.naxes - p) * d.stride,
          ∑ i ∈ Finset.range N, penaltyRow d.knots d.order p d.naxes d.stride q i * c i = 0)
        ∧ PenaltyVanishes ds ls ps N c := Iff.rfl

/-- `DerivVanishes` written out for one more dimension. -/
theorem derivVanishes_cons (d : Dim α) (ds : List (Dim α)) (p : Nat) (ps : List Nat) (N : Nat)
    (c : Nat → α) :
    DerivVanishes (d :: ds) (p :: ps) N c ↔
      (∀ a < N / (d.naxes * d.stride), ∀ k < d.naxes - p, ∀ b < d.stride,
          derivCoef d.knots d.order p (fun m => c (a * d.naxes * d.stride + m * d.stride + b)) k = 0)
        ∧ DerivVanishes ds ps N c := Iff.rfl

/-- `r = BᵀWz`. -/
theorem specR_entries (P : FitProblem α) (i : Nat) (hi : i < P.ncoef) :
    (specR P).getD i 0
      = ∑ r ∈ Finset.range P.rows.size, rowW P r * rowZ P r * designEntry P r i := rf_eq P i hi

/-- The normal matrix is symmetric. -/
theorem specM_symmetric (P : FitProblem α) : Symm P.ncoef (Mf P) := specM_symm P

/-- Non-vacuity: the example problem has `M = [[2,−1],[−1,2]]`, `r = (1,1)`. -/
example : exP.ncoef = 2 ∧ Mf exP 0 0 = 2 ∧ Mf exP 0 1 = -1 ∧ Mf exP 1 0 = -1 ∧ Mf exP 1 1 = 2
    ∧ rf exP 0 = 1 ∧ rf exP 1 = 1 :=
  ⟨exP_ncoef, exP_M00, exP_M01, exP_M10, exP_M11, exP_r0, exP_r1⟩

/-- The penalty `Σ_d λ_d Σ (p_d-th derivative coefficients of the lines along d)²` is the quadratic form
of `Σ_d λ_d K_dᵀK_d` (for every problem, every `N`). -/
theorem penalty_as_quadratic (ds : List (Dim α)) (ls : List α) (ps : List Nat) (N : Nat) (c : Nat → α) :
    penaltySum ds ls ps N c = quad N (penaltyGram ds ls ps N) c := penaltySum_eq_quad ds ls ps N c

/-- For every problem `P` (no well-formedness needed) and every coefficient vector `c` the objective of
`PsV/Spec/Fit.lean` equals `cᵀMc − 2rᵀc + Σ_r w_r z_r²` with `M = specM P`, `r = specR P`. -/
theorem objective_as_quadratic (P : FitProblem α) (c : Nat → α) :
    objective P c
      = quad P.ncoef (Mf P) c - 2 * dot P.ncoef (rf P) c
        + ∑ r ∈ Finset.range P.rows.size, rowW P r * rowZ P r ^ 2 := objective_eq_fullObj P c

/-- The quadratic form of the normal matrix is the homogeneous part of the objective,
`vᵀMv = Σ_r w_r (Bv)_r² + Σ_d λ_d ‖K_d v‖²` (so `PosDef` says: no non-zero spline of the space has both
zero weighted data norm and zero penalty). -/
theorem normal_matrix_quadratic_form (P : FitProblem α) (v : Nat → α) :
    quad P.ncoef (Mf P) v
      = ∑ r ∈ Finset.range P.rows.size,
          rowW P r * (∑ i ∈ Finset.range P.ncoef, designEntry P r i * v i) ^ 2
        + penaltySum P.dims P.smooth P.porder P.ncoef v := quad_Mf P v

/-- Non-vacuity: for the example problem the objective is `(1−c₀)² + (1−c₁)² + (c₁−c₀)²` (two data of
weight 1 at the nodes, the datum of weight 0 absent, first-difference penalty). -/
example (c : Nat → Rat) : objective exP c = (1 - c 0) ^ 2 + (1 - c 1) ^ 2 + (c 1 - c 0) ^ 2 := by
  rw [objective_as_quadratic, exP_quad]
  have hk : ∑ r ∈ Finset.range exP.rows.size, rowW exP r * rowZ exP r ^ 2 = 2 := by decide +kernel
  rw [hk, exP_ncoef]
  simp only [dot, Finset.sum_range_succ, Finset.sum_range_zero, exP_r0, exP_r1]
  ring

/-- If the normal matrix is positive definite, then `c` solves `M c = r` iff `c` minimises the objective,
and the minimiser is unique on `[0,N)`. -/
theorem C09_fit_is_minimiser (P : FitProblem α) (c : Nat → α) (hP : PosDef P.ncoef (Mf P)) :
    ((∀ i < P.ncoef, mulVec P.ncoef (Mf P) c i = rf P i) ↔ ∀ c' : Nat → α, objective P c ≤ objective P c')
    ∧ ((∀ i < P.ncoef, mulVec P.ncoef (Mf P) c i = rf P i) →
        ∀ c' : Nat → α, objective P c' ≤ objective P c → ∀ i < P.ncoef, c' i = c i) :=
  fit_is_minimiser P c hP

/-- Non-vacuity: the example normal matrix is positive definite, `c = (1,1)` solves the normal equations,
so it minimises the objective. -/
example : PosDef exP.ncoef (Mf exP) ∧ (∀ i < exP.ncoef, mulVec exP.ncoef (Mf exP) (fun _ => 1) i = rf exP i)
    ∧ ∀ c' : Nat → Rat, objective exP (fun _ => 1) ≤ objective exP c' :=
  ⟨exP_posDef, exP_normal, ((C09_fit_is_minimiser exP _ exP_posDef).1).1 exP_normal⟩

/-- **Characterisation.**  Weights and smoothing strengths non-negative: the normal matrix is positive definite iff the
only coefficient vector whose spline vanishes at every datum of non-zero weight (`fitVal P v r = Σ_i B[r,i] v_i = 0`) and
on which every penalty term with `λ_d ≠ 0` vanishes is the zero vector.  (This is the reason for well-posedness; the
driver's pivots are a per-instance check.) -/
theorem normal_matrix_posDef_iff (P : FitProblem α) (hw : ∀ r < P.rows.size, 0 ≤ rowW P r)
    (hl : ∀ l ∈ P.smooth, 0 ≤ l) :
    PosDef P.ncoef (Mf P) ↔
      ∀ v : Nat → α, (∀ r < P.rows.size, rowW P r ≠ 0 → fitVal P v r = 0) →
        PenaltyVanishes P.dims P.smooth P.porder P.ncoef v → ∀ i < P.ncoef, v i = 0 :=
  posDef_iff_trivial_kernel P hw hl

/-- **Sufficient condition.**  `BᵀWB + Σ_d λ_d K_dᵀK_d` is positive definite when the weights are non-negative and
positive on a set `S` of data rows on which the design matrix has full column rank, and `λ_d ≥ 0` (penalty PSD). -/
theorem normal_matrix_posDef_of_full_rank (P : FitProblem α) (hw : ∀ r < P.rows.size, 0 ≤ rowW P r)
    (hl : ∀ l ∈ P.smooth, 0 ≤ l) (S : Nat → Prop) (hS : ∀ r, S r → r < P.rows.size ∧ 0 < rowW P r)
    (hrank : ∀ v : Nat → α, (∀ r, S r → fitVal P v r = 0) → ∀ i < P.ncoef, v i = 0) :
    PosDef P.ncoef (Mf P) :=
  (posDef_iff_trivial_kernel P hw hl).2 (fun v hv _ =>
    hrank v (fun r hr => hv r (hS r hr).1 (ne_of_gt (hS r hr).2)))

/-- A positive-definite system of normal equations has a solution (finite dimension: injective ⇒ surjective). -/
theorem normal_eq_solvable (P : FitProblem α) (hP : PosDef P.ncoef (Mf P)) :
    ∃ c : Nat → α, ∀ i < P.ncoef, mulVec P.ncoef (Mf P) c i = rf P i := posDef_solvable hP (rf P)

/-- **Well-posed problems have exactly one minimiser, and it is the solution of the normal equations.**  Under the
sufficient condition above there is a coefficient vector `c` with `M c = r`; it minimises the penalised weighted
least-squares objective of the property, and every minimiser agrees with it on `[0, N)`. -/
theorem C09_wellposed_unique_minimiser (P : FitProblem α) (hw : ∀ r < P.rows.size, 0 ≤ rowW P r)
    (hl : ∀ l ∈ P.smooth, 0 ≤ l) (S : Nat → Prop) (hS : ∀ r, S r → r < P.rows.size ∧ 0 < rowW P r)
    (hrank : ∀ v : Nat → α, (∀ r, S r → fitVal P v r = 0) → ∀ i < P.ncoef, v i = 0) :
    ∃ c : Nat → α, (∀ i < P.ncoef, mulVec P.ncoef (Mf P) c i = rf P i)
      ∧ (∀ c' : Nat → α, objective P c ≤ objective P c')
      ∧ ∀ c' : Nat → α, objective P c' ≤ objective P c → ∀ i < P.ncoef, c' i = c i := by
  have hP := normal_matrix_posDef_of_full_rank P hw hl S hS hrank
  obtain ⟨c, hc⟩ := posDef_solvable hP (rf P)
  exact ⟨c, hc, unique_minimiser_of_normal_eq P c hP hc⟩

/-- Non-vacuity: in `exP` the weights are `1, 1, 0`, `λ = 1`, and on the rows `S = {0, 1}` the design matrix is the
2 × 2 identity, so it has full column rank there. -/
example : (∀ r < exP.rows.size, 0 ≤ rowW exP r) ∧ (∀ l ∈ exP.smooth, 0 ≤ l)
    ∧ (∀ r, (r = 0 ∨ r = 1) → r < exP.rows.size ∧ 0 < rowW exP r)
    ∧ (∀ v : Nat → Rat, (∀ r, (r = 0 ∨ r = 1) → fitVal exP v r = 0) → ∀ i < exP.ncoef, v i = 0) := by
  have e00 : designEntry exP 0 0 = 1 := by decide +kernel
  have e01 : designEntry exP 0 1 = 0 := by decide +kernel
  have e10 : designEntry exP 1 0 = 0 := by decide +kernel
  have e11 : designEntry exP 1 1 = 1 := by decide +kernel
  refine ⟨by decide +kernel, by decide +kernel, ?_, ?_⟩
  · rintro r (rfl | rfl) <;> exact ⟨by decide, by decide +kernel⟩
  · intro v hv i hi
    rw [exP_ncoef] at hi
    have h0 := hv 0 (Or.inl rfl)
    have h1 := hv 1 (Or.inr rfl)
    simp only [fitVal, exP_ncoef, Finset.sum_range_succ, Finset.sum_range_zero, e00, e01, e10, e11, one_mul,
      zero_mul, zero_add, add_zero] at h0 h1
    have : i = 0 ∨ i = 1 := by omega
    rcases this with rfl | rfl
    · exact h0
    · exact h1

/-- **The driver's verdict is a certificate.**  `psvdriver C09` classifies a generated problem as well-posed when the exact
elimination `specFit P = solveSPD (specM P) (specR P)` (no pivoting, stops at the first non-positive pivot) succeeds.
If it succeeds the normal matrix IS positive definite (completing the square along the Schur complements), so every theorem
of this file that assumes `PosDef` applies to every instance the check judges. -/
theorem specFit_certifies_posDef (P : FitProblem α) (c : Array α) (h : specFit P = some c) :
    PosDef P.ncoef (Mf P) := solveSPD_posDef (specM P) (specR P) c (specM_symm P) h

/-- Non-vacuity: the elimination succeeds on `exP`. -/
example : ∃ c, specFit exP = some c := ⟨_, exP_specFit⟩

/-- Dropping the data rows with `w = 0` changes neither the normal matrix, nor the right-hand side, nor
the objective. -/
theorem zero_weight_irrelevant (P : FitProblem α) :
    let P' : FitProblem α := { P with rows := P.rows.filter (fun row => !isZero row.w) }
    P'.ncoef = P.ncoef ∧ (∀ i < P.ncoef, ∀ j < P.ncoef, Mf P' i j = Mf P i j)
      ∧ (∀ i < P.ncoef, rf P' i = rf P i) ∧ ∀ c : Nat → α, objective P' c = objective P c :=
  rowsEquiv_same P _ (rowsEquiv_filter P)

/-- Non-vacuity: the example problem has three data rows, one of weight 0 (with `z = 5`, off the fit). -/
example : exP.rows.size = 3 ∧ (exP.rows.filter (fun row => !isZero row.w)).size = 2 := by
  decide +kernel

/-- Permuting the data rows changes neither the normal matrix, nor the right-hand side, nor the objective. -/
theorem perm_invariant (P P' : FitProblem α) (hd : P'.dims = P.dims) (hc : P'.coords = P.coords)
    (hs : P'.smooth = P.smooth) (hp : P'.porder = P.porder)
    (hperm : P'.rows.toList.Perm P.rows.toList) :
    P'.ncoef = P.ncoef ∧ (∀ i < P.ncoef, ∀ j < P.ncoef, Mf P' i j = Mf P i j)
      ∧ (∀ i < P.ncoef, rf P' i = rf P i) ∧ ∀ c : Nat → α, objective P' c = objective P c :=
  rowsEquiv_same P P' ⟨hd, hc, hs, hp, fun g _ => (hperm.map g).sum_eq⟩

/-- Non-vacuity: `exPperm` is `exP` with the first two data rows exchanged. -/
example : exPperm.dims = exP.dims ∧ exPperm.coords = exP.coords ∧ exPperm.smooth = exP.smooth
    ∧ exPperm.porder = exP.porder ∧ exPperm.rows.toList.Perm exP.rows.toList :=
  ⟨rfl, rfl, rfl, rfl, List.Perm.swap _ _ _⟩

/-- Without smoothing (`λ_d = 0` in every dimension) data generated by a spline on the same knots (at
every datum of non-zero weight) make that spline's coefficients a solution of the normal equations: the
fit is the weighted least-squares projection. -/
theorem reproduces_spline (P : FitProblem α) (c0 : Nat → α) (hl : ∀ l ∈ P.smooth, l = 0)
    (hz : ∀ r < P.rows.size, rowW P r ≠ 0 →
      rowZ P r = ∑ i ∈ Finset.range P.ncoef, designEntry P r i * c0 i) :
    ∀ i < P.ncoef, mulVec P.ncoef (Mf P) c0 i = rf P i :=
  normal_eq_of_generated P c0 hz (penaltyVanishes_of_all_zero _ _ _ _ _ hl)

/-- … and when the normal matrix is positive definite it is the unique minimiser. -/
theorem lambda0_projection (P : FitProblem α) (c0 : Nat → α) (hl : ∀ l ∈ P.smooth, l = 0)
    (hz : ∀ r < P.rows.size, rowW P r ≠ 0 →
      rowZ P r = ∑ i ∈ Finset.range P.ncoef, designEntry P r i * c0 i)
    (hP : PosDef P.ncoef (Mf P)) :
    (∀ c' : Nat → α, objective P c0 ≤ objective P c')
      ∧ ∀ c' : Nat → α, objective P c' ≤ objective P c0 → ∀ i < P.ncoef, c' i = c0 i :=
  unique_minimiser_of_normal_eq P c0 hP (reproduces_spline P c0 hl hz)

/-- Non-vacuity: `exP0` (= `exP` with `λ = 0`) has data generated by `c0 = (1,1)` at the data of
non-zero weight. -/
example : (∀ l ∈ exP0.smooth, l = 0) ∧ ∀ r < exP0.rows.size, rowW exP0 r ≠ 0 →
    rowZ exP0 r = ∑ i ∈ Finset.range exP0.ncoef, designEntry exP0 r i * (fun _ => (1 : Rat)) i := by
  decide +kernel

/-- Data generated by `c0`, and in every dimension either `λ_d = 0` or every row of `K_d` vanishes on
`c0` (`PenaltyVanishes`): then `c0` solves the normal equations, for every smoothing strength. -/
theorem penalty_free_data_reproduced (P : FitProblem α) (c0 : Nat → α)
    (hz : ∀ r < P.rows.size, rowW P r ≠ 0 →
      rowZ P r = ∑ i ∈ Finset.range P.ncoef, designEntry P r i * c0 i)
    (hpen : PenaltyVanishes P.dims P.smooth P.porder P.ncoef c0) :
    ∀ i < P.ncoef, mulVec P.ncoef (Mf P) c0 i = rf P i :=
  normal_eq_of_generated P c0 hz hpen

/-- If the data are generated by `c0` and the `p_d`-th derivative coefficients (`derivCoef`) of every line of `c0` along
every dimension `d` vanish (`DerivVanishes`), then `c0` solves the normal equations whatever `P.smooth` is (hence is the
unique minimiser when `M` is positive definite, by `C09_fit_is_minimiser`).  The statements about polynomial data
(`poly_below_penalty_reproduced`, `poly_sum_below_penalty_reproduced`, `constant_data_reproduced`,
`poly_any_degree_below_penalty_reproduced`) apply the same argument (`Reproduces.normal_eq`) to an explicit `c0`: a polynomial
of degree `< p_d ≤ order_d` in every variable has such a coefficient vector on the fully supported range (Marsden's identity).
(Despite its name this is the general lemma, not a partial result.) -/
theorem poly_below_penalty_reproduced_partial (P : FitProblem α) (c0 : Nat → α)
    (hz : ∀ r < P.rows.size, rowW P r ≠ 0 →
      rowZ P r = ∑ i ∈ Finset.range P.ncoef, designEntry P r i * c0 i)
    (hder : DerivVanishes P.dims P.porder P.ncoef c0) :
    ∀ i < P.ncoef, mulVec P.ncoef (Mf P) c0 i = rf P i :=
  normal_eq_of_generated P c0 hz (penaltyVanishes_of_deriv _ _ _ _ _ hder)

/-- **Polynomial data of degree below the penalty order are reproduced for every smoothing strength** — proved for
products of affine factors `z = Π_d (a_d + b_d x_d)` (degree ≤ 1 in each variable; `qs = [(a_d, b_d)]`).
Hypotheses: C-ordered strides; one coordinate vector and one penalty order per dimension; sorted knots (repeated knots
allowed); in every dimension the degree of the factor is below the penalty order (`PolyDegOK`: `b_d = 0 ∧ p_d ≥ 1`, or
`p_d ≥ 2`, `order_d ≥ 1` and interior knots of multiplicity at most `order_d`); every datum of non-zero weight lies in the fully
supported range `Π_d [knots_d[order_d], knots_d[naxes_d])` and carries the polynomial's value (`PolyData`).
Conclusion: the explicit coefficient vector `polyCoef P.dims qs`, `c_i = Π_d (a_d + b_d ξ_{d,i_d})` with `ξ` the Greville
abscissae, solves the normal equations whatever `P.smooth` is — no existence hypothesis left.  It is the theorem behind the
any-degree statement below, `reproduces_polyCoefG`, read for the coefficient lists `[a_d, b_d]` (`reproduces_polyCoef`):
`PolyDegOK` is, monomial by monomial, what that theorem needs (`MonoOK`).  (The any-degree statement of this file asks more,
`PolyDegOKG`: spans for every `q < p_d`, so it does not contain this one.) -/
theorem poly_below_penalty_reproduced (P : FitProblem α) (qs : List (α × α))
    (hst : StridesRowMajor P.dims) (hc : P.coords.length = P.dims.length) (hq : qs.length = P.dims.length)
    (hp : P.porder.length = P.dims.length) (hsorted : KnotsSorted P.dims)
    (hdeg : PolyDegOK P.dims qs P.porder) (hz : PolyData P qs) :
    ∀ i < P.ncoef, mulVec P.ncoef (Mf P) (polyCoef P.dims qs) i = rf P i :=
  (reproduces_polyCoef P.dims qs P.porder hst hq hp hsorted hdeg).normal_eq hc hz

/-- … and for finite sums of such products, i.e. for **every polynomial of degree ≤ 1 in each variable** whose degree in
`x_d` is below `p_d` (a polynomial of coordinate degree ≤ 1 is a sum of products of affine factors). -/
theorem poly_sum_below_penalty_reproduced (P : FitProblem α) (terms : List (List (α × α)))
    (hst : StridesRowMajor P.dims) (hc : P.coords.length = P.dims.length)
    (hp : P.porder.length = P.dims.length) (hsorted : KnotsSorted P.dims)
    (hterms : ∀ qs ∈ terms, qs.length = P.dims.length ∧ PolyDegOK P.dims qs P.porder)
    (hz : PolyDataSum P terms) :
    ∀ i < P.ncoef, mulVec P.ncoef (Mf P) (polyCoefSum P.dims terms) i = rf P i :=
  (reproduces_polyCoefSum P.dims terms P.porder hst hp hsorted hterms).normal_eq hc hz

/-- Degree 0 spelled out: constant data `z = a` (at the data of non-zero weight, inside the fully supported range) with
every penalty order at least 1 are reproduced by the constant coefficient vector, for every smoothing strength. -/
theorem constant_data_reproduced (P : FitProblem α) (a : α) (hne : P.dims ≠ [])
    (hst : StridesRowMajor P.dims) (hc : P.coords.length = P.dims.length)
    (hp : P.porder.length = P.dims.length) (hsorted : KnotsSorted P.dims) (hp1 : ∀ p ∈ P.porder, 1 ≤ p)
    (hz : ∀ r < P.rows.size, rowW P r ≠ 0 →
      ∃ xs, rowPoint P r = some xs ∧ InSupport P.dims xs ∧ rowZ P r = a) :
    ∀ i < P.ncoef, mulVec P.ncoef (Mf P) (fun _ => a) i = rf P i := by
  exact (reproduces_const P.dims P.porder a hst hp hsorted hp1).normal_eq hc hz

/-- … hence, when the normal matrix is positive definite, the fit of polynomial data is that polynomial's coefficient
vector: it is the unique minimiser (for every smoothing strength). -/
theorem poly_below_penalty_unique_minimiser (P : FitProblem α) (qs : List (α × α))
    (hst : StridesRowMajor P.dims) (hc : P.coords.length = P.dims.length) (hq : qs.length = P.dims.length)
    (hp : P.porder.length = P.dims.length) (hsorted : KnotsSorted P.dims)
    (hdeg : PolyDegOK P.dims qs P.porder) (hz : PolyData P qs) (hP : PosDef P.ncoef (Mf P)) :
    (∀ c' : Nat → α, objective P (polyCoef P.dims qs) ≤ objective P c')
      ∧ ∀ c' : Nat → α, objective P c' ≤ objective P (polyCoef P.dims qs) →
          ∀ i < P.ncoef, c' i = polyCoef P.dims qs i :=
  unique_minimiser_of_normal_eq P _ hP (poly_below_penalty_reproduced P qs hst hc hq hp hsorted hdeg hz)

/-- Non-vacuity: `polyP` — two dimensions, orders 2 × 1, 3 × 2 coefficients, penalty order 2 and `λ = (3, 1/2)`, four data
on the polynomial `(1 + 2x)(3 − y)` inside the fully supported range plus one datum of weight 0 off it — satisfies every
hypothesis; so `c_i = (1 + 2ξ_{i_0})(3 − η_{i_1})` solves its normal equations. -/
example : StridesRowMajor polyP.dims ∧ polyP.coords.length = polyP.dims.length
    ∧ polyQs.length = polyP.dims.length ∧ polyP.porder.length = polyP.dims.length ∧ KnotsSorted polyP.dims
    ∧ PolyDegOK polyP.dims polyQs polyP.porder ∧ PolyData polyP polyQs :=
  ⟨polyP_strides, rfl, rfl, rfl, polyP_sorted, polyP_degOK, polyP_data⟩

example : ∀ i < polyP.ncoef, mulVec polyP.ncoef (Mf polyP) (polyCoef polyP.dims polyQs) i = rf polyP i :=
  poly_below_penalty_reproduced polyP polyQs polyP_strides rfl rfl rfl polyP_sorted polyP_degOK polyP_data

/-- Non-vacuity (sum of products, constants): the same problem read as the sum of the two products
`(1 + 2x)·3` and `(1 + 2x)·(−y)`; and `exP` has constant data `z = 1`, penalty order 1. -/
example : (∀ qs ∈ [[((1 : Rat), (2 : Rat)), (3, 0)], [(1, 2), (0, -1)]],
      qs.length = polyP.dims.length ∧ PolyDegOK polyP.dims qs polyP.porder) := by
  intro qs hqs
  simp only [List.mem_cons, List.not_mem_nil, or_false] at hqs
  rcases hqs with rfl | rfl
  · exact ⟨rfl, polyP_degOK.1, Or.inl ⟨rfl, by decide⟩, trivial⟩
  · exact ⟨rfl, polyP_degOK.1, polyP_degOK.2.1, trivial⟩

example : exP.dims ≠ [] ∧ StridesRowMajor exP.dims ∧ exP.coords.length = exP.dims.length
    ∧ exP.porder.length = exP.dims.length ∧ (∀ p ∈ exP.porder, 1 ≤ p) := by
  refine ⟨by simp [exP], rfl, rfl, rfl, ?_⟩
  intro p hp
  have : p = 1 := by simpa [exP] using hp
  omega

/-- **Polynomial data of degree below the penalty order are reproduced for every smoothing strength — any degree.**
The data are values of `Σ_terms Π_d (Σ_j a_{d,j} x_d^j)` (`terms`: per term and dimension the list of monomial
coefficients; every polynomial is such a sum), each factor of degree `< p_d` and `≤ order_d` (`PolyDegOKG`, which also asks
that the knot spans the derivative recurrence divides by are non-degenerate: `knots[m+q+1] ≠ knots[m+order+1]` for
`q < p_d`, i.e. interior knots of multiplicity at most `order_d − p_d + 1`), at points of the fully supported range.
Then the explicit coefficient vector given by Marsden's identity, `c_i = Σ_terms Π_d Σ_j a_{d,j}·e_j(t_{i_d+1..i_d+order})/C(order, j)`
(`polyCoefGSum`), solves the normal equations whatever `P.smooth` is.  It rests on Marsden's identity
(`Bind_sum_monomial`) and the vanishing of the `p`-th derivative coefficients of the dual coefficients of `x^j`, `j < p`
(`derivCoef_monomial'`, which needs the spans for `q < j` only: `reproduces_polyCoefGSum` holds under `PolyDegSharp`). -/
theorem poly_any_degree_below_penalty_reproduced (P : FitProblem α) (terms : List (List (List α)))
    (hst : StridesRowMajor P.dims) (hc : P.coords.length = P.dims.length)
    (hp : P.porder.length = P.dims.length) (hsorted : KnotsSorted P.dims)
    (hterms : ∀ ass ∈ terms, ass.length = P.dims.length ∧ PolyDegOKG P.dims ass P.porder)
    (hz : PolyDataG P terms) :
    ∀ i < P.ncoef, mulVec P.ncoef (Mf P) (polyCoefGSum P.dims terms) i = rf P i :=
  (reproduces_polyCoefGSum P.dims terms P.porder hst hp hsorted
    (fun ass h => ⟨(hterms ass h).1, polyDegSharp_of_G _ _ _ (hterms ass h).2⟩)).normal_eq hc hz

/-- … and it is the unique minimiser when the normal matrix is positive definite. -/
theorem poly_any_degree_unique_minimiser (P : FitProblem α) (terms : List (List (List α)))
    (hst : StridesRowMajor P.dims) (hc : P.coords.length = P.dims.length)
    (hp : P.porder.length = P.dims.length) (hsorted : KnotsSorted P.dims)
    (hterms : ∀ ass ∈ terms, ass.length = P.dims.length ∧ PolyDegOKG P.dims ass P.porder)
    (hz : PolyDataG P terms) (hP : PosDef P.ncoef (Mf P)) :
    (∀ c' : Nat → α, objective P (polyCoefGSum P.dims terms) ≤ objective P c')
      ∧ ∀ c' : Nat → α, objective P c' ≤ objective P (polyCoefGSum P.dims terms) →
          ∀ i < P.ncoef, c' i = polyCoefGSum P.dims terms i :=
  unique_minimiser_of_normal_eq P _ hP (poly_any_degree_below_penalty_reproduced P terms hst hc hp hsorted hterms hz)

/-- Non-vacuity: `polyP2` — orders 3 × 1, 5 × 2 coefficients, penalty orders (3, 2), `λ = (2, 5)`, four data on
`x²(1 − y) + 3` inside the fully supported range `[3,5) × [1,2)` plus one datum of weight 0 off it — satisfies every
hypothesis. -/
example : StridesRowMajor polyP2.dims ∧ polyP2.coords.length = polyP2.dims.length
    ∧ polyP2.porder.length = polyP2.dims.length ∧ KnotsSorted polyP2.dims
    ∧ (∀ ass ∈ polyTerms2, ass.length = polyP2.dims.length ∧ PolyDegOKG polyP2.dims ass polyP2.porder)
    ∧ PolyDataG polyP2 polyTerms2 :=
  ⟨polyP2_strides, rfl, rfl, polyP2_sorted, polyP2_terms, polyP2_data⟩

/-- Non-vacuity: in `exP` (`λ = 1`, penalty order 1) the constant data `z = 1` (degree 0 < 1) at the data
of non-zero weight are generated by `c0 = (1,1)`, whose first-derivative coefficient vanishes. -/
example : (∀ r < exP.rows.size, rowW exP r ≠ 0 →
      rowZ exP r = ∑ i ∈ Finset.range exP.ncoef, designEntry exP r i * (fun _ => (1 : Rat)) i)
    ∧ DerivVanishes exP.dims exP.porder exP.ncoef (fun _ => (1 : Rat)) := by
  refine ⟨by decide +kernel, ?_⟩
  refine ⟨?_, trivial⟩
  intro a _ k _ b _
  simp [derivCoef, exDim, Arith.div, Arith.mul, Arith.sub]

/-- `divided_diffs(order, p, j, knots, out)` of glam.c, applied to a coefficient vector, yields coefficient `j` of the
p-th derivative in the basis of order `order − p` (de Boor's recurrence `derivCoef`).  The code divides by
`delta = (t_{j+order+1} − t_{j+p})/(order − (p−1))`, the recurrence multiplies by `order − (p−1)` and divides by the knot
difference: the same number in every field, also when a knot difference vanishes (both are 0).  Hence `‖D c‖²` of the
code's finite-difference matrix IS the sum of squares of the B-spline coefficients of the p-th derivative: the scaling
of the code matches the statement of the property (no constant factor). -/
theorem penalty_dividedDiffs_eq_derivCoeffs (t : Int → α) (order p j : Nat) (c : Nat → α) :
    ∑ i ∈ Finset.range (p+1), (dividedDiffs t order p j).getD i 0 * c (j + i) = derivCoef t order p c j :=
  dividedDiffs_eq_derivCoeffs t order p j c

/-- row `r` of the `(n−p) × n` matrix `finitediff` of `calc_penalty` maps `c` to its p-th derivative coefficient `r`. -/
theorem finiteDiff_row_is_derivCoef (t : Int → α) (order p n r : Nat) (c : Nat → α) (hr : r < n - p) :
    ∑ c' ∈ Finset.range n, (finiteDiff t order p n).get r c' * c c' = derivCoef t order p c r :=
  finiteDiff_row t order p n r c hr

/-- one application of `derivCoef` gives `order·(c_{j+1} − c_j)/(t_{j+1+order} − t_{j+1})` … -/
theorem derivCoef_one_formula (t : Int → α) (n : Nat) (c : Nat → α) (j : Nat) :
    derivCoef t (n+1) 1 c j
      = ((n+1 : Nat) : α) * (c (j+1) - c j) / (t (((j : Int) + 1) + n + 1) - t ((j : Int) + 1)) :=
  derivCoef_one t n c j

/-- … and these are the coefficients of the derivative in the basis of order `n`: the derivative of `Σ_{i<N} c_i B_{i,n+1}`
(`Dind … 1`, the knot-difference formula of the evaluation spec) is `Σ_{j<N−1} c'_j B_{j+1,n}` plus two boundary terms
that involve only `B_{0,n}` and `B_{N,n}`, which vanish on the fully supported range `[t_{n+1}, t_N)`. -/
theorem derivCoef_is_derivative (ind : Int → Bool) (t : Int → α) (x : α) (n : Nat) (c : Nat → α)
    (N : Nat) (hN : 1 ≤ N) :
    ∑ i ∈ Finset.range N, c i * Dind ind t x 1 (n+1) (i : Int)
      = ∑ j ∈ Finset.range (N-1), derivCoef t (n+1) 1 c j * Bind ind t x n ((j : Int) + 1)
        + c 0 * ((n+1 : Nat) : α) * Bind ind t x n 0 / (t ((n : Int) + 1) - t 0)
        - c (N-1) * ((n+1 : Nat) : α) * Bind ind t x n (N : Int) / (t ((N : Int) + n + 1) - t (N : Int)) :=
  derivCoef_one_is_derivative ind t x n c N hN

/-- non-vacuity: the weights for uniform knots are the familiar `[1, -2, 1]`. -/
example : dividedDiffs (fun i => (i : Rat)) 3 2 0 = [1, -2, 1] := by decide +kernel

/-- `M` symmetric positive definite: `M c = r` ⇔ `c` minimises `½cᵀMc − rᵀc`; the minimiser is unique. -/
theorem normal_eq_minimises {n : Nat} {M : Nat → Nat → α} {r c : Nat → α} (hS : Symm n M) (hP : PosDef n M) :
    ((∀ i < n, mulVec n M c i = r i) ↔ (∀ c' : Nat → α, halfObj n M r c ≤ halfObj n M r c'))
    ∧ ((∀ i < n, mulVec n M c i = r i) → ∀ c' : Nat → α, halfObj n M r c' ≤ halfObj n M r c → ∀ i < n, c' i = c i) :=
  ⟨NormalEq.normal_eq_minimises hS hP, fun h _ hle => NormalEq.minimiser_unique hS hP h hle⟩

example : Symm 2 NormalEq.M2 := NormalEq.M2_symm

end
end PsV
