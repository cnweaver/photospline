import PsV.Proofs.Bridge
import PsV.Proofs.RoundingDeriv
/-!
# C01 — evaluation equals the tensor-product B-spline sum it represents

`ndsplineeval` (model of the C++ routine: margin loops, de Boor recurrence, re-indexing, block walk)
equals `specEval` (sum over **all** stored coefficients of coefficient × Π Cox–de Boor basis
functions with the knot convention of the property), for every number of dimensions, every order,
every admissible knot vector (minimum length included, repeated knots included, arbitrary padding
values) and every point the lookup accepts — over any linearly ordered field (`Rat` is what the
driver runs).

**Rounding**: the same model run with every operation and every store rounded (any roundings of relative error ≤ ε:
the standard model of IEEE arithmetic without underflow/overflow, `C01_standard_model`) differs from the exact value by
at most `((1+ε)^K − 1)·Σ|coef|·ΠB`, `K = 3 + ndim(7·maxorder+3) + 2·Π(order_d+1)`.  `C01_rounding_envelope_partial`:
against the exact model, at every point of a knot interval of the fully supported range (`AllInterior`);
`C01_rounding_envelope_all_partial`: against the specification, at every point the lookup accepts (margins, knots)
under the hypotheses of the exact theorem; `C01_rounded_eval_near_spec_partial` is the latter with `AllInterior` asked
for in addition.  `C01_envelope_linear`: `(1+ε)^K − 1 ≤ 2Kε` when `2Kε ≤ 1`, which
is below the envelope `4(N+4·ndim·(maxorder+1))·u·S` the correspondence check allows.  Partial: underflow/overflow and
derivatives of order ≥ 2 are not covered and stay with the measured envelope (first derivatives and gradients are
`C02_rounding_envelope_partial`, `C02_gradient_rounding_envelope`); the degenerate upper end is excluded as in the exact theorem.
-/
namespace PsV
variable {α : Type} [Field α] [LinearOrder α]
attribute [local instance] Arith.ofField

/-- **C01.**  For a well-formed table and a point at which the centre lookup succeeds, the evaluated
value is the sum over all coefficients of coefficient × product of Cox–de Boor basis functions.
Hypothesis `AllNonDegenerate` excludes exactly one configuration: `x` equal to the upper end
`knots[naxes]` of the fully supported range *and* `knots[naxes-1] = knots[naxes]` (an empty last
interval); there the code divides 0/0 (known finding, see `C01_degenerate_upper_end`). -/
theorem C01_eval_eq_spec_partial (T : Table α) (xs : List α) (cs : List Nat) (hwf : T.WF)
    (hlen : T.dims.length = xs.length) (hnd : AllNonDegenerate T.dims xs)
    (hs : @searchCenters α (cmpLO α) (T.dims.map Dim.axis) xs = .ok cs) :
    ndsplineeval T xs cs 0 = specEval T xs (List.replicate T.dims.length .value) :=
  ndsplineeval_eq_specEval T xs cs (allOK_of_search T.dims xs cs hwf.dims hlen hnd hs) hwf.stride

/-- **Partition of unity.**  A table whose coefficients are all one evaluates to one at every
accepted point of the fully supported region `knots[order] ≤ x ≤ knots[naxes]` (every dimension). -/
theorem C01_ones (T : Table α) (xs : List α) (cs : List Nat) (hwf : T.WF)
    (hlen : T.dims.length = xs.length) (hnd : AllNonDegenerate T.dims xs)
    (hs : @searchCenters α (cmpLO α) (T.dims.map Dim.axis) xs = .ok cs)
    (hones : ∀ i, T.coef i = 1) (hfull : AllFull T.dims xs) :
    ndsplineeval T xs cs 0 = 1 :=
  ndsplineeval_ones T xs cs (allOK_of_search T.dims xs cs hwf.dims hlen hnd hs) hwf.stride hones hfull

/-- The call operator returns zero when the lookup fails and the evaluated value otherwise; on a
well-formed table it always returns (the lookup terminates). -/
theorem C01_callOp (T : Table α) (xs : List α) (hwf : T.WF) :
    (∀ cs, @searchCenters α (cmpLO α) (T.dims.map Dim.axis) xs = .ok cs →
        callOp T xs = some (ndsplineeval T xs cs 0)) ∧
    (@searchCenters α (cmpLO α) (T.dims.map Dim.axis) xs = .reject → callOp T xs = some 0) ∧
    callOp T xs ≠ none := by
  unfold callOp
  refine ⟨fun cs h => by rw [h], fun h => by rw [h]; rfl, ?_⟩
  cases h : @searchCenters α (cmpLO α) (T.dims.map Dim.axis) xs with
  | nonterm => exact absurd h (searchCenters_ne_nonterm_of_wf T hwf xs)
  | reject => nofun
  | ok cs => nofun

end PsV

namespace PsV

/-- the instance the driver executes for the exact part is the field instance the theorems use -/
theorem C01_driver_instance : (inferInstance : Arith Rat) = Arith.ofField Rat := instArithRat_eq

/-- order 1, knots 0,1,2,2,3 (naxes = 3, `knots[2] = knots[3]`): the configuration excluded above -/
def degTable : Table Rat :=
  ⟨[⟨1, 5, 3, 1, fun i => if i ≤ 0 then 0 else if i = 1 then 1 else if i = 2 then 2 else if i = 3 then 2 else 3⟩],
   fun i => if i = 1 then 5 else if i = 2 then 7 else 1⟩

/-- **Known finding (code as it is).**  At `x = knots[naxes]` with `knots[naxes-1] = knots[naxes]` the
routine evaluates on the empty interval: the exact model yields `0` (IEEE yields NaN) while the
specification (piece to the left of the knot) yields `5`. -/
theorem C01_degenerate_upper_end :
    @searchCenters Rat (cmpLO Rat) (degTable.dims.map Dim.axis) [2] = .ok [2] ∧
    ndsplineeval degTable [2] [2] 0 = 0 ∧ specEval degTable [2] [.value] = 5 := by
  refine ⟨by decide +kernel, ?_, by decide +kernel⟩
  have h : rows degTable.dims [2] [2] (maskModes degTable.dims.length 0) = [(1, [0, 0])] := by decide +kernel
  simp only [ndsplineeval, evalModes, h, walk, walkLast]
  decide +kernel

/-- Non-vacuity: a concrete well-formed 1-d table (order 2, knots 0..6, stride 1) with an accepted,
non-degenerate point. -/
example : (⟨[⟨2, 7, 4, 1, fun i => (i : Rat)⟩], fun _ => 1⟩ : Table Rat).WF ∧
    AllNonDegenerate [(⟨2, 7, 4, 1, fun i => (i : Rat)⟩ : Dim Rat)] [(7/2 : Rat)] ∧
    @searchCenters Rat (cmpLO Rat) [Dim.axis (⟨2, 7, 4, 1, fun i => (i : Rat)⟩ : Dim Rat)] [(7/2 : Rat)] = .ok [3] := by
  exact ⟨⟨fun d hd => List.mem_singleton.mp hd ▸ dimWF_intKnots 2 7 1 (by decide), rfl⟩,
    ⟨Or.inl (by norm_num), trivial⟩, by decide +kernel⟩

end PsV

namespace PsV
section rounding
variable {F : Type} [Field F] [LinearOrder F] [IsStrictOrderedRing F] {ε : F} {fl st : F → F}

/-- the standard model `fl(a) = a(1+δ)`, `|δ| ≤ u < 1`, is a rounding of relative error `ε = u/(1-u)` -/
theorem C01_standard_model (u a δ : F) (hu0 : 0 ≤ u) (hu1 : u < 1) (hδ : |δ| ≤ u) :
    RelErr (u / (1 - u)) 1 a (a * (1 + δ)) :=
  RelErr.of_standard_model u a δ hu1 hδ

/-- **Forward error bound for the evaluation routine** (model at rounded arithmetic vs the same model exact). -/
theorem C01_rounding_envelope_partial (hε : 0 ≤ ε) (hfl : ∀ a, RelErr ε 1 a (fl a)) (hst : ∀ a, RelErr ε 1 a (st a))
    (T : Table F) (xs : List F) (cs : List Nat) (n : Nat)
    (hint : AllInterior T.dims xs cs) (hn : ∀ d ∈ T.dims, d.order ≤ n) :
    |@ndsplineeval F (Arith.rounded fl st) T xs cs 0 - @ndsplineeval F (Arith.ofField F) T xs cs 0| ≤
      gfac ε (3 + T.dims.length * (7 * n + 3) + 2 * blockSize T.dims) *
        @ndsplineeval F (Arith.ofField F) ⟨T.dims, fun i => |T.coef i|⟩ xs cs 0 := by
  have h := (ndsplineeval_mask_rounding hε hfl hst T xs cs n 0 hint hn).1
  rwa [@ndsplineevalAbs_zero F (Arith.ofField F)] at h

/-- **Forward error bound at every accepted point** — interior, both partially supported margins, exactly
on knots: the hypotheses are those of `C01_eval_eq_spec_partial`.  (In the margins the recurrences also
produce entries of absent basis functions from the padding around the knot array; they carry no bound, are
discarded by the re-indexing, and the kept entries never depend on them — `bsplvbSimple_relerr_all`.) -/
theorem C01_rounding_envelope_all_partial (hε : 0 ≤ ε) (hfl : ∀ a, RelErr ε 1 a (fl a)) (hst : ∀ a, RelErr ε 1 a (st a))
    (T : Table F) (xs : List F) (cs : List Nat) (n : Nat) (hwf : T.WF)
    (hlen : T.dims.length = xs.length) (hnd : AllNonDegenerate T.dims xs)
    (hs : @searchCenters F (cmpLO F) (T.dims.map Dim.axis) xs = .ok cs) (hn : ∀ d ∈ T.dims, d.order ≤ n) :
    |@ndsplineeval F (Arith.rounded fl st) T xs cs 0
        - @specEval F (Arith.ofField F) T xs (List.replicate T.dims.length .value)| ≤
      gfac ε (3 + T.dims.length * (7 * n + 3) + 2 * blockSize T.dims) *
        @specEval F (Arith.ofField F) ⟨T.dims, fun i => |T.coef i|⟩ xs (List.replicate T.dims.length .value) := by
  have hok := allOK_of_search T.dims xs cs hwf.dims hlen hnd hs
  have h := (ndsplineeval_rounding_all hε hfl hst T xs cs n hok hn).1
  rw [C01_eval_eq_spec_partial T xs cs hwf hlen hnd hs] at h
  have habs := C01_eval_eq_spec_partial (⟨T.dims, fun i => |T.coef i|⟩ : Table F) xs cs ⟨hwf.dims, hwf.stride⟩ hlen hnd hs
  rw [habs] at h
  exact h

/-- `C01_rounding_envelope_all_partial` at a point of the fully supported range: rounded evaluation is within the envelope
of the tensor-product sum, the envelope being the sum of the magnitudes of its terms (`hint` is not needed). -/
theorem C01_rounded_eval_near_spec_partial (hε : 0 ≤ ε) (hfl : ∀ a, RelErr ε 1 a (fl a)) (hst : ∀ a, RelErr ε 1 a (st a))
    (T : Table F) (xs : List F) (cs : List Nat) (n : Nat) (hwf : T.WF)
    (hlen : T.dims.length = xs.length) (hnd : AllNonDegenerate T.dims xs)
    (hs : @searchCenters F (cmpLO F) (T.dims.map Dim.axis) xs = .ok cs)
    (hint : AllInterior T.dims xs cs) (hn : ∀ d ∈ T.dims, d.order ≤ n) :
    |@ndsplineeval F (Arith.rounded fl st) T xs cs 0
        - @specEval F (Arith.ofField F) T xs (List.replicate T.dims.length .value)| ≤
      gfac ε (3 + T.dims.length * (7 * n + 3) + 2 * blockSize T.dims) *
        @specEval F (Arith.ofField F) ⟨T.dims, fun i => |T.coef i|⟩ xs (List.replicate T.dims.length .value) :=
  C01_rounding_envelope_all_partial hε hfl hst T xs cs n hwf hlen hnd hs hn

/-- the envelope `gfac ε K · S` of the theorems above is below the linear one, `4(N+…)·u·S`, that the correspondence check allows -/
theorem C01_envelope_linear (hε : 0 ≤ ε) (K : Nat) (hK : 2 * (K : F) * ε ≤ 1) : gfac ε K ≤ 2 * K * ε :=
  gfac_le_linear hε K hK
end rounding

/-- Non-vacuity of the rounding theorems: rounding hypotheses (`fl = st = id`, `ε = 1/8`; any `ε ≥ 0` works) and an
interior point of a concrete 1-d table (order 2, knots 0..6, `x = 7/2`, centre 3). -/
example : (∀ a : Rat, RelErr (1/8 : Rat) 1 a (id a)) ∧
    AllInterior [(⟨2, 7, 4, 1, fun i => (i : Rat)⟩ : Dim Rat)] [(7/2 : Rat)] [3] := by
  exact ⟨fun a => (RelErr.refl a).mono (by norm_num) (by omega),
    interior_intKnots 2 7 4 1 3 _ (by decide) (by decide) (by norm_num) (by norm_num), trivial⟩

end PsV
