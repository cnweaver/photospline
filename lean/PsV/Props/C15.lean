import PsV.Proofs.Permute
import PsV.Proofs.PermuteEval
import PsV.Props.C01
/-!
# C15 — permuting dimensions relabels axes without changing the function

The theorems are about `PsV.Permute.permuteDimensions` / `splinetablePermute`
(`PsV/Model/Permute.lean`), the definitions the correspondence driver executes, which model
`splinetable::permuteDimensions` **with fixes/C15-1.diff applied** (`periods` permuted too) and the
C wrapper.  Any number of dimensions, any axis lengths, any element types.

* `T.WF`: the memory invariants of a table (`ndim ≥ 1`, every per-axis array has `ndim` entries,
  strides row-major, `coef` has `Π naxes` entries; `periods` may be absent).
* `perm.Perm (List.range n)`: the argument lists each of `0..n-1` exactly once.
* `rowMajor`, `digits`, `flat`, `InBox`: `PsV/Proofs/MixedRadix.lean` (`prodL`: the model); `nposOf`, `AxisAttr`, `PTable.axis`:
  `PsV/Proofs/Permute.lean`; `tensorEval`: `PsV/Proofs/PermuteEval.lean`.
-/
namespace PsV.Permute
variable {K E C : Type} [Inhabited K] [Inhabited E]

/-- the validation block accepts exactly the permutations of `0..ndim-1` -/
theorem C15_valid_iff_perm (ndim : Nat) (perm : List Nat) :
    validate ndim perm = none ↔ perm.Perm (List.range ndim) :=
  validate_eq_none_iff ndim perm

/-- which `throw` a malformed argument meets: wrong length first; otherwise never "Missing index"
(that `throw` is dead code) -/
theorem C15_reject_kind (ndim : Nat) (perm : List Nat) :
    (perm.length ≠ ndim → validate ndim perm = some .wrongNumber) ∧ validate ndim perm ≠ some .missing :=
  ⟨fun h => by rw [validate, if_pos h], validate_ne_missing ndim perm⟩

/-- an argument that is not a permutation is rejected with an exception and the table is left
exactly as it was; a permutation is accepted (no exception) -/
theorem C15_reject_unchanged (junk : C) (T : PTable K E C) (perm : List Nat) :
    (¬ perm.Perm (List.range T.ndim) → ∃ e, permuteDimensions junk T perm = (T, some e)) ∧
    (perm.Perm (List.range T.ndim) → permuteDimensions junk T perm = (permuteBody junk T perm, none)) := by
  refine ⟨fun h => ?_, permuteDimensions_of_perm junk T⟩
  unfold permuteDimensions
  cases hv : validate T.ndim perm with
  | none => exact absurd ((C15_valid_iff_perm _ _).1 hv) h
  | some e => exact ⟨e, rfl⟩

/-- the C wrapper reads `ndim` words: returns 1 and leaves the table alone unless they form a
permutation, else returns 0 with the table permuted -/
theorem C15_c_wrapper (junk : C) (T : PTable K E C) (mem : List Nat) :
    (¬ (mem.take T.ndim).Perm (List.range T.ndim) → splinetablePermute junk T mem = (T, 1)) ∧
    ((mem.take T.ndim).Perm (List.range T.ndim) →
      splinetablePermute junk T mem = ((permuteDimensions junk T (mem.take T.ndim)).1, 0)) := by
  unfold splinetablePermute
  refine ⟨fun h => ?_, fun h => by rw [(C15_reject_unchanged junk T _).2 h]; rfl⟩
  obtain ⟨e, he⟩ := (C15_reject_unchanged junk T _).1 h
  rw [he]; rfl

/-- the position map of the relocation loop is a bijection of `[0, ncoeffs)` -/
theorem C15_npos_bijective (ns perm : List Nat) (hp : perm.Perm (List.range ns.length)) :
    (∀ pos < prodL ns, nposOf ns perm pos < prodL ns) ∧
    (∀ a < prodL ns, ∀ b < prodL ns, nposOf ns perm a = nposOf ns perm b → a = b) ∧
    (∀ q < prodL ns, ∃ pos < prodL ns, nposOf ns perm pos = q) :=
  have hp : IsPerm ns.length perm := hp
  ⟨fun _ h => nposOf_lt hp rfl h, fun _ ha _ hb h => nposOf_inj hp rfl ha hb h, fun _ hq => nposOf_surj hp rfl hq⟩

/-- in index terms the position map relabels the multi-index: the coefficient at `idx` for axis lengths
`ns` goes to `idx ∘ perm` for axis lengths `ns ∘ perm` (that the relocation loop of the routine uses
`nposOf T.naxes perm` is part of `permuteBody_eq`) -/
theorem C15_npos_meaning (ns perm : List Nat) (hp : perm.Perm (List.range ns.length)) (idx : List Nat)
    (h : InBox idx ns) :
    nposOf ns perm (flat ns idx) = flat (gather 0 ns perm) (gather 0 idx perm) := by
  have hp' : IsPerm ns.length perm := hp
  rw [nposOf_eq hp' rfl, digits_flat idx ns h]

/-- the new coefficient array holds exactly the old values, relocated: by position and by multi-index
(`new[idx ∘ perm] = old[idx]`) -/
theorem C15_coef_relocated (junk : C) (T : PTable K E C) (hT : T.WF) (perm : List Nat)
    (hp : perm.Perm (List.range T.ndim)) :
    let T' := (permuteDimensions junk T perm).1
    T'.coef.length = T.coef.length ∧
    (∀ pos < prodL T.naxes, T'.coef[nposOf T.naxes perm pos]? = T.coef[pos]?) ∧
    (∀ idx, InBox idx T.naxes → T'.coef[flat T'.naxes (gather 0 idx perm)]? = T.coef[flat T.naxes idx]?) := by
  have hp' : IsPerm T.ndim perm := hp
  have hT' := permuteBody_WF junk hT hp'
  simp only [permuteDimensions_of_perm junk T hp]
  refine ⟨?_, fun pos h => permuteBody_coef_getElem? junk hT hp' h, ?_⟩
  · rw [hT'.coef, hT.coef, permuteBody_naxes junk hT hp', prodL_gather hp' hT.naxes]
  · intro idx h
    have hp'' : perm.Perm (List.range T.naxes.length) := by rw [hT.naxes]; exact hp
    rw [permuteBody_naxes junk hT hp', ← C15_npos_meaning T.naxes perm hp'' idx h]
    exact permuteBody_coef_getElem? junk hT hp' (flat_lt idx T.naxes h)

/-- every per-axis attribute appears in the new order: slot `k` of the result holds what slot
`perm[k]` held — order, number of knots, number of coefficients, knot array, extents, and the period
(when the table has periods; a table without them still has none) -/
theorem C15_attrs_permuted (junk : C) (T : PTable K E C) (hT : T.WF) (perm : List Nat)
    (hp : perm.Perm (List.range T.ndim)) :
    let T' := (permuteDimensions junk T perm).1
    T'.ndim = T.ndim ∧ T'.periods.isSome = T.periods.isSome ∧
    ∀ k < T.ndim,
      T'.order.getD k 0 = T.order.getD (perm.getD k 0) 0 ∧
      T'.nknots.getD k 0 = T.nknots.getD (perm.getD k 0) 0 ∧
      T'.naxes.getD k 0 = T.naxes.getD (perm.getD k 0) 0 ∧
      T'.knots.getD k default = T.knots.getD (perm.getD k 0) default ∧
      T'.extents.getD k default = T.extents.getD (perm.getD k 0) default ∧
      (T'.periods.map fun a => a.getD k default) = T.periods.map fun a => a.getD (perm.getD k 0) default := by
  have hp' : IsPerm T.ndim perm := hp
  simp only [permuteDimensions_of_perm junk T hp]
  refine ⟨rfl, ?_, ?_⟩
  · rw [permuteBody_eq junk hT hp']; cases T.periods <;> rfl
  · intro k hk
    have h := permuteBody_axis junk hT hp' hk
    exact ⟨congrArg AxisAttr.order h, congrArg AxisAttr.nknots h, congrArg AxisAttr.naxes h,
      congrArg AxisAttr.knots h, congrArg AxisAttr.extent h, congrArg AxisAttr.period h⟩

/-- the result is again a well-formed table: array lengths kept, strides recomputed row-major for the
new axis lengths, coefficient count unchanged -/
theorem C15_strides_rowmajor (junk : C) (T : PTable K E C) (hT : T.WF) (perm : List Nat)
    (hp : perm.Perm (List.range T.ndim)) :
    let T' := (permuteDimensions junk T perm).1
    T'.WF ∧ T'.strides = rowMajor T'.naxes ∧ prodL T'.naxes = prodL T.naxes := by
  have hp' : IsPerm T.ndim perm := hp
  simp only [permuteDimensions_of_perm junk T hp]
  have hT' := permuteBody_WF junk hT hp'
  exact ⟨hT', hT'.strides, by rw [permuteBody_naxes junk hT hp', prodL_gather hp' hT.naxes]⟩

/-- applying an inverse permutation (`perm[inv[k]] = k`) afterwards restores a table equal to the original,
every array and attribute -/
theorem C15_inverse_restores (junk : C) (T : PTable K E C) (hT : T.WF) (perm inv : List Nat)
    (hp : perm.Perm (List.range T.ndim)) (hi : inv.Perm (List.range T.ndim))
    (hinv : ∀ k < T.ndim, perm.getD (inv.getD k 0) 0 = k) :
    permuteDimensions junk (permuteDimensions junk T perm).1 inv = (T, none) := by
  have hp' : IsPerm T.ndim perm := hp
  have hi' : IsPerm T.ndim inv := hi
  simp only [permuteDimensions_of_perm junk T hp]
  rw [permuteDimensions_of_perm junk (permuteBody junk T perm) (perm := inv) hi, permuteBody_inverse junk hT hp' hi' hinv]

/-- the inverse exists and is the one the routine itself computes (`iperm[perm[i]] = i`) -/
theorem C15_inverse_exists (n : Nat) (perm : List Nat) (hp : perm.Perm (List.range n)) :
    (iperm n perm).Perm (List.range n) ∧ (∀ k < n, (iperm n perm).getD (perm.getD k 0) 0 = k) ∧
    (∀ k < n, perm.getD ((iperm n perm).getD k 0) 0 = k) :=
  ⟨iperm_isPerm hp, iperm_inv hp, (iperm_inv (n := n) hp).symm hp⟩

/-- nothing of the uninitialised scratch buffer reaches the table -/
theorem C15_no_uninitialised (j1 j2 : C) (T : PTable K E C) (hT : T.WF) (perm : List Nat) :
    permuteDimensions j1 T perm = permuteDimensions j2 T perm := by
  unfold permuteDimensions
  cases hv : validate T.ndim perm with
  | some e => rfl
  | none => rw [permuteBody_junk_irrelevant j1 j2 hT ((C15_valid_iff_perm _ _).1 hv)]

/-- evaluation at the correspondingly permuted point is unchanged, exactly, over any commutative
(semi)ring: for every choice of per-axis basis functions (a function of the axis' attributes, the
coordinate and the coefficient index) the tensor-product sum over all coefficients of the permuted
table at `x ∘ perm` equals that of the original table at `x` -/
theorem C15_eval_permuted {R X : Type} [CommSemiring R] (val : C → R) (basis : AxisAttr K E → X → Nat → R)
    (dc : C) (dx : X) (junk : C) (T : PTable K E C) (hT : T.WF) (perm : List Nat)
    (hp : perm.Perm (List.range T.ndim)) (x : List X) (hx : x.length = T.ndim) :
    tensorEval val basis dc dx (permuteDimensions junk T perm).1 (gather dx x perm)
      = tensorEval val basis dc dx T x := by
  simp only [permuteDimensions_of_perm junk T hp]
  exact tensorEval_permuteBody val basis dc dx junk hT hp x

section eval
variable {F E' : Type} [Field F] [LinearOrder F] [Inhabited E']
attribute [local instance] Arith.ofField

/-- **The C01 meaning of an evaluation is invariant under `permuteDimensions`**: for a table whose
knot entries are knot arrays, `specEval` (sum over all coefficients of coefficient × product of
Cox–de Boor values or derivatives, C01's continuity convention) of the permuted table at the
correspondingly permuted point and derivative selection equals that of the original, exactly. -/
theorem C15_specEval_permuted (junk : F) (T : PTable (Int → F) E' F) (hT : T.WF) (perm : List Nat)
    (hp : perm.Perm (List.range T.ndim)) (xs : List F) (ms : List BasisMode)
    (hx : xs.length = T.ndim) (hm : ms.length = T.ndim) :
    specEval (toTable (permuteDimensions junk T perm).1) (gather 0 xs perm) (gather .value ms perm)
      = specEval (toTable T) xs ms := by
  have hp' : IsPerm T.ndim perm := hp
  simp only [permuteDimensions_of_perm junk T hp]
  rw [specEval_eq_tensorEval _ (permuteBody_WF junk hT hp') _ _ (hp'.length_gather ..) (hp'.length_gather ..),
    specEval_eq_tensorEval _ hT _ _ hx hm, ← gather_zip _ _ _ _ (hx.trans hm.symm)]
  exact tensorEval_permuteBody id coxBasis 0 (0, .value) junk hT hp' (xs.zip ms)

/-- **Evaluator level**: whenever the model evaluator (`ndsplineeval`, the definition tied bit-exactly to the
C++ in C01) accepts the point on the original table and the permuted point on the permuted table —
hypotheses of `C01_eval_eq_spec_partial` for both — the two values are equal, exactly. -/
theorem C15_ndsplineeval_permuted (junk : F) (T : PTable (Int → F) E' F) (hT : T.WF) (perm : List Nat)
    (hp : perm.Perm (List.range T.ndim)) (xs : List F) (cs cs' : List Nat) (hx : xs.length = T.ndim)
    (hwf : (toTable T).WF) (hnd : AllNonDegenerate (toTable T).dims xs)
    (hs : @searchCenters F (cmpLO F) ((toTable T).dims.map Dim.axis) xs = .ok cs)
    (hwf' : (toTable (permuteDimensions junk T perm).1).WF)
    (hnd' : AllNonDegenerate (toTable (permuteDimensions junk T perm).1).dims (gather 0 xs perm))
    (hs' : @searchCenters F (cmpLO F) ((toTable (permuteDimensions junk T perm).1).dims.map Dim.axis)
      (gather 0 xs perm) = .ok cs') :
    ndsplineeval (toTable (permuteDimensions junk T perm).1) (gather 0 xs perm) cs' 0
      = ndsplineeval (toTable T) xs cs 0 := by
  have hpl : perm.length = T.ndim := IsPerm.length hp
  have hl : ∀ T : PTable (Int → F) E' F, (toTable T).dims.length = T.ndim := fun T =>
    (List.length_map _).trans List.length_range
  have hnd1 : (permuteDimensions junk T perm).1.ndim = T.ndim := by rw [permuteDimensions_of_perm junk T hp]; rfl
  rw [C01_eval_eq_spec_partial _ _ _ hwf ((hl T).trans hx.symm) hnd hs,
    C01_eval_eq_spec_partial _ _ _ hwf' (by rw [hl, hnd1, gather_length, hpl]) hnd' hs', hl, hl, hnd1,
    ← C15_specEval_permuted junk T hT perm hp xs _ hx List.length_replicate, gather_replicate, hpl]
end eval

/-- a 3-d table with pairwise different attributes and periods -/
def exT : PTable String Nat Nat :=
  { ndim := 3, order := [2, 0, 1], naxes := [2, 3, 4], strides := [12, 4, 1], nknots := [5, 4, 6],
    knots := ["kx", "ky", "kz"], extents := [(10, 11), (20, 21), (30, 31)], periods := some [7, 8, 9],
    coef := List.range 24 }

example : exT.WF := ⟨by decide, rfl, rfl, rfl, rfl, rfl, by intro p h; cases h; rfl, rfl, rfl⟩
/-- `[1,2,0]` is a permutation that is not its own inverse -/
example : ([1, 2, 0] : List Nat).Perm (List.range exT.ndim) := by decide
example : ¬ ([1, 1, 0] : List Nat).Perm (List.range exT.ndim) := by decide
example : (permuteDimensions 99 exT [1, 2, 0]).1.periods = some [8, 9, 7] := by decide +kernel
example : (permuteDimensions 99 exT [1, 2, 0]).1.strides = [8, 2, 1] := by decide +kernel
example : (permuteDimensions 99 exT [1, 2, 0]).1.coef.take 5 = [0, 12, 1, 13, 2] := by decide +kernel
example : permuteDimensions 99 (permuteDimensions 99 exT [1, 2, 0]).1 [2, 0, 1] = (exT, none) := by decide +kernel
example : permuteDimensions 99 exT [1, 1, 0] = (exT, some .duplicate) := by decide +kernel
example : permuteDimensions 99 exT [1, 3, 0] = (exT, some .tooLarge) := by decide +kernel
example : permuteDimensions 99 exT [1, 0] = (exT, some .wrongNumber) := by decide +kernel
example : InBox [1, 2, 3] exT.naxes := ⟨rfl, by decide⟩

/-- the routine before fixes/C15-1.diff: identical except that `periods` is left alone -/
def permuteBodyUnrepaired (junk : C) (T : PTable K E C) (perm : List Nat) : PTable K E C :=
  { permuteBody junk T perm with periods := T.periods }

/-- witness of the defect: with periods (7,8) and the swap, the unrepaired routine leaves the periods
attached to the wrong axes, contradicting `C15_attrs_permuted` -/
theorem C15_unrepaired_periods_not_permuted :
    ∃ (T : PTable String Nat Nat) (perm : List Nat), T.WF ∧ perm.Perm (List.range T.ndim) ∧
      ∃ k < T.ndim, ((permuteBodyUnrepaired 0 T perm).periods.map fun a => a.getD k 0)
        ≠ T.periods.map fun a => a.getD (perm.getD k 0) 0 :=
  ⟨{ ndim := 2, order := [1, 2], naxes := [2, 3], strides := [3, 1], nknots := [4, 6], knots := ["a", "b"],
     extents := [(0, 1), (2, 3)], periods := some [7, 8], coef := List.range 6 }, [1, 0],
   ⟨by decide, rfl, rfl, rfl, rfl, rfl, by intro p h; cases h; rfl, rfl, rfl⟩, by decide, 0, by decide, by decide⟩

end PsV.Permute

/-! ## non-vacuity of `C15_ndsplineeval_permuted`: a 2-d table (orders 1, 2), the swap, an accepted point -/
namespace PsV.Permute

def kn : Int → Rat := fun i => (i : Rat)
def nvT : PTable (Int → Rat) Nat Rat :=
  { ndim := 2, order := [1, 2], naxes := [4, 4], strides := [4, 1], nknots := [6, 7],
    knots := [kn, kn], extents := [(0, 1), (2, 3)], periods := none,
    coef := [0,1,2,3,4,5,6,7,8,9,10,11,12,13,14,15] }
def nvT' : PTable (Int → Rat) Nat Rat :=
  { ndim := 2, order := [2, 1], naxes := [4, 4], strides := [4, 1], nknots := [7, 6],
    knots := [kn, kn], extents := [(2, 3), (0, 1)], periods := none,
    coef := [0,4,8,12,1,5,9,13,2,6,10,14,3,7,11,15] }

theorem nv_perm : (permuteDimensions 0 nvT [1, 0]).1 = nvT' := by rfl

/-- in the shape of the field `Dim.WF.mono`, whose index bounds `kn` does not need -/
theorem kn_mono (n : Nat) : ∀ i j : Int, 0 ≤ i → i ≤ j → j < n → kn i ≤ kn j :=
  fun _ _ _ hij _ => Int.cast_le.mpr hij

example : nvT.WF ∧ ([1, 0] : List Nat).Perm (List.range nvT.ndim) ∧
    (toTable nvT).WF ∧ AllNonDegenerate (toTable nvT).dims [(5/2 : Rat), 7/2] ∧
    @searchCenters Rat (cmpLO Rat) ((toTable nvT).dims.map Dim.axis) [(5/2 : Rat), 7/2] = .ok [2, 3] ∧
    (toTable (permuteDimensions 0 nvT [1, 0]).1).WF ∧
    AllNonDegenerate (toTable (permuteDimensions 0 nvT [1, 0]).1).dims (gather 0 [(5/2 : Rat), 7/2] [1, 0]) ∧
    @searchCenters Rat (cmpLO Rat) ((toTable (permuteDimensions 0 nvT [1, 0]).1).dims.map Dim.axis)
      (gather 0 [(5/2 : Rat), 7/2] [1, 0]) = .ok [3, 2] := by
  rw [nv_perm]
  -- every dimension of the two evaluation tables has the form `⟨o, nk, nk - o - 1, stride, kn⟩`
  have wf : ∀ o nk s, 2 * o + 2 ≤ nk → (⟨o, nk, nk - o - 1, s, kn⟩ : Dim Rat).WF :=
    fun _ _ _ h => ⟨h, rfl, kn_mono _⟩
  exact ⟨⟨by decide, rfl, rfl, rfl, rfl, rfl, nofun, rfl, rfl⟩, by decide,
    ⟨List.forall_mem_cons.2 ⟨wf 1 6 4 (by decide), List.forall_mem_cons.2 ⟨wf 2 7 1 (by decide), nofun⟩⟩, rfl⟩,
    ⟨Or.inl (by decide +kernel), Or.inl (by decide +kernel), trivial⟩, by decide +kernel,
    ⟨List.forall_mem_cons.2 ⟨wf 2 7 4 (by decide), List.forall_mem_cons.2 ⟨wf 1 6 1 (by decide), nofun⟩⟩, rfl⟩,
    ⟨Or.inl (by decide +kernel), Or.inl (by decide +kernel), trivial⟩, by decide +kernel⟩
end PsV.Permute
