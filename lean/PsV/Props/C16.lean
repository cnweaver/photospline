import PsV.Proofs.AuxHistory
/-!
# C16 — auxiliary keys behave as an ordered string map that survives serialisation

Property theorems (and the list `cfitsioStructural` that one of them speaks of).  They are about `PsV.Aux.writeKey / removeKey / getAux / readKeyInt / readKeyStr /
validate / reserved / step`, the string-card routines `ffs2c / mkCard / cardOf / ffgknm / ffpsvc / stripValue /
entryOfCard` and the round trip `fitsTrip` — the definitions `psvdriver C16` executes against the real code — instantiated with the constants and the reserved-prefix table of
`PsV.Gen.C16`, which `tools/gen_c16.py` regenerates from the working tree before every build.
The model is that of the code as repaired (the patches `fixes/C16-*.diff`); which tests `write_key` makes is read off the
generated constants.
-/
namespace PsV
open PsV.Aux PsV.Gen

/-- **aux_refines_ordered_map.**  On a store without duplicate keys (the invariant, preserved by every
    operation) the array operations of `aux.h` are exactly the operations of an insertion-ordered association
    list: lookup = `Spec.get`; an accepted write = `Spec.put` (overwrite in place, else append at the end) and
    returns `appended` exactly for a new key; removal = `Spec.del` and reports whether the key was there. -/
theorem C16_aux_refines_ordered_map (st : Store) (hn : NoDupKeys st) :
    (∀ k, getAux st k = Spec.get st k) ∧
    (∀ k v, (writeKey st k v).1.accepted = true →
        (writeKey st k v).2 = Spec.put st k v ∧ NoDupKeys (writeKey st k v).2 ∧
        ((writeKey st k v).1 = .appended ↔ k ∉ keys st)) ∧
    (∀ k, removeKey st k = (decide (k ∈ keys st), Spec.del st k) ∧ NoDupKeys (Spec.del st k)) := by
  refine ⟨getAux_eq_spec st, fun k v hacc => ?_, fun k => ⟨removeKey_eq st k hn, nodup_del st k hn⟩⟩
  have hv := (writeKey_accepted_iff st k v).mp hacc
  have h2 : (writeKey st k v).2 = Spec.put st k v := (writeKey_snd st k v hn).trans (if_pos hv)
  exact ⟨h2, h2 ▸ nodup_put st k v hn, writeKey_appended_iff st k v hn hv⟩

example : NoDupKeys [("A".toList, "1".toList), ("LONG KEY".toList, "it's".toList)] := by
  unfold NoDupKeys keys; simp -index only [toList_lit]; decide +kernel

/-- **The laws of the ordered map** the store refines: a lookup returns the most recently stored value of a
    present key and reports absence otherwise; other keys are not affected by a write or a removal; an overwrite
    keeps the position, a new key goes to the end; removal deletes exactly that key and keeps the order. -/
theorem C16_ordered_map_laws (m : Store) (k v : Str) :
    Spec.get (Spec.put m k v) k = some v ∧
    (∀ k', k' ≠ k → Spec.get (Spec.put m k v) k' = Spec.get m k') ∧
    keys (Spec.put m k v) = (if k ∈ keys m then keys m else keys m ++ [k]) ∧
    (Spec.get m k = none ↔ k ∉ keys m) ∧
    Spec.get (Spec.del m k) k = none ∧
    (∀ k', k' ≠ k → Spec.get (Spec.del m k) k' = Spec.get m k') ∧
    keys (Spec.del m k) = (keys m).filter (fun a => !(a == k)) ∧
    (Spec.del m k).Sublist m :=
  ⟨(Spec.get_put m k v k).trans (if_pos rfl), fun k' hk' => (Spec.get_put m k v k').trans (if_neg hk'), keys_put m k v,
    Spec.get_eq_none_iff m k, (Spec.get_del m k k).trans (if_pos rfl),
    fun k' hk' => (Spec.get_del m k k').trans (if_neg hk'), keys_del m k, List.filter_sublist⟩

example : Spec.get (Spec.put [("A".toList, "1".toList)] "A".toList "2".toList) "A".toList = some "2".toList := by
  simp -index only [toList_lit]; decide +kernel

/-- **reject_unchanged.**  A write that is not accepted (reserved keyword, malformed key, over-long key or
    value) leaves the store exactly as it was. -/
theorem C16_reject_unchanged (st : Store) (key val : Str) :
    (writeKey st key val).1.accepted = false → (writeKey st key val).2 = st := by
  intro h
  cases hv : validate key val with
  | some e => rw [writeKey_of_some hv]
  | none => exact absurd ((writeKey_accepted_iff st key val).mpr hv) (Bool.eq_false_iff.mp h)

example : (writeKey [] "TYPE".toList "x".toList).1 = .threw .reserved ∧ (writeKey [] "A-B".toList "x".toList).1 = .threw .shortChar ∧
    (writeKey [] "long key x".toList "x".toList).1 = .threw .hasLower := by
  simp -index only [toList_lit]; decide +kernel

/-- **int_roundtrip.**  Own decimal codec of `operator<<` / `operator>>` for `int`: every `int` is recovered
    exactly, and so through the store: after an accepted `write_key(k, n)`, `read_key<int>(k)` succeeds with `n`. -/
theorem C16_int_roundtrip (st : Store) (k : Str) (n : Int) (hlo : intMin ≤ n) (hhi : n ≤ intMax)
    (hn : NoDupKeys st) (hacc : (writeKey st k (showInt n)).1.accepted = true) :
    parseInt (showInt n) = (true, some n) ∧
    readKeyInt (writeKey st k (showInt n)).2 k = .parsed true (some n) := by
  have hp := parseInt_showInt n hlo hhi
  refine ⟨hp, ?_⟩
  rw [readKeyInt_of_getAux (getAux_writeKey st k _ hn hacc), hp]

example : showInt (-2147483648) = "-2147483648".toList ∧ parseInt " 17x".toList = (true, some 17) ∧
    (writeKey [] "N".toList (showInt 42)).1.accepted = true := by
  simp -index only [toList_lit]; decide +kernel

/-- **string_roundtrip.**  After an accepted `write_key(k, s)`, `read_key<string>(k)` and `get_aux_value(k)` return `s`. -/
theorem C16_string_roundtrip (st : Store) (k v : Str) (hn : NoDupKeys st)
    (hacc : (writeKey st k v).1.accepted = true) :
    readKeyStr (writeKey st k v).2 k = .parsed true (some v) ∧ getAux (writeKey st k v).2 k = some v := by
  have := getAux_writeKey st k v hn hacc
  exact ⟨readKeyStr_of_getAux this, this⟩

/-- **accepted values fit the card** (the length test of the repaired `write_key`, with the constants of the
    source): an accepted value, with every quote counted twice, is at most 68 characters for a short key and
    at most `67 - strlen(key)` for a long one — in true arithmetic, the `size_t` subtraction cannot wrap because
    keys of 67 or more characters are rejected. -/
theorem C16_accepted_fits_card (key val : Str) (h : validate key val = none) :
    reserved key = false ∧
    (key.length ≤ 8 → val.length + countQuotes val ≤ 68 ∧ key.any badShortChar = false) ∧
    (9 ≤ key.length → key.length + val.length + countQuotes val ≤ 67 ∧ '=' ∉ key) := by
  obtain ⟨hres, _, _, hshort, hlong, _⟩ := (validate_none_iff key val).mp h
  refine ⟨hres, ?_, ?_⟩
  · intro hl
    obtain ⟨ha, hd⟩ := hshort hl
    exact ⟨hd, (any_badShortChar_false_iff key).mpr ha⟩
  · intro hl
    obtain ⟨⟨_, heq, _⟩, _, hfit⟩ := hlong hl
    exact ⟨Nat.add_assoc .. ▸ hfit, heq⟩

example : validate "LONG KEY'S NAME".toList "it's".toList = none ∧ validate "A".toList (List.replicate 34 '\'') = none := by
  simp -index only [toList_lit]; decide +kernel

/-- **maxdatalen_wrap (witness).**  The expression `80-(13+keylen-1)` of the source, evaluated in `size_t`
    arithmetic as the unrepaired code did for every long key: for a key of 67 characters it is 0, for 68
    characters it wraps to 2^64-1 (no value was ever too long).  The repaired `write_key` never gets there
    (`C16_accepted_fits_card`), a key of 67 or more characters is rejected. -/
theorem C16_maxdatalen_wrap_witness :
    longMaxData 68 = 0 ∧ longMaxData 69 = 2 ^ 64 - 1 ∧
    validate (List.replicate 67 'K') [] = some .keyTooLong ∧ validate (List.replicate 66 'K') ['x'] = none := by decide +kernel

/-- **The reserved table is a prefix filter**: every `strncmp(lit, key, n)` of `reservedFitsKeyword` (as generated
    from the source) compares exactly the `strlen(lit)` characters of its literal (first conjunct; as a statement
    over the rows it is `reserved_table_facts`, and `C16_reserved_iff_prefix` is what follows for every key).  The
    second conjunct pins the list of literals, so that a change of the table in the source shows up here. -/
theorem C16_reserved_table_is_prefix_filter :
    C16.reservedPrefixes.all (fun p => p.2 == p.1.length && !p.1.contains '\x00') = true ∧
    C16.reservedPrefixes.map (·.1) = ["BITPIX".toList, "SIMPLE".toList, "TYPE".toList, "ORDER".toList, "NAXIS".toList,
      "PERIOD".toList, "EXTEND".toList, "COMMENT".toList] := by
  simp -index only [toList_lit]; decide +kernel

example : reserved "ORDER12".toList = true ∧ reserved "ORDE".toList = false ∧ reserved "COMMENTARY X".toList = true := by
  simp -index only [toList_lit]; decide +kernel

/-- **accepted_survive_fits, value part for the card layout of a standard (short) key**: `ffs2c` (quote doubling,
    pad to 8, closing quote), then `ffpsvc` on columns 11.. of the card and the repaired quote stripping of
    `read_fits_core` give back the value plus padding blanks, for every value the repaired `write_key` accepts
    (length + quotes <= 68).  Whole stores, key and value, standard and HIERARCH cards: `C16_accepted_survive_fits`. -/
theorem C16_accepted_survive_fits_partial (k8 v : Str) (hk : k8.length = 8) (hv : v.length + countQuotes v ≤ 68)
    (h1 : hierPrefix.isPrefixOf (k8 ++ ['=', ' '] ++ ffs2c v) = false)
    (h2 : commentaryHeads.any (·.isPrefixOf (k8 ++ ['=', ' '] ++ ffs2c v)) = false) :
    stripValue (ffpsvc (k8 ++ ['=', ' '] ++ ffs2c v)) = v ++ blanks (8 - (v.length + countQuotes v)) := by
  rw [← length_dbl] at hv ⊢
  have hq : ffs2c v = quoted (v ++ blanks (8 - (dbl v).length)) := by rw [ffs2c_eq v hv, quoted_pad]
  rw [List.append_assoc, hq] at h1 h2 ⊢
  exact value_std k8 _ hk h1 h2 (by rw [dbl_append, dbl_blanks, length_pad8]; exact Nat.max_le.mpr ⟨hv, by decide⟩)

/-- the hypotheses are satisfiable, and the general `fitsTrip` agrees on a concrete store with a quote -/
example : hierPrefix.isPrefixOf ("GEOTYPE ".toList ++ ['=', ' '] ++ ffs2c "it's".toList) = false ∧
    commentaryHeads.any (·.isPrefixOf ("GEOTYPE ".toList ++ ['=', ' '] ++ ffs2c "it's".toList)) = false ∧
    fitsTrip [("GEOTYPE".toList, "it's".toList), ("MY LONG KEY".toList, "'q'".toList)] =
      some [("GEOTYPE".toList, "it's   ".toList), ("MY LONG KEY".toList, "'q'   ".toList)] := by
  simp -index only [toList_lit]; decide +kernel

/-- **write_key accepts exactly** (repaired code; constants and tables generated from the source):
    the key is not reserved (prefix table of `reservedFitsKeyword`), not empty, has no blank at either end, does not
    start with `HIERARCH ` and is not END / HISTORY / CONTINUE / EXTNAME / HDUNAME / PCOUNT / GCOUNT; a key of at most 8 characters is made of upper-case
    letters and digits and the value, every quote counted twice, has at most 68 characters; a longer key is
    printable ASCII without `=` and lower-case letters, has at most 66 characters, and key and value (quotes counted
    twice) together at most 67; the value is printable ASCII.  Everything else is rejected (`C16_reject_unchanged`).
    In particular an accepted key is a `PlainKey` and an accepted value a `PlainVal`. -/
theorem C16_validate_iff (key val : Str) :
    (validate key val = none ↔
      (¬ ∃ p ∈ C16.reservedPrefixes, p.1 <+: key) ∧
      (key ≠ [] ∧ key.head? ≠ some ' ' ∧ key.getLast? ≠ some ' ') ∧
      (hierPrefix.isPrefixOf key = false ∧ key ≠ endKey ∧ key ≠ historyKey ∧ key ≠ continueKey ∧
        key ≠ extnameKey ∧ key ≠ hdunameKey ∧ key ≠ pcountKey ∧ key ≠ gcountKey) ∧
      (key.length ≤ 8 → Alnum key ∧ val.length + countQuotes val ≤ 68) ∧
      (9 ≤ key.length → ((∀ c ∈ key, printable c = true) ∧ '=' ∉ key ∧ ∀ c ∈ key, c.isLower = false) ∧
        key.length ≤ 66 ∧ key.length + (val.length + countQuotes val) ≤ 67) ∧
      PlainVal val) ∧
    (validate key val = none → PlainKey key ∧ PlainVal val) := by
  refine ⟨?_, validate_plain key val⟩
  rw [validate_none_iff, edgeBlank_false_iff, writeReserved_false_iff, ← reserved_iff_prefix]
  simp only [Bool.not_eq_true]

example : validate "K1".toList (List.replicate 34 '\'') = none ∧ validate "K1".toList (List.replicate 35 '\'') = some .valueTooLong ∧
    validate "A LONG KEY".toList (List.replicate 57 'x') = none ∧ validate "A LONG KEY".toList (List.replicate 58 'x') = some .valueTooLong ∧
    validate "A LONG KEY ".toList ['x'] = some .edgeBlank ∧ validate "A LONG\tKEY".toList ['x'] = some .keyNonPrintable ∧
    validate "K1".toList "\t12".toList = some .valueNonPrintable ∧ validate "ENDPOINT".toList ['x'] = none := by
  simp -index only [toList_lit]; decide +kernel

/-- The keywords cfitsio itself interprets when it (re)reads the header of a primary image HDU before writing pixels
    (`ffpinit` / `ffgphd`: SIMPLE, BITPIX, NAXIS, NAXISn, EXTEND, PCOUNT, GCOUNT, END; a card with one of these names
    decides what the HDU *is*, whatever its value — observed on the real library for every one of them: a table
    holding such a card cannot be written or is written as another structure) together with the names by which
    `read_fits` finds HDUs (EXTNAME, HDUNAME).  NAXIS1, NAXIS2 and NAXIS999 stand for the family NAXISn: the list is a
    sample of it, not the family.  Hand-written from cfitsio's source (trusted); the rest of the statement is about
    the generated tables. -/
def cfitsioStructural : List Str :=
  ["SIMPLE".toList, "BITPIX".toList, "NAXIS".toList, "NAXIS1".toList, "NAXIS2".toList, "NAXIS999".toList, "EXTEND".toList,
   "PCOUNT".toList, "GCOUNT".toList, "END".toList, "EXTNAME".toList, "HDUNAME".toList]

/-- **No accepted key is a structural keyword**: whatever `write_key` accepts, with any value, is none of the names
    listed in `cfitsioStructural`, which cfitsio takes for the structure of the primary HDU — so an accepted entry
    cannot change what the coefficient image is.  (Of the family NAXISn the list holds three members; every NAXISn
    is refused all the same, by the prefix NAXIS of `reservedFitsKeyword`, `C16_reserved_iff_prefix`.)  The statement
    depends on the generated tables: with PCOUNT or GCOUNT missing from the exact-name list of the source it does
    not check. -/
theorem C16_accepted_not_structural (key val : Str) (h : validate key val = none) : key ∉ cfitsioStructural := by
  obtain ⟨hres, _, hwr, _⟩ := (validate_none_iff key val).mp h
  -- each structural name is caught by one of the two name tests of `write_key`
  have hall : ∀ k ∈ cfitsioStructural, (reserved k || writeReserved k) = true := by
    unfold cfitsioStructural; simp -index only [toList_lit]; decide +kernel
  intro hm
  exact absurd (hall key hm) (by rw [hres, hwr]; decide)

/-- the hypothesis is satisfiable, and the neighbours of the structural names are ordinary keys -/
example : validate "PCOUNTS".toList ['1'] = none ∧ validate "GCOUNT2".toList ['1'] = none ∧ validate "CHECKSUM".toList "abc".toList = none ∧
    validate "PCOUNT".toList ['1'] = some .reserved := by
  simp -index only [toList_lit]; decide +kernel

/-- **reservedFitsKeyword is the prefix filter of its table**, for every key: `strncmp(lit, key, n) == 0` for some
    row of the generated table iff one of the literals is a prefix of the key (the same function filters the cards
    when a file is read). -/
theorem C16_reserved_iff_prefix (key : Str) :
    reserved key = true ↔ ∃ p ∈ C16.reservedPrefixes, p.1 <+: key :=
  reserved_iff_prefix key

example : reserved "NAXIS12".toList = true ∧ reserved "NAXI".toList = false ∧ reserved "XTYPE".toList = false := by
  simp -index only [toList_lit]; decide +kernel

/-- **accepted_survive_fits, one entry (key and value).**  For every entry `write_key` accepts (no further
    hypothesis: acceptance implies that the key is one cfitsio stores verbatim and the value is printable,
    `C16_validate_iff`):
    `fits_write_key(TSTRING)` (= `ffs2c`, `ffmkky` with the standard 8-column keyword field or the
    `HIERARCH name = ` layout incl. the `= ` variant and the cut-off padding / forced closing quote of a full card,
    `ffprec`) succeeds with a card of exactly 80 columns (only padding blanks are ever cut off, never the value), the card does not terminate the header, and `fits_read_keyn` (= `ffgrec`, `ffgknm`,
    `ffpsvc`) followed by the reserved filter and the repaired quote stripping of `read_fits_core` returns the same
    key and the value followed by `padOf k v <= 8` blanks. -/
theorem C16_accepted_entry_survives_fits (k v : Str) (hacc : validate k v = none) :
    ∃ card, cardOf (k, v) = some card ∧ card.length = 80 ∧ isEndCard card = false ∧
      entryOfCard card = some (k, v ++ blanks (padOf k v)) ∧
      padOf k v ≤ 8 ∧ rstrip (v ++ blanks (padOf k v)) = rstrip v := by
  obtain ⟨card, h1, h0, h2, h3⟩ := entry_survives k v hacc
  exact ⟨card, h1, h0, h2, h3, padOf_le k v, rstrip_pad v _⟩

/-- hypotheses satisfiable: a HIERARCH key with a quote and a key of 66 characters (full card, forced closing quote) -/
example : validate "LONG KEY'S NAME".toList "it's".toList = none ∧ validate (List.replicate 66 'K') ['x'] = none ∧
    (cardOf (List.replicate 66 'K', ['x'])).bind entryOfCard = some (List.replicate 66 'K', ['x']) := by
  simp -index only [toList_lit]; decide +kernel

/-- **accepted_survive_fits (whole stores).**  For every store all of whose entries were accepted by `write_key`
    (`Accepted`; nothing else is assumed): `write_fits_mem` followed by `read_fits_mem` (`fitsTrip`: one card per
    entry in array order, cut at an END card, reserved names filtered, nothing de-duplicated) succeeds and returns
    the same keys in the same order, every value intact apart from trailing blanks (at most 8, `padOf`); lookups
    agree up to that padding; uniqueness of keys is kept; the result is again accepted and is a fixed point of
    the round trip (so any number of round trips changes nothing more). -/
theorem C16_accepted_survive_fits (st : Store) (h : Accepted st) :
    fitsTrip st = some (padStore st) ∧
    keys (padStore st) = keys st ∧
    (padStore st).map (fun e => (e.1, rstrip e.2)) = st.map (fun e => (e.1, rstrip e.2)) ∧
    (∀ k, getAux (padStore st) k = (getAux st k).map fun v => v ++ blanks (padOf k v)) ∧
    (NoDupKeys st → NoDupKeys (padStore st)) ∧
    Accepted (padStore st) ∧ fitsTrip (padStore st) = some (padStore st) := by
  have ha := accepted_padStore st h
  refine ⟨fitsTrip_accepted st h, keys_padStore st, rstrip_padStore st, getAux_padStore st, nodup_padStore st, ha, ?_⟩
  · have := fitsTrip_accepted (padStore st) ha
    rw [padStore_idem] at this; exact this

example : fitsTrip [("GEOTYPE".toList, "it's".toList), ("MY LONG KEY".toList, "'q'".toList), ("N".toList, showInt (-7))] =
    some [("GEOTYPE".toList, "it's   ".toList), ("MY LONG KEY".toList, "'q'   ".toList), ("N".toList, "-7      ".toList)] := by
  simp -index only [toList_lit]; decide +kernel

/-- **histories.**  From a store with unique, accepted entries (e.g. the empty one), ANY sequence of operations of
    the differential run — writes (string, int, text) of arbitrary keys and values, accepted or rejected, overwrites,
    removals, lookups, typed reads and FITS round trips, in any order — keeps the store a duplicate-free accepted
    store, and a FITS round trip at any point succeeds and returns the store with its values padded
    (`C16_accepted_survive_fits`). -/
theorem C16_history_survives (st : Store) (ops : List Op) (hn : NoDupKeys st) (ha : Accepted st) :
    NoDupKeys (runOps st ops) ∧ Accepted (runOps st ops) ∧
    step (runOps st ops) .fits = (.fitsOk, padStore (runOps st ops)) := by
  obtain ⟨_, h2, h3⟩ := runOps_spec st ops hn (Or.inl ha)
  exact ⟨h2, h3 ha, step_fits _ (h3 ha)⟩

/-- a history with rejected writes (END, a blank-edged key, a TAB in the value), overwrites, a removal and round trips -/
example : runOps [] [Op.writeStr "A".toList "it's".toList, .writeStr endKey ['v'], .writeInt "LONG KEY 1".toList 12, .writeStr " B".toList ['v'],
      .fits, .writeStr "A".toList "\t1".toList, .remove "A".toList, .fits]
      = [("LONG KEY 1".toList, "12      ".toList)] ∧ NoDupKeys ([] : Store) ∧ Accepted [] :=
  ⟨by simp -index only [toList_lit]; decide +kernel, List.nodup_nil, fun e he => absurd he List.not_mem_nil⟩

/-- **int_survives_fits.**  An `int` written (and accepted) into an accepted store is still read back exactly
    after a FITS round trip of the whole store (the padding blanks follow the digits and stop `operator>>`). -/
theorem C16_int_survives_fits (st : Store) (k : Str) (n : Int) (hlo : intMin ≤ n) (hhi : n ≤ intMax)
    (hn : NoDupKeys st) (ha : Accepted st)
    (hacc : (writeKey st k (showInt n)).1.accepted = true) :
    ∃ st', fitsTrip (writeKey st k (showInt n)).2 = some st' ∧ readKeyInt st' k = .parsed true (some n) := by
  have ha' := accepted_writeKey st k (showInt n) hn ha
  refine ⟨_, (C16_accepted_survive_fits _ ha').1, ?_⟩
  rw [readKeyInt_of_getAux ((getAux_padStore _ k).trans (congrArg _ (getAux_writeKey st k _ hn hacc))),
    parseInt_showInt_pad n _ hlo hhi]

example : (writeKey [] "N".toList (showInt (-2147483648))).1.accepted = true ∧
    (fitsTrip (writeKey [] "N".toList (showInt (-2147483648))).2).map (readKeyInt · "N".toList) = some (.parsed true (some (-2147483648))) := by
  simp -index only [toList_lit]; decide +kernel

/-- **structural cards are filtered.**  Cards whose keyword starts with a literal of the generated table (all the
    cards `write_fits_core` itself puts into the primary header: SIMPLE, BITPIX, NAXIS*, EXTEND, COMMENT, TYPE,
    ORDER*, PERIOD*) never become auxiliary entries, wherever they stand in front of the auxiliary cards. -/
theorem C16_structural_cards_filtered (pre cards : List (List Char))
    (h : ∀ c ∈ pre, ∃ p ∈ C16.reservedPrefixes, p.1 <+: ffgknm (rstrip c)) :
    (pre ++ cards).filterMap entryOfCard = cards.filterMap entryOfCard :=
  filterMap_reserved_cards pre cards fun c hc => (reserved_iff_prefix _).mpr (h c hc)

example : ∀ c ∈ ["SIMPLE  =                    T / file does conform to FITS standard".toList, "NAXIS1  =                   12".toList,
      "ORDER0  =                    2 / B-Spline Order".toList, "TYPE    = 'Spline Coefficient Table'".toList,
      "COMMENT   FITS (Flexible Image Transport System) format is defined in 'Astronomy".toList, "PERIOD1 =                   0.".toList],
    reserved (ffgknm (rstrip c)) = true := by
  simp -index only [toList_lit]; decide +kernel

/-- **histories refine the ordered map.**  Folding the operations of `aux.h` over any history (any keys and values,
    accepted or not) equals folding the specification `Spec.apply` (put / del / nothing) and keeps the keys unique,
    from any duplicate-free store as long as no FITS round trip is involved; with round trips the same holds from
    every accepted store (`padStore` being the specification of the round trip). -/
theorem C16_history_refines_map (st : Store) (ops : List Op) (hn : NoDupKeys st) :
    ((∀ op ∈ ops, isFits op = false) →
      runOps st ops = ops.foldl Spec.apply st ∧ NoDupKeys (runOps st ops)) ∧
    (Accepted st → runOps st ops = ops.foldl Spec.apply st) := by
  exact ⟨fun hops => (runOps_spec st ops hn (Or.inr hops)).imp_right And.left,
    fun ha => (runOps_spec st ops hn (Or.inl ha)).1⟩

example : runOps [] [Op.writeStr "A".toList "1".toList, .writeStr "b".toList "x".toList, .writeInt "B".toList 2, .writeStr "A".toList "3".toList, .remove "B".toList]
    = [("A".toList, "3".toList)] := by
  simp -index only [toList_lit]; decide +kernel

/-- **the name and character tests of `write_key` are needed**: each of these entries is rejected by `write_key`,
    and had it been stored it would not have survived the round trip — empty key, leading blank, trailing blank, explicit `HIERARCH ` prefix, END (this entry and all
    later ones are lost), HISTORY, CONTINUE (value lost), a control character in the value (blanked). -/
theorem C16_unstorable_rejected :
    (validate [] ['v'] = some .edgeBlank ∧ fitsTrip [([], ['v'])] = some [([], [])]) ∧
    (validate " LEADING SP".toList ['v'] = some .edgeBlank ∧ (fitsTrip [(" LEADING SP".toList, ['v'])]).map keys = some ["LEADING SP".toList]) ∧
    (validate "TRAILING SP ".toList ['v'] = some .edgeBlank ∧ (fitsTrip [("TRAILING SP ".toList, ['v'])]).map keys = some ["TRAILING SP".toList]) ∧
    (validate "HIERARCH FOO".toList ['v'] = some .reserved ∧ (fitsTrip [("HIERARCH FOO".toList, ['v'])]).map keys = some ["FOO".toList]) ∧
    (validate endKey ['v'] = some .reserved ∧ fitsTrip [(['B'], ['0']), (endKey, ['v']), (['A'], ['1'])] = some [(['B'], "0       ".toList)]) ∧
    (validate historyKey ['v'] = some .reserved ∧ fitsTrip [(historyKey, ['v'])] = some [(historyKey, [])]) ∧
    (validate continueKey ['v'] = some .reserved ∧ fitsTrip [(continueKey, ['v'])] = some [(continueKey, [])]) ∧
    (validate ['A'] "\t12".toList = some .valueNonPrintable ∧ fitsTrip [(['A'], "\t12".toList)] = some [(['A'], " 12     ".toList)]) ∧
    -- PCOUNT / GCOUNT (found by the FITS-vocabulary key stream): with such a card in the primary header the real cfitsio
    -- refuses the coefficient image (write_fits throws, or crashes inside fits_write_pix on a small table); the abstract
    -- store of the model has no group structures, so only the rejection is stated here — the failing write is tied by
    -- the harness (an accepted entry must survive the F operation)
    (validate pcountKey ['1'] = some .reserved ∧ validate gcountKey ['1'] = some .reserved ∧
      validate "PCOUNT1".toList ['1'] = none ∧ validate "A PCOUNT KEY".toList ['1'] = none) := by
  simp -index only [toList_lit]
  refine ⟨?_, ?_, ?_, ?_, ?_, ?_, ?_, ?_, ?_⟩
  all_goals decide +kernel

end PsV
