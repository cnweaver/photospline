import PsV.Proofs.FitsBytes
import PsV.Proofs.FitsRoundTrip
import PsV.Proofs.FitsCrash
import PsV.Proofs.FitsOpLog
/-!
# C08 — interrupted or failing writes never pass as success or load as another table

Property theorems only: the control flow of the writer (`PsV.C08.writeFits` etc., the definitions the driver executes
against the step traces observed in the real code; `writeFits`/`writeFitsMem` are the code with `fixes/C08-1.diff`,
`C08-2.diff` and `C08-3.diff` applied), the bytes (a prefix of a file that reads is rejected or loads equal; every
well-formed table round-trips), what each failure path leaves under the file name, and what a crash can leave.
-/
namespace PsV
open PsV.C08

/-- C08 (control flow, repaired `write_fits`): reported success ⇒ the calls made are exactly create, every call of
    `write_fits_core`, close — and every one of them, including the close, succeeded. -/
theorem C08_success_implies_all_ok (sh : Shape) (env : Env)
    (h : (writeFits sh env).outcome = .success) :
    (writeFits sh env).trace = (fullSteps .init sh).map (fun s => (s, true)) ∧
    ∀ j, j < (fullSteps .init sh).length → env j = true :=
  writeFitsOn_success (coreSteps sh) env h

example : (writeFits ⟨2, true, 1, true⟩ (fun _ => true)).outcome = .success := by decide

/-- The same for the repaired `write_fits_mem`. -/
theorem C08_mem_success_implies_all_ok (sh : Shape) (env : Env)
    (h : (writeFitsMem sh env).outcome = .success) :
    (writeFitsMem sh env).trace = (fullSteps .imem sh).map (fun s => (s, true)) ∧
    ∀ j, j < (fullSteps .imem sh).length → env j = true :=
  writeFitsMemOn_success (coreSteps sh) env h

example : (writeFitsMem ⟨1, false, 0, false⟩ (fun _ => true)).outcome = .success := by decide

/-- The C wrapper returns 0 only for non-null arguments and a write all of whose calls succeeded. -/
theorem C08_cwrapper_zero_implies_all_ok (argsOk : Bool) (sh : Shape) (env : Env)
    (h : (cWrapper argsOk (writeFits sh env)).1 = 0) :
    argsOk = true ∧ (cWrapper argsOk (writeFits sh env)).2 = (fullSteps .init sh).map (fun s => (s, true)) ∧
    ∀ j, j < (fullSteps .init sh).length → env j = true := by
  unfold cWrapper at h ⊢
  cases argsOk with
  | false => simp at h
  | true =>
    simp only [Bool.not_true, Bool.false_eq_true, if_false] at h ⊢
    cases ho : (writeFits sh env).outcome with
    | failure => rw [ho] at h; simp at h
    | success =>
      obtain ⟨a, b⟩ := C08_success_implies_all_ok sh env ho
      exact ⟨trivial, a, b⟩

example : (cWrapper true (writeFits ⟨3, true, 0, true⟩ (fun _ => true))).1 = 0 := by decide

/-- The defect in the code as found: a failing close (where buffered data reaches the file) is swallowed.
    1-d table with periods and extents: 13 calls, the close is call 12. -/
theorem C08_close_error_swallowed :
    ∃ sh env, (writeFitsOld sh env).outcome = .success ∧ (Step.clos, false) ∈ (writeFitsOld sh env).trace :=
  ⟨⟨1, true, 0, true⟩, fun i => i != 12, by decide, by decide⟩

/-- … and the repaired control flow reports that very environment as a failure and removes the file. -/
theorem C08_close_error_reported :
    (writeFits ⟨1, true, 0, true⟩ (fun i => i != 12)).outcome = .failure ∧
    (Step.remove, true) ∈ (writeFits ⟨1, true, 0, true⟩ (fun i => i != 12)).trace := by decide

/-- C08 (call order of the repaired `write_fits_core`): every key written with `fits_write_key` (all of them go to the
    primary header, which is the one that can outgrow its block) is written before any pixel data.
    cfitsio therefore never has to insert a header block in front of data which are already in the file — the one
    place where it drops I/O errors (`ffiblk` treats every status of its copy loop as end-of-file): with the order as
    found a failing `fwrite` during that shifting was reported as success and the file loaded as a different table. -/
theorem C08_keys_before_data (sh : Shape) (i j : Nat)
    (hi : (coreSteps sh)[i]? = some .ppx) (hj : (coreSteps sh)[j]? = some .pky) : j < i := by
  obtain ⟨pre, post, e, h1, h2⟩ := coreSteps_keys_first sh
  rw [e] at hi hj
  exact lt_of_getElem?_append h1 h2 hi hj

example : (coreSteps ⟨2, true, 1, false⟩)[7]? = some .ppx ∧ (coreSteps ⟨2, true, 1, false⟩)[6]? = some .pky := by decide

/-- … which the call order as found violates: 1-d table, the coefficients (call 1) precede `TYPE` and `ORDER0`. -/
theorem C08_keys_after_data_as_found :
    ∃ (sh : Shape) (i j : Nat), i < j ∧ (coreStepsDataFirst sh)[i]? = some Step.ppx ∧
      (coreStepsDataFirst sh)[j]? = some Step.pky :=
  ⟨⟨1, false, 0, false⟩, 1, 2, by decide, by decide, by decide⟩

/-! `PsV.C08.encode` is compared byte for byte with the file cfitsio writes, `PsV.C08.readBytes`
    verdict for verdict with the real reader on every crash-state file, on every run. -/

/-- C08 (reader): whatever orders, axes, coefficients and knots the reader extracts from a truncated file, it extracts
    exactly the same from every extension of that file — for *arbitrary* bytes, not only for encodings.  The reader
    never takes end-of-file for data: an incomplete header means "no such HDU", incomplete data blocks mean failure. -/
theorem C08_reader_prefix_stable (bs : Bytes) (n : Nat) (c : Core)
    (h : readCoreBytes (bs.take n) = some c) : readCoreBytes bs = some c :=
  readCoreBytes_of_prefix (List.take_prefix n bs) c h

/-- C08 (crash safety of the file format as written): every byte prefix of the file of a table that round-trips is
    either rejected or loads with orders, axes, coefficients and knots equal to the table's.  This is the step from the
    round trip to prefix safety; `C08_prefix_safe` supplies the hypothesis for every well-formed table. -/
theorem C08_prefix_safe_partial (t : Table) (n : Nat) (hrt : readCoreBytes (encode t) = some t.core) :
    readBytes ((encode t).take n) = none ∨
    ∃ v, readBytes ((encode t).take n) = some v ∧ v.core = t.core :=
  readBytes_of_prefix (List.take_prefix n _) t.core hrt

/-- smallest table: one dimension, order 0, two knots (1.0, 2.0: finite, increasing, `2 = 2·order+2`), one coefficient
    (`1 = nknots − order − 1`), extents -/
def tinyTable : Table :=
  ⟨[0], [1], [1065353216], [[4607182418800017408, 4611686018427387904]], some [4607182418800017408, 4611686018427387904], []⟩

/-- the round-trip hypothesis holds for `tinyTable`, which is well-formed (`PsV.C08.roundtrip`) -/
theorem C08_roundtrip_instance : readCoreBytes (encode tinyTable) = some tinyTable.core := roundtrip tinyTable (by decide)

set_option maxRecDepth 100000 in
/-- hypotheses of `C08_reader_prefix_stable` are satisfiable: the file cut after the knot HDU (no `EXTENTS`) loads -/
example : readCoreBytes ((encode tinyTable).take 11520) = some tinyTable.core := by
  -- the first four blocks are the file of the same table without extents
  rw [encode_extents tinyTable, List.take_left' (by rw [encode_length _ (by constructor <;> decide)]; decide)]
  exact roundtrip { tinyTable with extents := none } (by decide)

/-! The reader's validation is part of `readCoreBytes`: it is not vacuous — -/
set_option maxRecDepth 100000 in
/-- the file of `tinyTable` with its two knots exchanged (2.0, 1.0: decreasing) is rejected, -/
example : readCoreBytes (encode { tinyTable with knots := [[4611686018427387904, 4607182418800017408]] }) = none := by
  rw [readCoreBytes_encode _ (by constructor <;> decide), if_neg (by decide)]
set_option maxRecDepth 100000 in
/-- and so is the file which declares order 1 for the same two knots and one coefficient (`nknots < 2·order+2`). -/
example : readCoreBytes (encode { tinyTable with orders := [1] }) = none := by
  rw [readCoreBytes_encode _ (by constructor <;> decide), if_neg (by decide)]
/-- binary64 patterns: NaN and ±∞ are not finite, the largest finite number is; `-0.0` and `+0.0` are equal,
    `-1.0 < -0.0`, the smallest negative subnormal is below `+0.0`, `1.0 < 2.0`. -/
example : dblFinite 0x7ff8000000000000 = false ∧ dblFinite 0x7ff0000000000000 = false ∧ dblFinite 0xfff0000000000000 = false ∧
    dblFinite 0x7ff0000000000001 = false ∧ dblFinite 0x7fefffffffffffff = true ∧ dblFinite 0 = true ∧
    dblLt 0x8000000000000000 0 = false ∧ dblLt 0 0x8000000000000000 = false ∧ dblLt 0xbff0000000000000 0x8000000000000000 = true ∧
    dblLt 0x8000000000000001 0 = true ∧ dblLt 0x3ff0000000000000 0x4000000000000000 = true ∧
    dblLt 0x4000000000000000 0x3ff0000000000000 = false := by decide

/-- C08_prefix_safe for `tinyTable`: every byte prefix is rejected or loads equal. -/
theorem C08_prefix_safe_tiny (n : Nat) :
    readBytes ((encode tinyTable).take n) = none ∨
    ∃ v, readBytes ((encode tinyTable).take n) = some v ∧ v.core = tinyTable.core :=
  C08_prefix_safe_partial tinyTable n C08_roundtrip_instance

/-! The round trip for *every* well-formed table, and with it the unconditional prefix safety.  `Table.wf`
    (Model/FitsBytes.lean, executable: the driver evaluates it on every generated table, `wf=1`) is what `write_fits` can
    be handed; its docstring lists the conditions. -/

/-- C08 (round trip, all tables): the reader extracts from the file the encoder writes for a well-formed table exactly
    the table's orders, axes, coefficients and knots.  Structural: header blocks → cards → look-ups by key
    (`NAXISn`/`ORDERn`/`KNOTSn` are pairwise different because decimal numerals are injective), fixed-format integers
    and big-endian words parse back, the reader's validation (`countsOk`, `knotsValid`) is implied by `wf`. -/
theorem C08_roundtrip (t : Table) (h : t.wf = true) : readCoreBytes (encode t) = some t.core := roundtrip t h

example : tinyTable.wf = true := by decide

/-- a 2-d table (orders 1 and 0; knots 0,0,1,1 and 1,2; two coefficients) with a `PERIOD0` card, no extents -/
def twoDimTable : Table :=
  ⟨[1, 0], [2, 1], [1065353216, 3212836864], [[0, 0, 4607182418800017408, 4607182418800017408],
    [4607182418800017408, 4611686018427387904]], none, [cardRaw "PERIOD0 =                   0."]⟩
example : twoDimTable.wf = true := by
  unfold twoDimTable cardRaw
  decide_str

/-- … and `read_fits_core` as a whole accepts that file and returns the table's core (extents open). -/
theorem C08_write_reads_back (t : Table) (h : t.wf = true) : ∃ v, readBytes (encode t) = some v ∧ v.core = t.core := by
  obtain ⟨e, he⟩ := readBytes_encode t (wf_spec h).layout
  exact ⟨⟨t.core, e⟩, by rw [he, roundtrip t h]; rfl, rfl⟩

set_option maxRecDepth 10000 in
/-- `wf` is not vacuous the other way either: a bare `ORDER` key among the aux cards makes the reader take it for the
    order of every dimension — hence excluded. -/
example : ({ tinyTable with extraCards := [cardRaw "ORDER   = '3       '"] } : Table).wf = false := by
  unfold cardRaw
  decide_str

/-- **C08_prefix_safe**: every byte prefix of the file of a well-formed table is rejected or loads with orders, axes,
    coefficients and knots equal to the table's. -/
theorem C08_prefix_safe (t : Table) (h : t.wf = true) (n : Nat) :
    readBytes ((encode t).take n) = none ∨
    ∃ v, readBytes ((encode t).take n) = some v ∧ v.core = t.core :=
  C08_prefix_safe_partial t n (C08_roundtrip t h)

/-! Every failure path of the repaired writer, with the file system (`Model/FitsCrash.lean`): the calls made
    issue libc operations — *any* operations (`World.io` is arbitrary: cfitsio's buffering is not modelled), each of
    which may fail or write short — and `fits_create_file("!…")`, `fits_delete_file`, `remove` create and delete the
    file.  `diskAfter` is the state of the file name when `write_fits` has returned. -/

/-- C08 (error propagation): any call that reports an error — whichever, including the close and the clean-up calls —
    makes `write_fits` report a failure. -/
theorem C08_failing_call_is_reported (sh : Shape) (env : Env) (c : Step × Bool)
    (hc : c ∈ (writeFits sh env).trace) (hf : c.2 = false) : (writeFits sh env).outcome = .failure :=
  failing_call_reported (coreSteps sh) env c hc hf

example : (Step.ppx, false) ∈ (writeFits ⟨1, true, 0, true⟩ (fun i => i != 5)).trace := by decide

/-- C08 (libc faults): under cfitsio's contract `Surfaces` (a failing write or close inside a call makes that call or a
    later one report an error; observed on every fault-injection run) a failing `fwrite` (no space, size limit, short
    write) or `fclose` inside any call made — whatever else was written before or after — ends in a reported failure. -/
theorem C08_write_fault_is_reported (sh : Shape) (w : World) (hs : Surfaces w (writeFits sh w.env).trace)
    (j : Nat) (hj : j < (writeFits sh w.env).trace.length) (o : IoOp) (ho : o ∈ w.io j) (hbad : o.bad = true) :
    (writeFits sh w.env).outcome = .failure :=
  bad_op_reported (coreSteps sh) w hs j hj o ho hbad

/-- a world for the examples: a 1-d table without periods/extents (9 calls, the close is call 8); everything is written
    inside the close; the second write fails after 7 bytes (short write, no space) and the close reports it -/
def exampleWorld : World :=
  ⟨fun i => i != 8,
   fun j => if j = 8 then [⟨.pwrite 0 [1, 2, 3], true, 0⟩, ⟨.pwrite 3 (List.replicate 20 9), false, 7⟩, ⟨.close, true, 0⟩] else [],
   false, false⟩

example : (∃ o ∈ exampleWorld.io 8, o.bad = true) ∧ 8 < (writeFits ⟨1, false, 0, false⟩ exampleWorld.env).trace.length ∧
    (writeFits ⟨1, false, 0, false⟩ exampleWorld.env).outcome = .failure ∧
    diskAfter (coreSteps ⟨1, false, 0, false⟩) exampleWorld (some [42]) = none := by decide

/-- the contract holds in that world (the short write happens inside the close, which reports it) -/
example : Surfaces exampleWorld (writeFits ⟨1, false, 0, false⟩ exampleWorld.env).trace := by
  intro j _ ⟨o, ho, _⟩
  have hj8 : j = 8 := by
    by_cases h : j = 8
    · exact h
    · simp [exampleWorld, h] at ho
  subst hj8
  exact ⟨8, Nat.le_refl _, .clos, by decide⟩

/-- C08 (what a failed write leaves, all operation logs): when `write_fits` reports a failure, no file of that name is
    left behind, or — only when creating the file failed — the file which was there before is untouched, unless the
    clean-up call (`fits_delete_file` after a failing `write_fits_core`, `remove` after a failing close) failed too. -/
theorem C08_failure_leaves_no_file (sh : Shape) (w : World) (prev : Option Bytes)
    (h : (writeFits sh w.env).outcome = .failure) :
    diskAfter (coreSteps sh) w prev = none ∨
    ((writeFits sh w.env).trace = [(.init, false)] ∧ diskAfter (coreSteps sh) w prev = prev) ∨
    (Step.delt, false) ∈ (writeFits sh w.env).trace ∨ (Step.remove, false) ∈ (writeFits sh w.env).trace :=
  failure_disk (coreSteps sh) (coreSteps_plain sh) w prev h

/-- **C08 (every single fault)**: if exactly one call of a run reports an error — any call, on any operation log, with
    any failing or short libc operations behind it — then `write_fits` reports a failure, and a reader of that file
    name afterwards finds no file (rejects) or, when it was the create that failed, possibly the untouched previous
    file: never a table made of what this write left behind. -/
theorem C08_single_fault_leaves_no_other_table (sh : Shape) (w : World) (prev : Option Bytes)
    (h1 : failures (writeFits sh w.env).trace = 1) :
    (writeFits sh w.env).outcome = .failure ∧
    (diskAfter (coreSteps sh) w prev = none ∨ diskAfter (coreSteps sh) w prev = prev) ∧
    (readDisk (diskAfter (coreSteps sh) w prev) = none ∨ readDisk (diskAfter (coreSteps sh) w prev) = readDisk prev) := by
  obtain ⟨hfail, hd⟩ := single_fault_disk (coreSteps sh) (coreSteps_plain sh) w prev h1
  exact ⟨hfail, hd, hd.imp (fun h => by rw [h]; rfl) (fun h => by rw [h])⟩

example : failures (writeFits ⟨1, false, 0, false⟩ exampleWorld.env).trace = 1 := by decide

/-- The hypothesis "one failing call" cannot be dropped (a limit of the code, not of the proof): with *two* faults — a
    write that fails while later writes of the same flush succeed, and a `remove` that fails afterwards — `write_fits`
    reports the failure but a file with a hole stays behind, which is not a prefix of the complete file (here
    `1,2,3,0,0,6` instead of `1,2,3,4,5,6`); when the hole lies in the coefficient data, such a file loads as a
    different table (the zeroed-block files of the check: `coverage.hole_states`).  Outside the property's quantifier
    (a single failing operation). -/
theorem C08_two_faults_limit :
    ∃ w : World, failures (writeFits ⟨1, false, 0, false⟩ w.env).trace = 2 ∧
      (writeFits ⟨1, false, 0, false⟩ w.env).outcome = .failure ∧
      diskAfter (coreSteps ⟨1, false, 0, false⟩) w none = some [1, 2, 3, 0, 0, 6] ∧
      diskAfter (coreSteps ⟨1, false, 0, false⟩) ⟨fun _ => true, fun j => (w.io j).map fun o => { o with ok := true }, false, false⟩ none
        = some [1, 2, 3, 4, 5, 6] :=
  ⟨⟨fun i => i != 8 && i != 9,
    fun j => if j = 8 then [⟨.pwrite 0 [1, 2, 3], true, 0⟩, ⟨.pwrite 3 [4, 5], false, 0⟩, ⟨.pwrite 5 [6], true, 0⟩, ⟨.close, true, 0⟩]
             else [],
    false, false⟩, by decide, by decide, by decide, by decide⟩

/-- C08 (success): under the contract `Surfaces` a reported success means that no write and no close failed in any
    call, and the file consists of everything the calls wrote; if that is the encoding of a well-formed table (tied
    byte for byte on every run), the file reads back the table's core. -/
theorem C08_success_file_complete (sh : Shape) (w : World) (prev : Option Bytes)
    (hs : Surfaces w (writeFits sh w.env).trace) (h : (writeFits sh w.env).outcome = .success) :
    (∀ j, j < (writeFits sh w.env).trace.length → ∀ o ∈ w.io j, o.bad = false) ∧
    diskAfter (coreSteps sh) w prev = some ((ioRange w 0 (writeFits sh w.env).trace.length).foldl IoOp.apply []) ∧
    ∀ t : Table, t.wf = true → (ioRange w 0 (writeFits sh w.env).trace.length).foldl IoOp.apply [] = encode t →
      ∃ v, readDisk (diskAfter (coreSteps sh) w prev) = some v ∧ v.core = t.core := by
  have hdisk := success_disk (coreSteps sh) (coreSteps_plain sh) w prev h
  refine ⟨?_, hdisk, ?_⟩
  · intro j hj o ho
    cases hb : o.bad with
    | false => rfl
    | true =>
      have := C08_write_fault_is_reported sh w hs j hj o ho hb
      rw [h] at this; exact absurd this (by simp)
  · intro t ht hfile
    unfold writeFits at hdisk
    rw [hdisk]
    show ∃ v, readBytes _ = some v ∧ _
    unfold writeFits at hfile
    rw [hfile]
    exact C08_write_reads_back t ht

example : Surfaces ⟨fun _ => true, fun _ => [], false, false⟩ (writeFits ⟨1, false, 0, false⟩ (fun _ => true)).trace ∧
    (writeFits ⟨1, false, 0, false⟩ (fun _ => true)).outcome = .success :=
  ⟨fun j _ ⟨o, ho, _⟩ => absurd ho (by simp), by decide⟩

/-! Atomicity — what a crash can leave.  The writer does not write to a temporary name: it creates the file
    under its final name (removing the previous one) and cfitsio writes it front to back (`appendOnly`, evaluated by
    the driver on the operation log recorded for every generated table).  The invariant over prefixes of such a log:
    the file is always a byte prefix of the complete file.  So a crash leaves, under that name, nothing, or a file
    which is rejected or loads equal to the table being written — never a different table, but also not the previous
    table: old-or-new atomicity is *not* offered. -/

/-- C08 (invariant over operation-log prefixes): for a log that writes front to back (every write starts at the
    current end of the file), the file after any number of complete operations plus any number of bytes of the next
    one is a prefix of the complete file. -/
theorem C08_crash_states_are_prefixes (ops : List Op) (hao : appendOnly 0 ops = true) (k b : Nat) :
    crashState ops k b <+: applyOps [] ops := by
  rw [crashState_eq]
  exact crash_prefix ops [] k b hao

example : appendOnly 0 (sequentialOps 0 [1, 2, 3, 4, 5, 6, 7] [3, 2, 2]) = true ∧
    crashState (sequentialOps 0 [1, 2, 3, 4, 5, 6, 7] [3, 2, 2]) 1 1 = [1, 2, 3, 4] := by decide

/-- **C08 (crash safety)**: whatever prefix of the operations the writer issues for a well-formed table has reached the
    file — at operation or at byte granularity — the file is rejected or loads with orders, axes, coefficients and knots
    equal to the table's.  Hypotheses: the log writes front to back and its complete result is the table's encoding
    (both evaluated per run on the recorded log; the encoding is compared byte for byte with cfitsio's file). -/
theorem C08_crash_safe (t : Table) (h : t.wf = true) (ops : List Op) (hao : appendOnly 0 ops = true)
    (hfin : applyOps [] ops = encode t) (k b : Nat) :
    readBytes (crashState ops k b) = none ∨ ∃ v, readBytes (crashState ops k b) = some v ∧ v.core = t.core :=
  readBytes_of_prefix (hfin ▸ C08_crash_states_are_prefixes ops hao k b) t.core (C08_roundtrip t h)

example : appendOnly 0 [.pwrite 0 ((encode twoDimTable).take 2880), .flush,
      .pwrite ((encode twoDimTable).take 2880).length ((encode twoDimTable).drop 2880), .close] = true ∧
    applyOps [] [.pwrite 0 ((encode twoDimTable).take 2880), .flush,
      .pwrite ((encode twoDimTable).take 2880).length ((encode twoDimTable).drop 2880), .close] = encode twoDimTable := by
  have h : appendOnly 0 [.pwrite 0 ((encode twoDimTable).take 2880), .flush,
      .pwrite ((encode twoDimTable).take 2880).length ((encode twoDimTable).drop 2880), .close] = true := by
    simp [appendOnly]
  exact ⟨h, by rw [applyOps_appendOnly _ [] h]; simp [payload]⟩

/-- C08 (no old-or-new atomicity): once `fits_create_file` has returned, the table that was stored under that name
    before is gone — a crash right then leaves an empty file, which every reader rejects, whatever was there. -/
theorem C08_previous_table_is_not_preserved (w : World) (prev : Option Bytes) (h0 : w.io 0 = []) :
    readDisk (diskOfTrace w prev [(.init, true)] 0 prev) = none := by
  show readDisk (some ((w.io 0).foldl IoOp.apply [])) = none
  rw [h0, List.foldl_nil]
  exact readBytes_nil

end PsV
