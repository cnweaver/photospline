import PsV.Proofs.Sync
import PsV.Proofs.SyncEnabled
import PsV.Proofs.SyncRank
import PsV.Proofs.SyncLive
import PsV.Proofs.SyncFair
import PsV.Proofs.SyncData
/-!
# C12 — the parallel line search of the monotonic fit terminates with the same result under every
thread schedule and for every worker count

The property theorems, and at the end the examples that meet their hypotheses on concrete configurations and
schedules.  The theorems are about `PsV.Sync.step?` / `spur?` / `runSched` / `selectSeq`, the definitions
the driver `psvdriver C12` executes when it replays the pthread-call traces of the real `walk_descents`.
`Reach c s`: `s` is reachable from `init c` by pthread-call transitions **and spurious wake-ups**.
`c.repaired = true` is the protocol after `fixes/C12-1.diff` (worker states are tested before the first
`pthread_cond_wait`); `c.repaired = false` is the code as published.  Everything is parametric in the number of
workers `c.n ≥ 1` (what `get_nthreads` returns) and the number of trial steps `c.m`, hence in the number of blocks.
Safety theorems (invariant, results-ready, data-race freedom, result) hold for both variants; deadlock freedom and
termination need the repair, and `C12_lost_wakeup_reachable` shows that they fail without it.
-/
namespace PsV
open PsV.Sync

/-- a non-trivial configuration used in the satisfiability examples: 2 workers, 3 trial steps (2 blocks) -/
def c12ex (rep : Bool) : Cfg := { n := 2, m := 3, less := fun a b => a == 2 && b == 0, repaired := rep }

/-- Invariant preservation: every reachable state satisfies `Inv` (the clauses are explained at `PsV.Sync.Inv`). -/
theorem C12_inv_preserved (c : Cfg) (hn : 0 < c.n) (s : State) (h : Reach c s) : Inv c s :=
  reach_inv c hn h

/-- Four clauses of `Inv` spelled out: mutex discipline (the owner is exactly the thread whose pc is
    inside a critical section, hence at most one such thread); a worker in the wait set has state WAIT unless the
    coordinator is between setting the states and its broadcast; a waiting coordinator (repaired protocol) has an
    active worker in state RUN or a worker about to broadcast. -/
theorem C12_invariants (c : Cfg) (hn : 0 < c.n) (s : State) (h : Reach c s) :
    (s.owner = some 0 ↔ cHolds s.cpc = true) ∧ (∀ w, s.owner = some (w+1) ↔ wHolds (s.wpc w) = true) ∧
    (∀ w, s.wpc w = .waiting → s.st w = .wait ∨ isBcast s.cpc = true) ∧
    (c.repaired = true → s.cpc = .waiting →
      (∃ j, j < c.active s.blk ∧ s.st j = .run) ∨ (∃ w, s.wpc w = .bcast)) :=
  have i := reach_inv c hn h
  ⟨i.own0, i.ownW, i.waitSt, i.waitRun⟩

/-- **No deadlock / no lost wake-up** (repaired protocol): every reachable non-final state has an enabled
    non-spurious transition. -/
theorem C12_no_deadlock (c : Cfg) (hn : 0 < c.n) (hr : c.repaired = true) (s : State) (h : Reach c s)
    (hf : isFinal s = false) : anyEnabled c s = true :=
  (reach_inv c hn h).anyEnabled hr hf

/-- **Results are ready when read** (both variants): when the coordinator is about to leave the wait loop and scan
    the results of block `blk`, every active worker `j` holds the result for trial index `blk*n+j`. -/
theorem C12_results_ready_when_read (c : Cfg) (hn : 0 < c.n) (s : State) (h : Reach c s)
    (hp : s.cpc = .unlockB) (j : Nat) (hj : j < c.active s.blk) : s.val j = some (s.blk * c.n + j) :=
  (reach_inv c hn h).ready hp j hj

/-- **No data race on the trial records** (both variants): whenever the coordinator is about to write a worker's
    `alpha`/`state` (`lockA`, `lockT`) or to read its outputs and overwrite `x` (`unlockB`), no worker is between its
    `unlock` after seeing RUN and the `lock` that publishes its result (the only region where a worker touches them). -/
theorem C12_no_data_race (c : Cfg) (hn : 0 < c.n) (s : State) (h : Reach c s)
    (hp : s.cpc = .lockA ∨ s.cpc = .unlockB ∨ s.cpc = .lockT) (w : Nat) : s.wpc w ≠ .lock2 := by
  refine (reach_inv c hn h).no_lock2 ?_ w
  rcases hp with hp | hp | hp
  · exact Or.inl (by rw [hp]; rfl)
  · exact Or.inr hp
  · exact Or.inl (by rw [hp]; rfl)

/-- **Ranking function**: every non-spurious transition out of a reachable state decreases `rank`. -/
theorem C12_rank_decreases (c : Cfg) (hn : 0 < c.n) (s s' : State) (t : Nat) (h : Reach c s)
    (hs : step? c s t = some s') : rank c s' < rank c s :=
  rank_step c s s' t (reach_inv c hn h) hs

/-- **Termination** (repaired protocol): a run without spurious wake-ups has at most `rank c (init c)` steps, and
    when nothing is enabled any more the routine has returned. -/
theorem C12_terminates (c : Cfg) (hn : 0 < c.n) (hr : c.repaired = true) (sched : List Nat) (s : State)
    (hs : runSched c (init c) (sched.map fun t => (t, false)) = some s) :
    sched.length + rank c s ≤ rank c (init c) ∧ (anyEnabled c s = false → isFinal s = true) := by
  constructor
  · have := run_bound c hn _ (init c) s Reach.init hs
    rwa [nspur_map_false, List.length_map] at this
  · exact final_of_stuck c hn hr (reach_runSched c _ _ _ Reach.init hs)

/-- **The result is the sequential one** (both variants): in every reachable final state the coordinator has chosen
    what the one-trial-at-a-time loop `selectSeq` chooses (first residual-reducing index in descending step order, else
    the last index; `feasible` = whether it reduces the residual). -/
theorem C12_result_is_sequential (c : Cfg) (hn : 0 < c.n) (s : State) (h : Reach c s) (hf : isFinal s = true) :
    (s.base, s.chosen) = selectSeq c.less c.m :=
  (reach_inv c hn h).accDone (Or.inr (by rw [isFinal_iff.mp hf]; rfl))

/-- **What is chosen**: `selectSeq` (hence, by `C12_result_is_sequential`, every run with any number of workers under
    any schedule) picks the first trial index `k ≥ 1` — i.e. the longest step — whose residual is below the residual of
    the current solution (index 0), else the last index; `feasible` tells which. (`n_alpha ≥ 2` always.) -/
theorem C12_select_spec (less : Nat → Nat → Bool) (m : Nat) (hm : 2 ≤ m) :
    ∃ k, 1 ≤ k ∧ k < m ∧ selectSeq less m = (some 0, some (some k, less k 0)) ∧
      (less k 0 = true ∨ k = m - 1) ∧ ∀ j, 1 ≤ j → j < k → less j 0 = false ∧ j ≠ m - 1 :=
  selectSeq_spec less m hm

/-- **Schedule independence**: two runs of the same configuration (any interleaving, any spurious wake-ups) that
    return, return the same choice. -/
theorem C12_result_schedule_independent (c : Cfg) (hn : 0 < c.n) (s1 s2 : State) (h1 : Reach c s1) (h2 : Reach c s2)
    (hf1 : isFinal s1 = true) (hf2 : isFinal s2 = true) : (s1.base, s1.chosen) = (s2.base, s2.chosen) := by
  rw [C12_result_is_sequential c hn s1 h1 hf1, C12_result_is_sequential c hn s2 h2 hf2]

/-- **Worker-count independence**: configurations that differ only in the number of workers (hence in the block
    size and the number of blocks) return the same choice. -/
theorem C12_result_worker_count_independent (c1 c2 : Cfg) (hn1 : 0 < c1.n) (hn2 : 0 < c2.n) (hm : c1.m = c2.m)
    (hl : c1.less = c2.less) (s1 s2 : State) (h1 : Reach c1 s1) (h2 : Reach c2 s2)
    (hf1 : isFinal s1 = true) (hf2 : isFinal s2 = true) : (s1.base, s1.chosen) = (s2.base, s2.chosen) := by
  rw [C12_result_is_sequential c1 hn1 s1 h1 hf1, C12_result_is_sequential c2 hn2 s2 h2 hf2, hm, hl]

/- The code **as it is**: 1 worker, first block.  The coordinator creates the worker, sets RUN, broadcasts, unlocks; the
    worker runs to completion (lock, unlock, compute, lock, set WAIT, broadcast — nobody is waiting —, unlock, lock,
    wait); the coordinator locks and waits without looking at the state.  Nobody will ever wake anybody.
   `lostWakeupSchedule`, `lostWakeupCfg` are defined in `PsV.Sync` (Model/Sync.lean) so that the driver can emit them: the
   check forces exactly this schedule through the published code (HEAD with fixes/C12-1.diff reverse-applied) on every run. -/

/-- **Lost wake-up in the published code**: an explicit finite trace from the initial state to a non-final state in
    which no transition is enabled (both threads sit in the wait set). -/
theorem C12_lost_wakeup_reachable :
    ∃ s, runSched lostWakeupCfg (init lostWakeupCfg) lostWakeupSchedule = some s ∧ isFinal s = false ∧
      anyEnabled lostWakeupCfg s = false ∧ s.cpc = .waiting ∧ s.wpc 0 = .waiting := by
  decide +kernel

/-- …and this state is `Reach`able, so `C12_no_deadlock` is false for `repaired = false`. -/
theorem C12_unrepaired_deadlocks :
    ∃ s, Reach lostWakeupCfg s ∧ isFinal s = false ∧ anyEnabled lostWakeupCfg s = false := by
  obtain ⟨s, h1, h2, h3, _⟩ := C12_lost_wakeup_reachable
  exact ⟨s, reach_runSched _ _ _ _ Reach.init h1, h2, h3⟩

/-! ## Thread creation and teardown: every synchronisation construct of `walk_descents` / `evaluate_descent` is in the model

`pthread_create` (`create k`), `pthread_mutex_lock/unlock`, `pthread_cond_wait` (W + K, spurious wake-ups),
`pthread_cond_broadcast`, the TERMINATE flag (`lockT`/`bcastT`/`unlockT`, worker `hold` with state `term`),
`pthread_exit` (`exit`), `pthread_join` (`join k`) are transitions.  `pthread_mutex_init`/`cond_init` precede the first
`create`, `pthread_cond_destroy`/`pthread_mutex_destroy`/`free(descent_trials)` follow the last `join`: they have no
transition of their own, their safety conditions are the two theorems below.  No other routine under `src/fitter`
creates threads or uses a mutex/condition variable. -/

/-- **A worker does nothing before its `pthread_create`**: while the coordinator is about to create worker `k`, the
    workers `k, k+1, …` have no enabled transition, are not in the wait set and cannot be woken spuriously. -/
theorem C12_no_step_before_create (c : Cfg) (hn : 0 < c.n) (s : State) (h : Reach c s) (k : Nat)
    (hp : s.cpc = .create k) (w : Nat) (hw : k ≤ w) :
    s.wpc w = .idle ∧ step? c s (w+1) = none ∧ spur? c s (w+1) = none := by
  have hidle := ((reach_inv c hn h).created k hp).2.2 w hw
  exact ⟨hidle, worker_stuck (Or.inr hidle)⟩

/-- **`pthread_join` really waits, and teardown is safe**: the coordinator passes `join k` only after worker `k` has
    executed `pthread_exit`; when `walk_descents` reaches the code behind the last join (`pthread_cond_destroy`,
    `pthread_mutex_destroy`, freeing the trial records and `alpha`), every worker has exited, nobody owns the mutex,
    the wait set is empty, and no thread can take any further step — not even by a spurious wake-up. -/
theorem C12_teardown_safe (c : Cfg) (hn : 0 < c.n) (s : State) (h : Reach c s) :
    (∀ k, s.cpc = .join k → ∀ w, w < k → s.wpc w = .done) ∧
    (s.cpc = .final → (∀ w, w < c.n → s.wpc w = .done) ∧ s.owner = none ∧ (∀ w, s.wpc w ≠ .waiting) ∧
      ∀ t, step? c s t = none ∧ spur? c s t = none) := by
  have i := reach_inv c hn h
  have j := reach_joinInv c h
  refine ⟨j.joined, fun hf => ?_⟩
  have hstuck := final_stuck i j hf
  exact ⟨j.finalAll hf, i.owner_none_of_stuck fun t => (hstuck t).1,
    fun w hw => (by rcases final_pcs i j hf w with h1 | h1 <;> rw [h1] at hw <;> cases hw), hstuck⟩

/-- **Step bound for every schedule, spurious wake-ups included** (both variants of the code): a schedule the protocol
    can execute from the initial state has at most `rank (init) + 3·(number of spurious wake-ups in it)` entries.
    `C12_terminates` is the case without spurious wake-ups. -/
theorem C12_step_bound (c : Cfg) (hn : 0 < c.n) (sched : List (Nat × Bool)) (s : State)
    (hs : runSched c (init c) sched = some s) :
    sched.length + rank c s ≤ rank c (init c) + 3 * nspur sched :=
  run_bound c hn sched (init c) s Reach.init hs

/-- **No infinite execution** (both variants): every infinite sequence of transitions from the initial state
    contains infinitely many spurious wake-ups.  Hence *without any fairness assumption* the protocol — lock, unlock,
    wait, broadcast, create, exit, join steps under an arbitrary, even adversarial scheduler — cannot run forever; only
    an environment that keeps injecting spurious wake-ups can keep it going. -/
theorem C12_no_infinite_execution (c : Cfg) (hn : 0 < c.n) (e : Exec c) (N : Nat) :
    ∃ i, N ≤ i ∧ (e.lab i).2 = true :=
  e.spur_infinitely_often hn N

/-- **Every maximal run completes** (repaired protocol): whatever schedule was executed (spurious wake-ups
    included), if no pthread call is enabled any more then `walk_descents` has returned, all workers have exited and
    been joined, the mutex is free, and the choice is the sequential one. -/
theorem C12_maximal_run_completes (c : Cfg) (hn : 0 < c.n) (hr : c.repaired = true) (sched : List (Nat × Bool))
    (s : State) (hs : runSched c (init c) sched = some s) (hmax : anyEnabled c s = false) :
    isFinal s = true ∧ (∀ w, w < c.n → s.wpc w = .done) ∧ s.owner = none ∧
      (s.base, s.chosen) = selectSeq c.less c.m := by
  have hreach := reach_runSched c _ _ _ Reach.init hs
  have hfin := final_of_stuck c hn hr hreach hmax
  have ht := (C12_teardown_safe c hn s hreach).2 (isFinal_iff.mp hfin)
  exact ⟨hfin, ht.1, ht.2.1, C12_result_is_sequential c hn s hreach hfin⟩

/-- **The futile cycle** (a statement about POSIX, shown on the model): in *every* state in which the mutex is free
    and some worker sits in `pthread_cond_wait` with state WAIT, that worker can be woken spuriously, re-acquire the
    mutex, see WAIT and wait again — a cycle back to the same state, in the middle of which the worker holds the
    mutex. -/
theorem C12_spurious_cycle (c : Cfg) (s : State) (w : Nat) (hw : w < c.n) (hp : s.wpc w = .waiting)
    (hst : s.st w = .wait) (ho : s.owner = none) :
    runSched c s (futileCycle w) = some s ∧
    ∃ s2, runSched c s ((futileCycle w).take 2) = some s2 ∧ s2.owner = some (w+1) := by
  obtain ⟨s1, s2, h1, h2, h3, h4, _⟩ := futileCycle_runs c s w hw hp hst ho
  refine ⟨?_, s2, ?_, h4⟩
  · simp [futileCycle, runSched, h1, h2, h3]
  · simp [futileCycle, runSched, h1, h2]

/-- **Weak fairness alone is not enough when spurious wake-ups are unbounded** (repaired code, smallest instance):
    a reachable state with the coordinator blocked in `pthread_mutex_lock` from which the futile cycle of the worker
    is weakly fair: every other thread that needs the mutex is disabled at the moment the cycling worker holds it.
    Repeated forever this starves the coordinator although it is enabled infinitely often.  (With finitely many
    spurious wake-ups there is no such execution: `C12_no_infinite_execution`.) -/
theorem C12_weak_fairness_not_enough :
    ∃ s, Reach fairCfg s ∧ isFinal s = false ∧ s.cpc = .lockA ∧ WeakFairCycle fairCfg s (futileCycle 0) := by
  obtain ⟨s, hs, hpc, _, hcyc⟩ := fairCfg_cycle
  exact ⟨s, reach_runSched _ _ _ _ Reach.init hs, by show (s.cpc == CPc.final) = false; rw [hpc]; rfl, hpc, hcyc⟩

/-- **A weakly fair execution of the repaired protocol that never terminates** (only possible with infinitely many
    spurious wake-ups, by `C12_no_infinite_execution`): an infinite execution in which no state is final, every
    thread is treated weakly fairly, yet the coordinator — blocked in the `pthread_mutex_lock` that starts the first
    block, enabled infinitely often — never runs again: it is not treated *strongly* fairly.  So "terminates under
    weak fairness" is false for any condition-variable protocol on a POSIX mutex once spurious wake-ups are
    unbounded; the termination theorems above are therefore stated by counting spurious wake-ups
    (`C12_step_bound`, `C12_no_infinite_execution`). -/
theorem C12_weakly_fair_infinite_execution :
    ∃ e : Exec fairCfg, (∀ i, isFinal (e.st i) = false) ∧ (∀ t, t ≤ fairCfg.n → e.WeakFair t) ∧ ¬ e.StrongFair 0 := by
  obtain ⟨s, hs, hpc, ho, hcyc⟩ := fairCfg_cycle
  obtain ⟨e, hweak, hstrong⟩ := hcyc.exec hs
  -- the coordinator is enabled where the cycle starts, and the cycle holds no call of it
  exact ⟨e, fun i => beq_eq_false_iff_ne.mpr (e.not_final (by decide) i), hweak,
    hstrong 0 (stepC_enabled (Or.inl ho) (by rw [hpc]; exact ⟨nofun, nofun, nofun⟩)) (by decide)⟩

/-- **Progress measure that survives spurious wake-ups**: `prog = 3·rank + corr` never increases — neither on a pthread
    call nor on a spurious wake-up — and strictly decreases on every pthread call except the *futile* ones: a thread
    that was woken although its predicate is still false re-acquires the mutex (`K`) and waits again (`W`).  A spurious
    wake-up of a worker whose state is not WAIT also decreases it. -/
theorem C12_progress_measure (c : Cfg) (hn : 0 < c.n) (s s' : State) (h : Reach c s) (t : Nat) :
    (step? c s t = some s' → prog c s' ≤ prog c s ∧ (futile c s t = false → prog c s' < prog c s)) ∧
    (spur? c s t = some s' → prog c s' ≤ prog c s ∧ ∀ w, t = w+1 → s.st w ≠ .wait → prog c s' < prog c s) :=
  ⟨fun hs => prog_step c s s' t (reach_inv c hn h) hs, fun hs => prog_spur c s s' t hs⟩

/-- **Termination under strong fairness, with unboundedly many spurious wake-ups** (repaired protocol): there is no
    infinite execution in which every thread that is enabled infinitely often also performs infinitely many pthread
    calls.  Equivalently: every strongly fair execution is finite, and by `C12_maximal_run_completes` it ends with
    `walk_descents` returned, all workers joined and the sequential result.  (Strong fairness is needed only for the
    mutex: `C12_weakly_fair_infinite_execution` shows that weak fairness is not enough; without spurious wake-ups no
    fairness is needed at all: `C12_no_infinite_execution`.) -/
theorem C12_strongly_fair_terminates (c : Cfg) (hn : 0 < c.n) (hr : c.repaired = true) (e : Exec c) :
    ∃ t, t ≤ c.n ∧ ¬ e.StrongFair t := by
  apply Classical.byContradiction
  intro hno
  exact e.not_strongly_fair hn hr (fun t ht => Classical.byContradiction fun hnf => hno ⟨t, ht, hnf⟩)

/-- **Which blocks are processed**: when `walk_descents` has returned, the coordinator has started exactly the blocks
    `0 … blk-1`, where block `blk-1` is the one that contains the chosen trial index `k` (`(blk-1)·n ≤ k < blk·n`): no
    block after the successful one is started (`if (success) break`), none before it is skipped.  Together with
    `C12_each_trial_evaluated_once`: the trial indices `0 … min(m, blk·n) - 1` are evaluated exactly once each, all
    others never. -/
theorem C12_blocks_started (c : Cfg) (hn : 0 < c.n) (hm : 2 ≤ c.m) (s : State) (h : Reach c s)
    (hf : isFinal s = true) :
    ∃ k, s.chosen = some (some k, c.less k 0) ∧ 0 < s.blk ∧ s.blk ≤ c.blocks ∧
      (s.blk - 1) * c.n ≤ k ∧ k < s.blk * c.n := by
  have B := reach_blkInv c hn h
  obtain ⟨k, hch, hb0, hlo, hhi⟩ := B.chosen_block hm (C12_result_is_sequential c hn s h hf)
  exact ⟨k, hch, hb0, B.le, hlo, hhi⟩

/-! ## Data: the numerical result is a fixed function of the inputs

`PsV.Sync.DState` (Model/SyncData.lean) carries the data: the shared `x`, the per-worker records, what each worker
read.  Control decisions are taken from the data.  `Num.trial / lt / put` stand for the three pieces of straight-line
floating-point code; the theorems show that *which* values they are applied to, and in which order their results are
combined, is the same for every schedule and every worker count — so the outputs are bit-identical whatever the
floating-point semantics of those pieces are (as long as each is a function of its arguments). -/
section Data
variable {D R : Type}

/-- **Refinement**: the control part of every reachable data state is a reachable state of the hand-shake model for
    the induced comparison `less a b := residual(trial x₀ a) < residual(trial x₀ b)`, and each data transition is
    exactly a `step?` / `spur?` transition on the control part.  All `Reach` theorems above therefore hold of the
    data model (invariant, deadlock freedom, data-race freedom, rank, termination). -/
theorem C12_data_refines_control (P : DProb D R) (hn : 0 < P.n) (d : DState D R) (h : DReach P d) :
    Reach P.cfg d.ctl ∧
    (∀ t d', stepD? P d t = some d' → step? P.cfg d.ctl t = some d'.ctl) ∧
    (∀ t d', spurD? P d t = some d' → spur? P.cfg d.ctl t = some d'.ctl) := by
  obtain ⟨hr, hd, _⟩ := dreach_inv P hn h
  exact ⟨hr, fun t d' hs => (dinv_stepD P d d' t (reach_inv P.cfg hn hr) hd hs).1,
    fun t d' hs => (dinv_spurD P d d' t hd hs).1⟩

/-- **The inputs of a computation are stable and schedule-independent**: whenever worker `w` is inside its compute
    region (between the `unlock` after seeing RUN and the `lock` that publishes the result) — in particular at the
    moment the region closes — what it read from `x` at the start is still what `x` holds, it is the value of `x`
    on entry to `walk_descents`, and the α index it read is still its assigned one, namely `blk·n + w`.
    (No write of `x` or `alpha` overlaps a computation: data-race freedom on the *values*.) -/
theorem C12_compute_inputs_stable (P : DProb D R) (hn : 0 < P.n) (d : DState D R) (h : DReach P d) (w : Nat)
    (hp : d.ctl.wpc w = .lock2) :
    d.rdx w = d.x ∧ d.x = P.x0 ∧ d.rda w = d.ctl.aidx w ∧ d.ctl.aidx w = d.ctl.blk * P.n + w := by
  obtain ⟨hr, hd, _⟩ := dreach_inv P hn h
  exact hd.compute_inputs (reach_inv P.cfg hn hr) hp

/-- **What a record holds**: every published record is `trial x₀ k` for the index `k` the hand-shake model says it
    belongs to; with `C12_results_ready_when_read`: when the coordinator scans block `blk`, the record of active worker
    `j` is `trial x₀ (blk·n + j)` — computed from the entry value of `x`, by one uninterrupted computation. -/
theorem C12_scanned_records (P : DProb D R) (hn : 0 < P.n) (d : DState D R) (h : DReach P d) :
    (∀ w, d.out w = (d.ctl.val w).map (P.num.trial P.x0)) ∧
    (d.ctl.cpc = .unlockB → ∀ j, j < P.cfg.active d.ctl.blk →
      d.out j = some (P.num.trial P.x0 (d.ctl.blk * P.n + j))) := by
  obtain ⟨hr, hd, _⟩ := dreach_inv P hn h
  refine ⟨hd.outRel, fun hp j hj => ?_⟩
  rw [hd.outRel j, C12_results_ready_when_read P.cfg hn d.ctl hr hp j hj]; rfl

/-- **The outputs are those of the single-threaded program**: in every final state of the data model (any schedule,
    any spurious wake-ups, any worker count) the contents of `x`, the base record and the record copied out with its
    `feasible` flag are exactly `seqD P`: evaluate `trial x₀ 0, trial x₀ 1, …` in index order, take the first whose
    residual is below that of index 0 (else the last), copy it into `x₀`. -/
theorem C12_data_result_is_sequential (P : DProb D R) (hn : 0 < P.n) (d : DState D R) (h : DReach P d)
    (hf : isFinal d.ctl = true) : d.outputs = seqD P := by
  obtain ⟨hr, hd, _⟩ := dreach_inv P hn h
  exact hd.outputs_eq (C12_result_is_sequential P.cfg hn d.ctl hr hf)

/-- **Bit-identical results for every schedule and every worker count**: two runs on the same data (same numerical
    pieces, same entry `x`, same number of trial steps) — with any numbers of workers, either variant of the wait
    loop, any interleavings and spurious wake-ups — that return, return the same `x`, the same base record and the
    same copied record/flag. -/
theorem C12_data_schedule_and_worker_count_independent (P1 P2 : DProb D R) (hn1 : 0 < P1.n) (hn2 : 0 < P2.n)
    (hnum : P1.num = P2.num) (hx : P1.x0 = P2.x0) (hm : P1.m = P2.m)
    (d1 d2 : DState D R) (h1 : DReach P1 d1) (h2 : DReach P2 d2)
    (hf1 : isFinal d1.ctl = true) (hf2 : isFinal d2.ctl = true) : d1.outputs = d2.outputs := by
  rw [C12_data_result_is_sequential P1 hn1 d1 h1 hf1, C12_data_result_is_sequential P2 hn2 d2 h2 hf2]
  simp only [seqD, flatD, copyOut, hnum, hx, hm]

/-- **Every trial of a processed block is evaluated exactly once**: in every reachable state trial index `k` has been
    evaluated once if it is *done* (it belongs to a finished block, or to the current block and its worker has
    reported back) and never otherwise; in a final state the evaluated indices are exactly those of the first `blk`
    blocks (`blk` = number of blocks the coordinator started; by the `break` on `success` the later ones are never
    started). -/
theorem C12_each_trial_evaluated_once (P : DProb D R) (hn : 0 < P.n) (d : DState D R) (h : DReach P d) :
    (∀ k, d.cnt k ≤ 1) ∧
    (∀ k, (doneIdx P.cfg d.ctl k → d.cnt k = 1) ∧ (¬ doneIdx P.cfg d.ctl k → d.cnt k = 0)) ∧
    (isFinal d.ctl = true → ∀ k, d.cnt k = if k < P.m ∧ k < d.ctl.blk * P.n then 1 else 0) := by
  have hc := (dreach_inv P hn h).2.2
  exact ⟨hc.le_one, hc, fun hf k => hc.cnt_eq (doneIdx_outside (by rw [isFinal_iff.mp hf]; rfl) k)⟩

end Data

/-! ## Finding: outside the hand-shake the result does depend on the worker count (tree as published)

`C12_data_*` cover `walk_descents`.  The solver around it, `nnls_normal_block3`, calls `modify_factor`, whose choice
between updating and recomputing the Cholesky factor compares `fl / (9 · get_nthreads() · (nH1+nH2) · modfl)` with 1. -/

/-- **The update-vs-refactor decision depends on the worker count** (code as published; values logged by the real
    solver on the check's regression instance, generator seed 2 / problem 2, at `F[10] G[18] H1[3]`: factor work 385,
    modification work 12): with one worker the factor is updated row by row, with two it is recomputed.  The
    differently rounded factors change the residual by 6·10⁻¹³ relative and, on that ill-conditioned problem, the final
    coefficients by 0.51 (largest coefficient 0.58).  So "same coefficients for every worker count" is **false** of the
    published tree.  After fixes/C12-2.diff the threshold uses the constant 16 and `modify_factor` no longer reads the
    worker count.  The check extracts these numbers from the solver's own log on every run and evaluates `factorUpdate` on them. -/
theorem C12_factor_update_depends_on_worker_count :
    factorUpdate 1 true 10 385 12 3 = true ∧ factorUpdate 2 true 10 385 12 3 = false := by
  decide

/-! ### satisfiability of the hypotheses (non-trivial instances) -/
/-- a complete run of the repaired protocol, 2 workers × 2 blocks (round-robin schedule) -/
def exSchedule : List Nat :=
  [0, 1, 0, 1, 2, 2, 0, 0, 0, 1, 1, 2, 2, 0, 0, 1, 1, 1, 2, 2, 2, 0, 0, 1, 1, 2, 2, 0, 0, 0, 1, 1, 2, 2, 0, 0, 1, 1, 1,
   2, 2, 0, 0, 1, 1, 0, 0, 0, 1, 1, 2, 1, 2, 0, 2, 0]

example : ∃ s, runSched (c12ex true) (init (c12ex true)) (exSchedule.map fun t => (t, false)) = some s ∧
    isFinal s = true ∧ s.chosen = some (some 2, true) ∧ s.calcs = 4 := by decide +kernel
-- a reachable non-final state (after 20 steps) with an enabled transition
example : ∃ s, runSched (c12ex true) (init (c12ex true)) ((exSchedule.take 20).map fun t => (t, false)) = some s ∧
    isFinal s = false ∧ anyEnabled (c12ex true) s = true := by decide +kernel
-- the witness schedule on the repaired protocol does not get stuck: the coordinator's test sees WAIT and goes on
example : ∃ s, runSched { lostWakeupCfg with repaired := true } (init lostWakeupCfg)
    (lostWakeupSchedule.take 12 ++ [(0,false)]) = some s ∧ s.cpc = .lockA ∧ s.blk = 1 := by decide +kernel
example : selectSeq (c12ex true).less 3 = (some 0, some (some 2, true)) := by decide +kernel
example : selectSeq (fun _ _ => false) 4 = (some 0, some (some 3, false)) := by decide +kernel
example : 0 < (c12ex true).n ∧ (c12ex true).blocks = 2 := by decide +kernel

-- `C12_no_step_before_create`: the initial state is about to create worker 0; `C12_teardown_safe`: the final state of `exSchedule`
example : Reach (c12ex true) (init (c12ex true)) ∧ (init (c12ex true)).cpc = .create 0 := ⟨Reach.init, rfl⟩
example : ∃ s, runSched (c12ex true) (init (c12ex true)) ((exSchedule.take 54).map fun t => (t, false)) = some s ∧
    s.cpc = .join 1 ∧ s.wpc 0 = .done := by decide +kernel
-- `C12_step_bound`: a schedule with two spurious wake-ups that the protocol executes
def spurSchedule : List (Nat × Bool) := [(0,false),(1,false),(1,false),(1,true),(1,false),(1,false),(1,true),(0,false)]
example : (runSched fairCfg (init fairCfg) spurSchedule).isSome = true ∧ nspur spurSchedule = 2 := by decide +kernel
-- `C12_no_infinite_execution`: infinite executions exist (with infinitely many spurious wake-ups)
example : Nonempty (Exec fairCfg) := let ⟨e, _⟩ := C12_weakly_fair_infinite_execution; ⟨e⟩
-- `C12_strongly_fair_terminates`: `fairCfg` is repaired and has an infinite execution (that of `C12_weakly_fair_infinite_execution`, unfair to thread 0)
example : fairCfg.repaired = true ∧ 0 < fairCfg.n ∧ Nonempty (Exec fairCfg) :=
  ⟨rfl, by decide, let ⟨e, _⟩ := C12_weakly_fair_infinite_execution; ⟨e⟩⟩
-- `C12_progress_measure`: a futile position (worker 0 woken spuriously with state WAIT) and a non-futile one
example : ∃ s, runSched fairCfg (init fairCfg) [(0,false),(1,false),(1,false),(1,true)] = some s ∧
    futile fairCfg s 1 = true ∧ futile fairCfg s 0 = false := by decide +kernel
-- `C12_blocks_started`: 2 workers, 3 trial steps: both blocks are needed (the chosen index 2 lies in block 1)
example : 0 < (c12ex true).n ∧ 2 ≤ (c12ex true).m := by decide +kernel
-- `C12_maximal_run_completes`: the complete run `exSchedule` ends in a state without enabled transition
example : ∃ s, runSched (c12ex true) (init (c12ex true)) (exSchedule.map fun t => (t, false)) = some s ∧
    anyEnabled (c12ex true) s = false := by decide +kernel
-- `C12_spurious_cycle`: its hypotheses hold in the state used by `C12_weak_fairness_not_enough`
example : ∃ s, runSched fairCfg (init fairCfg) [(0,false),(1,false),(1,false)] = some s ∧ s.wpc 0 = .waiting ∧
    s.st 0 = .wait ∧ s.owner = none :=
  let ⟨s, h, _, hw, hs, ho⟩ := fair_prefix; ⟨s, h, hw, hs, ho⟩

-- a data instance: `x` is a number, a record is (trial index, value of x it was computed from), the copy loop adds
-- 100 + index; trial 2 is the first that reduces the residual
def c12data (n : Nat) : DProb Nat (Nat × Nat) :=
  { num := { trial := fun x k => (k, x), lt := fun a b => a.1 == 2 && b.1 == 0, put := fun x r => x + 100 + r.1 },
    x0 := 7, n := n, m := 3, repaired := true }
/-- a complete run with one worker (three blocks) -/
def exSchedule1 : List Nat :=
  [0,1,1,0,0,0,1,1,1,1,1,1,1,0,0,0,0,0,1,1,1,1,1,1,1,0,0,0,0,0,1,1,1,1,1,1,1,0,0,0,0,0,1,1,1,0]
-- two workers, two blocks: final outputs, counters
example : ∃ d, runSchedD (c12data 2) (initD (c12data 2)) (exSchedule.map fun t => (t, false)) = some d ∧
    isFinal d.ctl = true ∧ d.x = 109 ∧ d.res = some (0, 7) ∧ d.pick = some (some (2, 7), true) ∧
    d.cnt 0 = 1 ∧ d.cnt 1 = 1 ∧ d.cnt 2 = 1 ∧ d.cnt 3 = 0 ∧ d.ctl.blk = 2 := by decide +kernel
-- one worker, three blocks: the same outputs
example : ∃ d, runSchedD (c12data 1) (initD (c12data 1)) (exSchedule1.map fun t => (t, false)) = some d ∧
    isFinal d.ctl = true ∧ d.x = 109 ∧ d.res = some (0, 7) ∧ d.pick = some (some (2, 7), true) ∧ d.ctl.blk = 3 := by decide +kernel
example : seqD (c12data 2) = (109, (some (0, 7), some (some (2, 7), true))) := by decide +kernel
-- `C12_data_schedule_and_worker_count_independent`: the two instances differ only in the number of workers
example : (c12data 1).num = (c12data 2).num ∧ (c12data 1).x0 = (c12data 2).x0 ∧ (c12data 1).m = (c12data 2).m ∧
    (c12data 1).n ≠ (c12data 2).n := ⟨rfl, rfl, rfl, by decide⟩
-- `C12_compute_inputs_stable`: after 13 steps both workers are inside their compute regions
example : ∃ d, runSchedD (c12data 2) (initD (c12data 2)) ((exSchedule.take 13).map fun t => (t, false)) = some d ∧
    d.ctl.wpc 0 = .lock2 ∧ d.ctl.wpc 1 = .lock2 ∧ d.rdx 1 = 7 ∧ d.rda 1 = 1 := by decide +kernel
-- `C12_scanned_records`: after 22 steps the coordinator is about to scan block 0
example : ∃ d, runSchedD (c12data 2) (initD (c12data 2)) ((exSchedule.take 22).map fun t => (t, false)) = some d ∧
    d.ctl.cpc = .unlockB ∧ d.out 1 = some (1, 7) := by decide +kernel
example (d : DState Nat (Nat × Nat))
    (h : runSchedD (c12data 2) (initD (c12data 2)) (exSchedule.map fun t => (t, false)) = some d) :
    DReach (c12data 2) d := dreach_runSchedD _ _ _ _ DReach.init h

end PsV
