import PsV.Proofs.Search
/-!
# C04 — centre lookup accepts exactly the knot range and brackets the point

Property theorems only.  `α` is any linear order (non-NaN doubles are one); the statements
are about `PsV.searchAxis` / `PsV.searchCenters`, the definitions the driver executes.
`Axis.WF`, `InRange`, `CenterSpec`, `AllInRange`, `CentersSpec` and the arguments, outcome by outcome (`searchAxis_spec`,
`searchCenters_spec`): `PsV/Proofs/Search.lean`.
-/
namespace PsV
section
variable {α : Type} [LinearOrder α]
attribute [local instance] cmpLO

/-- C04, one axis: rejects exactly outside `(first, last]`; otherwise terminates with a centre
    meeting `CenterSpec`.  Knots beyond index `nknots-1` (the padding) are unconstrained. -/
theorem C04_searchAxis (a : Axis α) (x : α) (h : a.WF) :
    (¬ InRange a x → searchAxis a.order a.nknots a.knots x = .reject) ∧
    (InRange a x → ∃ c, searchAxis a.order a.nknots a.knots x = .ok c ∧ CenterSpec a x c) := by
  cases hr : searchAxis a.order a.nknots a.knots x with
  | reject => exact ⟨fun _ => rfl, fun hin => absurd hin (searchAxis_reject a h hr)⟩
  | ok c => exact ⟨fun hn => absurd (searchAxis_ok a h hr).1 hn, fun _ => ⟨c, rfl, (searchAxis_ok a h hr).2⟩⟩
  | nonterm => exact absurd hr (searchAxis_ne_nonterm a h x)

/-- C04, all dimensions: the lookup never diverges; it rejects iff some coordinate is outside its
    range, and otherwise returns one centre per dimension, each meeting `CenterSpec`. -/
theorem C04_searchCenters (axes : List (Axis α)) (xs : List α)
    (hwf : ∀ a ∈ axes, a.WF) :
    (¬ AllInRange axes xs → searchCenters axes xs = .reject) ∧
    (AllInRange axes xs → ∃ cs, searchCenters axes xs = .ok cs ∧ CentersSpec axes xs cs) := by
  have hs := searchCenters_spec axes xs hwf
  cases hr : searchCenters axes xs with
  | reject => rw [hr] at hs; exact ⟨fun _ => rfl, fun h => absurd h hs⟩
  | ok cs => rw [hr] at hs; exact ⟨fun h => absurd hs.1 h, fun _ => ⟨cs, rfl, hs.2⟩⟩
  | nonterm => rw [hr] at hs; exact hs.elim

end

/-- The instance the correspondence driver executes (`Option Int`: integer keys order-isomorphic to
    the doubles, `none` = NaN) computes the same function as the linear-order instance above. -/
theorem C04_driver_instance (order nknots : Nat) (k : Nat → Int) (x : Int) :
    searchAxis order nknots (fun i => some (k i)) (some x)
      = @searchAxis Int (cmpLO Int) order nknots k x := by
  rw [searchAxis_some]

/-- … and rejects NaN (`none`), whatever the knots. -/
theorem C04_nan_rejected (order nknots : Nat) (k : Nat → Option Int) :
    searchAxis order nknots k none = .reject := searchAxis_nan order nknots k

/-- Non-vacuity: a concrete well-formed axis (order 2, knots 0..6) and an in-range point. -/
example : (⟨2, 7, fun i => (i : Int)⟩ : Axis Int).WF ∧ InRange (⟨2, 7, fun i => (i : Int)⟩ : Axis Int) 3 := by
  refine ⟨⟨by decide, ?_⟩, by simp [InRange]⟩
  intro i j h _; exact Int.ofNat_le.mpr h

end PsV
