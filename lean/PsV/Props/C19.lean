import PsV.Proofs.AllocBound
/-!
# C19 — estimateMemory bounds the memory requested while loading and convolving

The property theorems, with the predicate `Valid` and the example files they speak of.  `readEvents`, `convolveEvents`, `estimate`, `loadable` are the definitions the driver
executes; their call sites, size expressions, conditions and the terms of `estimate` are regenerated from the source
on every run (`PsV.Generated.C19`), so these theorems are re-checked against what the code says now.
-/
namespace PsV
open PsV.C19 PsV.Generated.C19

/-- The files and declared convolutions the property quantifies over. -/
structure C19.Valid (p : Params) : Prop where
  /-- a kernel has at least one knot (`1` = no convolution) -/
  n_pos : 1 ≤ p.n
  /-- the convolved dimension exists (so the table has at least one dimension) -/
  cdim_lt : p.cdim < p.dims.length
  /-- key and raw value of an auxiliary entry come from one 80-column card: `strlen(key)+strlen(value) ≤ 80`
      (checked on every generated file at run time); with the two terminators that is 82 -/
  card : ∀ a ∈ p.aux, a.keylen + a.vallen ≤ 82
  /-- the stored string is the raw card value with characters removed (enclosing quotes, one of every doubled
      quote), never longer (checked on every generated file at run time) -/
  stored_le : ∀ a ∈ p.aux, a.storedlen ≤ a.vallen
  /-- in the convolved dimension the coefficient image has the size the knot vector implies
      (`naxes = nknots − order − 1`).  `read_fits_core` rejects every file for which this fails in any dimension
      (`C19_loadable_consistent`), so for a file that can be loaded at all this is not an assumption. -/
  consistent : ∀ d, p.dims[p.cdim]? = some d → d.naxes + d.order + 1 = d.nknots

/-- **C19.**  For every table file and every convolution declared to `estimateMemory` (kernel of `n ≥ 1` knots in an
    existing dimension), the table object plus the bytes simultaneously requested from the table's allocator at any
    moment while constructing the table from the file and then convolving it never exceed the value
    `estimateMemory` returns; and no `deallocate` releases more than is live.  This includes the moment at which, for a
    quoted auxiliary value, the block of the raw card length and its exact-size replacement are both live. -/
theorem C19_peak_le_estimate (p : Params) (h : C19.Valid p) :
    balanced 0 (readEvents p ++ convolveEvents p) = true ∧
    p.objsize + peak (readEvents p ++ convolveEvents p) ≤ estimate p := by
  -- plain byte counting is the arena that uses exactly what is requested
  have := cost_peak_le_estimate padBound_id p h.n_pos h.card h.stored_le h.consistent (by decide) (by omega)
  rwa [costEvents_id] at this

/-- **C19, loading only.**  The same value also bounds the load alone (whatever convolution was declared), in
    particular `estimateMemory(file)` with its defaults `n = 1`, dimension `0`. -/
theorem C19_peak_read_le_estimate (p : Params) (h : C19.Valid p) :
    p.objsize + peak (readEvents p) ≤ estimate p :=
  Nat.le_trans (Nat.add_le_add_left (peakFrom_le_append (readEvents p) (convolveEvents p) 0) _) (C19_peak_le_estimate p h).2

/-- After load-then-convolve exactly the footprint of the convolved table is live: what `convolve` releases is
    what the reader requested for coefficients and knots, and of the two blocks requested for a quoted auxiliary
    value only the exact-size one (`storedlen`) remains. -/
theorem C19_live_after_convolve (p : Params) :
    liveAfter 0 (readEvents p ++ convolveEvents p) =
      8 * p.aux.length + auxBytes p.aux + 68 * p.dims.length + 4 * prodNaxes (convDims p) + knotBytes (convDims p) :=
  (read_convolve_run p _ (vallen_bound (fun n => n) p)).2.2

/-- **The reader guarantees `Valid.consistent`.**  A file whose shape passes the validation of `read_fits_core`
    (generated predicate `readerRejects`, evaluated per dimension by `loadable`) has, in every dimension and hence in
    the convolved one, a coefficient axis of exactly `nknots − order − 1` entries and at least `2·order + 2` knots. -/
theorem C19_loadable_consistent (p : Params) (hl : loadable p = true) :
    ∀ (c : Nat) (d : Dim), p.dims[c]? = some d → d.naxes + d.order + 1 = d.nknots ∧ 2 * d.order + 2 ≤ d.nknots :=
  fun _ d hd => loadable_dim p hl d (List.mem_of_getElem? hd)

/-- **The argument checks of `convolve` are `Valid.n_pos` and `Valid.cdim_lt`.** -/
theorem C19_convolvable_iff (p : Params) : convolvable p = true ↔ (1 ≤ p.n ∧ p.cdim < p.dims.length) := by
  simp [convolvable, convolveRejects]
  omega

/-- `Valid` from the two generated predicates and the two card facts (as in `C19_peak_le_estimate_loadable`). -/
theorem C19_valid_of_loadable (p : Params) (hl : loadable p = true) (hc : convolvable p = true)
    (card : ∀ a ∈ p.aux, a.keylen + a.vallen ≤ 82) (stored_le : ∀ a ∈ p.aux, a.storedlen ≤ a.vallen) : C19.Valid p :=
  ⟨((C19_convolvable_iff p).mp hc).1, ((C19_convolvable_iff p).mp hc).2, card, stored_le,
   fun d hd => (C19_loadable_consistent p hl p.cdim d hd).1⟩

/-- **C19 for every file the reader accepts and every convolution `convolve` accepts**: no consistency assumption is
    left; what remains assumed is that an auxiliary entry comes from one 80-column card. -/
theorem C19_peak_le_estimate_loadable (p : Params) (hl : loadable p = true) (hc : convolvable p = true)
    (card : ∀ a ∈ p.aux, a.keylen + a.vallen ≤ 82) (stored_le : ∀ a ∈ p.aux, a.storedlen ≤ a.vallen) :
    balanced 0 (readEvents p ++ convolveEvents p) = true ∧
    p.objsize + peak (readEvents p ++ convolveEvents p) ≤ estimate p :=
  C19_peak_le_estimate p (C19_valid_of_loadable p hl hc card stored_le)

/-- a 3-dimensional table (orders 2,0,3), 3 auxiliary entries (a quoted string with a doubled quote, a number, a
    full-width quoted string), a 4-knot kernel in dimension 2 -/
def C19.exampleParams : Params :=
  { objsize := 96, dims := [⟨2, 9, 6⟩, ⟨0, 4, 3⟩, ⟨3, 12, 8⟩], aux := [⟨5, 12, 9⟩, ⟨7, 3, 3⟩, ⟨9, 71, 69⟩], nauxKnotsHdu := 4, n := 4, cdim := 2 }

/-- the hypotheses are satisfiable by a non-trivial value (also in the `loadable`/`convolvable` form), and the bound
    is not vacuous on it -/
example : C19.Valid C19.exampleParams ∧ loadable C19.exampleParams = true ∧ convolvable C19.exampleParams = true ∧
    peak (readEvents C19.exampleParams ++ convolveEvents C19.exampleParams) = 3946 ∧
    estimate C19.exampleParams = 6144 :=
  ⟨C19_valid_of_loadable _ rfl rfl (by decide) (by decide), rfl, rfl, by decide +kernel, by decide +kernel⟩

/-- the transient is real: while the second card of this file is read more bytes are live (8 + 16+9+71+69 = 173)
    than remain after loading its aux part (8 + 16+9+69 = 102) -/
example : peakFrom 0 (.alloc 8 :: auxSeg ⟨9, 71, 69⟩) = 173 ∧ liveAfter 0 (.alloc 8 :: auxSeg ⟨9, 71, 69⟩) = 102 := by decide

/-- Why `Valid.consistent` is needed for the inequality, and why it costs nothing: `estimateMemory` recomputes the
    coefficient axis of the convolved dimension from the knot count while the reader takes it from the image header.
    For a file whose image is larger than `nknots − order − 1` along that axis (the witness: 1000 instead of 7) the
    requests of the call sites exceed the estimate — but the reader's validation (`readerRejects`, generated from the
    source) refuses exactly such a file, so it is never loaded. -/
theorem C19_inconsistent_file_rejected :
    ∃ p : Params, 1 ≤ p.n ∧ p.cdim < p.dims.length ∧ (∀ a ∈ p.aux, a.keylen + a.vallen ≤ 82) ∧
      estimate p < p.objsize + peak (readEvents p) ∧ loadable p = false :=
  ⟨{ objsize := 96, dims := [⟨2, 10, 1000⟩], aux := [], nauxKnotsHdu := 4, n := 1, cdim := 0 },
   by decide, by decide, by decide, by decide, by decide⟩

example : loadable C19.exampleParams = true ∧ convolvable C19.exampleParams = true ∧
    (∀ a ∈ C19.exampleParams.aux, a.keylen + a.vallen ≤ 82) ∧ (∀ a ∈ C19.exampleParams.aux, a.storedlen ≤ a.vallen) :=
  ⟨by decide, by decide, by decide, by decide⟩

/-- **The peak, exactly.**  For every file the reader accepts and every convolution `convolve` accepts, the highest
    level of the whole event sequence is reached at its very end: it is the footprint of the convolved table.  (The
    transient second block of a quoted card value never shows in the peak: at least 84 bytes are requested after the
    cards, more than a raw card value is long; and `convolve` frees before it allocates.) -/
theorem C19_peak_exact (p : Params) (hl : loadable p = true) (hc : convolvable p = true)
    (card : ∀ a ∈ p.aux, a.keylen + a.vallen ≤ 82) :
    peak (readEvents p ++ convolveEvents p) = liveAfter 0 (readEvents p ++ convolveEvents p) ∧
    peak (readEvents p ++ convolveEvents p) =
      8 * p.aux.length + auxBytes p.aux + 68 * p.dims.length + 4 * prodNaxes (convDims p) + knotBytes (convDims p) := by
  obtain ⟨hn, hcd⟩ := (C19_convolvable_iff p).mp hc
  have hle := readBytes_le_convolvedBytes p hn (fun d hd => (C19_loadable_consistent p hl p.cdim d hd).1)
  have e := read_convolve_peak_exact p (card_le_tail p hl (Nat.zero_lt_of_lt hcd) card)
  rw [Nat.max_eq_right hle] at e
  rw [C19_live_after_convolve]
  exact ⟨e, e⟩

/-- **Loading alone, exactly**: the peak of the load is the footprint of the loaded table. -/
theorem C19_peak_read_exact (p : Params) (hl : loadable p = true) (hnd : 0 < p.dims.length)
    (card : ∀ a ∈ p.aux, a.keylen + a.vallen ≤ 82) :
    peak (readEvents p) =
      8 * p.aux.length + auxBytes p.aux + 68 * p.dims.length + 4 * prodNaxes p.dims + knotBytes p.dims :=
  read_peak_exact p (card_le_tail p hl hnd card)

/-- Why the auxiliary cards must be counted in the primary header: had `estimateMemory` used the number of
    non-reserved cards of the last `KNOTSn` extension (4 in files written by `write_fits`; what a call placed after
    the loop that moves to the knot extensions reads), a 1-dimensional table
    with 20 full-width auxiliary cards exceeds the estimate already while loading. -/
theorem C19_knots_hdu_count_underestimates :
    ∃ p : Params, C19.Valid p ∧ loadable p = true ∧ estimateWith p.nauxKnotsHdu p < p.objsize + peak (readEvents p) :=
  ⟨_, C19_valid_of_loadable _ rfl rfl (cardsParams_card 20) (cardsParams_stored 20), rfl, by
    rw [C19_peak_read_exact _ rfl (by decide) (cardsParams_card 20)]; decide⟩

example : peak (readEvents C19.exampleParams ++ convolveEvents C19.exampleParams) = 3946 ∧
    liveAfter 0 (readEvents C19.exampleParams ++ convolveEvents C19.exampleParams) = 3946 ∧
    peak (readEvents C19.exampleParams) = 1234 ∧ 0 < C19.exampleParams.dims.length := by decide +kernel

/-- **The order of the auxiliary cards does not matter**: the same file with its cards in any other order has the same
    peak and the same estimate (the level *during* the cards does depend on their order, the peak does not). -/
theorem C19_peak_aux_order (p : Params) (aux' : List AuxEntry) (hperm : aux'.Perm p.aux)
    (hl : loadable p = true) (hc : convolvable p = true) (card : ∀ a ∈ p.aux, a.keylen + a.vallen ≤ 82) :
    peak (readEvents { p with aux := aux' } ++ convolveEvents { p with aux := aux' }) =
      peak (readEvents p ++ convolveEvents p) ∧
    estimate { p with aux := aux' } = estimate p := by
  have h1 := (C19_peak_exact p hl hc card).2
  have h2 := (C19_peak_exact { p with aux := aux' } hl hc (fun a ha => card a (hperm.mem_iff.mp ha))).2
  have hlen : aux'.length = p.aux.length := hperm.length_eq
  have hb : auxBytes aux' = auxBytes p.aux := auxBytes_perm _ _ hperm
  refine ⟨?_, ?_⟩
  · rw [h1, h2]; simp only [convDims, hlen, hb]
  · simp only [estimate, estimateWith, rawSizeWith, estDims, nauxCounted, hlen]

example : [⟨9, 71, 69⟩, ⟨5, 12, 9⟩, ⟨7, 3, 3⟩].Perm C19.exampleParams.aux ∧
    peakFrom 0 (.alloc 24 :: ([⟨9, 71, 69⟩, ⟨5, 12, 9⟩, ⟨7, 3, 3⟩].flatMap auxSeg)) = 189 ∧
    peakFrom 0 (.alloc 24 :: (C19.exampleParams.aux.flatMap auxSeg)) = 245 := by
  exact ⟨(List.Perm.swap _ _ _).trans ((List.Perm.swap _ _ _).cons _), by decide, by decide⟩

/-- **Construct, convolve, destroy.**  With the call sites of `~splinetable` (generated: `destroyBlocks`) appended,
    nothing is ever released that is not live, every byte is given back, and the destructor does not raise the peak.
    No hypothesis: this holds for every file description and every declared convolution. -/
theorem C19_lifecycle (p : Params) :
    balanced 0 (lifeEvents p) = true ∧ liveAfter 0 (lifeEvents p) = 0 ∧
    peak (lifeEvents p) = peak (readEvents p ++ convolveEvents p) := by
  have r := life_run (fun n => n) p
  rwa [costEvents_id, costEvents_id] at r

/-- the same for a table that is loaded and destroyed without a convolution -/
theorem C19_lifecycle_load_only (p : Params) :
    balanced 0 (readEvents p ++ destroyEvents p p.dims) = true ∧
    liveAfter 0 (readEvents p ++ destroyEvents p p.dims) = 0 ∧
    peak (readEvents p ++ destroyEvents p p.dims) = peak (readEvents p) := by
  have r := load_destroy_run (fun n => n) p
  rwa [costEvents_id, costEvents_id] at r

/-- the same in any arena (`c n` bytes used for a request of `n`, whatever `c` is): what is released was requested with
    the same size, so the arena's ledger is balanced too and returns to zero -/
theorem C19_lifecycle_cost (c : Nat → Nat) (p : Params) :
    balanced 0 (costEvents c (lifeEvents p)) = true ∧ liveAfter 0 (costEvents c (lifeEvents p)) = 0 := by
  exact ⟨(life_run c p).1, (life_run c p).2.1⟩

example : liveAfter 0 (arenaEvents 16 16 (lifeEvents C19.exampleParams)) = 0 :=
  (C19_lifecycle_cost (fun n => alignUp 16 n + 16) C19.exampleParams).2

example : (destroyEvents C19.exampleParams (convDims C19.exampleParams)).length = 22 ∧
    freeBytes (destroyEvents C19.exampleParams (convDims C19.exampleParams)) = 3946 := by decide +kernel

/-- **Arenas that use more than was requested (general form).**  Let an arena use `c n` bytes for a request of `n`
    bytes, with `c 16 ≤ 16 + e16`, `c n ≤ n + e1`, `c (4k) ≤ 4k + e4`, `c (8k) ≤ 8k + e8` (`PadBound`).  If
    `e16 + 2·e1 ≤ 40` (what `estimateMemory` leaves over per card: 146 − 8 − 98) and `(8 + ndim)·e8 + 2·e4 ≤ 1025`
    (its final rounding), then for every file the reader accepts and every convolution `convolve` accepts the arena
    never holds more than `estimateMemory` returns, and releases only what it holds. -/
theorem C19_peak_cost_le_estimate (c : Nat → Nat) (e16 e1 e4 e8 : Nat) (hb : PadBound c e16 e1 e4 e8) (p : Params)
    (hl : loadable p = true) (hc : convolvable p = true)
    (card : ∀ a ∈ p.aux, a.keylen + a.vallen ≤ 82) (stored_le : ∀ a ∈ p.aux, a.storedlen ≤ a.vallen)
    (h1 : e16 + 2 * e1 ≤ 40) (h3 : 8 * e8 + e8 * p.dims.length + 2 * e4 ≤ 1025) :
    balanced 0 (costEvents c (readEvents p ++ convolveEvents p)) = true ∧
    p.objsize + peak (costEvents c (readEvents p ++ convolveEvents p)) ≤ estimate p :=
  have v := C19_valid_of_loadable p hl hc card stored_le
  cost_peak_le_estimate hb p v.n_pos card stored_le v.consistent h1 h3

example : PadBound (alignUp 16) 0 15 12 8 ∧ 0 + 2 * 15 ≤ 40 ∧ 8 * 8 + 8 * C19.exampleParams.dims.length + 2 * 12 ≤ 1025 :=
  ⟨padBound_align16, by decide, by decide⟩

/-- **Aligned blocks.**  When every block is rounded up to a multiple of `A ∈ {1, 2, 4, 8, 16}` the bound still holds:
    for `A ≤ 8` for every table, for `A = 16` for tables of up to 117 dimensions (every per-dimension array may then
    lose 8 bytes, which the 1025 bytes of rounding must cover). -/
theorem C19_peak_aligned_le_estimate (p : Params) (hl : loadable p = true) (hc : convolvable p = true)
    (card : ∀ a ∈ p.aux, a.keylen + a.vallen ≤ 82) (stored_le : ∀ a ∈ p.aux, a.storedlen ≤ a.vallen)
    (A : Nat) (hA : A ∣ 16) (hnd : A = 16 → p.dims.length ≤ 117) :
    balanced 0 (padEvents A (readEvents p ++ convolveEvents p)) = true ∧
    p.objsize + peak (padEvents A (readEvents p ++ convolveEvents p)) ≤ estimate p := by
  rcases dvd16_cases A hA with h8 | rfl
  · exact C19_peak_cost_le_estimate _ 0 7 4 0 (padBound_align8 A h8) p hl hc card stored_le (by decide) (by omega)
  · have := hnd rfl
    exact C19_peak_cost_le_estimate _ 0 15 12 8 padBound_align16 p hl hc card stored_le (by decide) (by omega)

example : (16 ∣ 16) ∧ C19.exampleParams.dims.length ≤ 117 ∧
    peak (padEvents 16 (readEvents C19.exampleParams ++ convolveEvents C19.exampleParams)) = 4080 := by decide +kernel

/-- **Blocks with a header.**  An arena that puts a header of `H ≤ 8` bytes before every block and aligns blocks to
    `A ∈ {1, 2, 4, 8}` is covered as long as `H·(ndim + 10) ≤ 1017`. -/
theorem C19_peak_arena_le_estimate (p : Params) (hl : loadable p = true) (hc : convolvable p = true)
    (card : ∀ a ∈ p.aux, a.keylen + a.vallen ≤ 82) (stored_le : ∀ a ∈ p.aux, a.storedlen ≤ a.vallen)
    (A H : Nat) (hA : A ∣ 8) (hH : H ≤ 8) (hnd : 10 * H + H * p.dims.length ≤ 1017) :
    balanced 0 (arenaEvents A H (readEvents p ++ convolveEvents p)) = true ∧
    p.objsize + peak (arenaEvents A H (readEvents p ++ convolveEvents p)) ≤ estimate p :=
  C19_peak_cost_le_estimate _ H (7 + H) (4 + H) H (padBound_arena8 A H hA) p hl hc card stored_le (by omega) (by omega)

example : (8 ∣ 8) ∧ 10 * 8 + 8 * C19.exampleParams.dims.length ≤ 1017 ∧
    peak (arenaEvents 8 8 (readEvents C19.exampleParams ++ convolveEvents C19.exampleParams)) = 4152 := by decide +kernel

/-- **Where the arena bounds end.**  The hypotheses above are needed: with a 16-byte header per block and 16-byte
    alignment (a common general-purpose arena layout), or with cache-line (64-byte) alignment, a 1-dimensional table with 47
    full-width auxiliary cards needs more than `estimateMemory` returns, although the bytes *requested* stay below
    it.  `estimateMemory` bounds requested bytes; it leaves 40 bytes per card and 1–2 KB in total for the arena's own
    bookkeeping and nothing more. -/
theorem C19_arena_overhead_can_exceed :
    ∃ p : Params, C19.Valid p ∧ loadable p = true ∧
      p.objsize + peak (readEvents p ++ convolveEvents p) ≤ estimate p ∧
      estimate p < p.objsize + peak (arenaEvents 16 16 (readEvents p ++ convolveEvents p)) ∧
      estimate p < p.objsize + peak (padEvents 64 (readEvents p ++ convolveEvents p)) := by
  -- what the arena holds at the end, a lower bound of its peak, is known in closed form
  have hv := C19_valid_of_loadable _ rfl rfl (cardsParams_card 47) (cardsParams_stored 47)
  refine ⟨_, hv, rfl, (C19_peak_le_estimate _ hv).2, ?_, ?_⟩
  · have h : _ ≤ peak (arenaEvents 16 16 (readEvents (C19.cardsParams 47) ++ convolveEvents (C19.cardsParams 47))) :=
      C19.cardsParams_le_peak (fun n => alignUp 16 n + 16) 47
    exact Nat.lt_of_lt_of_le (by decide) (Nat.add_le_add_left h _)
  · have h : _ ≤ peak (padEvents 64 (readEvents (C19.cardsParams 47) ++ convolveEvents (C19.cardsParams 47))) :=
      C19.cardsParams_le_peak (alignUp 64) 47
    exact Nat.lt_of_lt_of_le (by decide) (Nat.add_le_add_left h _)

/-- **`estimateMemory` is monotone** in the object size, the number of auxiliary cards, the number of kernel knots and
    the order / knot count / coefficient count of every dimension (`ParamsLe`; in the convolved dimension
    `nknots − order` must not drop). -/
theorem C19_estimate_mono (p q : Params) (h : ParamsLe p q) : estimate p ≤ estimate q := estimate_mono p q h

/-- For two files the reader accepts, growing pointwise is enough for `ParamsLe`. -/
theorem C19_paramsLe_of_loadable (p q : Params) (hp : loadable p = true) (hq : loadable q = true)
    (h1 : p.objsize ≤ q.objsize) (h2 : p.aux.length ≤ q.aux.length) (h3 : p.n ≤ q.n) (h4 : p.cdim = q.cdim)
    (h5 : DimsLe p.dims q.dims) : ParamsLe p q :=
  ⟨h1, h2, h3, h4, h5, fun d e hd he => by
    have a := (loadable_dim p hp d (List.mem_of_getElem? hd)).1
    have b := (loadable_dim q hq e (List.mem_of_getElem? he)).1
    have := (getElem?_dimsLe h5 p.cdim hd he).2.2
    omega⟩

/-- the example file, and the same file with a larger object, one more card, a longer kernel, and more knots and
    coefficients (orders 2,0,3 → 2,1,3) -/
example : ParamsLe C19.exampleParams
    { objsize := 104, dims := [⟨2, 10, 7⟩, ⟨1, 6, 4⟩, ⟨3, 14, 10⟩], aux := [⟨5, 12, 9⟩, ⟨7, 3, 3⟩, ⟨9, 71, 69⟩, ⟨3, 3, 3⟩],
      nauxKnotsHdu := 4, n := 5, cdim := 2 } :=
  C19_paramsLe_of_loadable _ _ (by decide) (by decide) (by decide) (by decide) (by decide) rfl
    ⟨⟨by decide, by decide, by decide⟩, ⟨by decide, by decide, by decide⟩, ⟨by decide, by decide, by decide⟩, True.intro⟩

/-- **Not monotone in the order alone**: raising the order of the convolved dimension while keeping its knot vector
    removes coefficients (`naxes = nknots − order − 1`), and in more than one dimension that outweighs the longer knot
    padding: both files are accepted by the reader, the second differs only in the order (0 → 40) of dimension 0 and the
    coefficient count that goes with it, and its estimate is smaller. -/
theorem C19_estimate_not_monotone_in_order :
    ∃ p q : Params, loadable p = true ∧ loadable q = true ∧
      p.dims = [⟨0, 100, 99⟩, ⟨0, 1001, 1000⟩] ∧ q.dims = [⟨40, 100, 59⟩, ⟨0, 1001, 1000⟩] ∧
      p.objsize = q.objsize ∧ p.aux = q.aux ∧ p.n = q.n ∧ p.cdim = q.cdim ∧ estimate q < estimate p :=
  ⟨{ objsize := 96, dims := [⟨0, 100, 99⟩, ⟨0, 1001, 1000⟩], aux := [], nauxKnotsHdu := 4, n := 1, cdim := 0 },
   { objsize := 96, dims := [⟨40, 100, 59⟩, ⟨0, 1001, 1000⟩], aux := [], nauxKnotsHdu := 4, n := 1, cdim := 0 },
   by decide, by decide, rfl, rfl, rfl, rfl, rfl, rfl, by decide⟩

/-- **The bound is tight up to the rounding and the per-card allowance**: the estimate exceeds object + peak by at
    most 2048 bytes plus, per auxiliary card, the difference between the 146 bytes assumed and the `8 + 16 + keylen +
    storedlen` bytes the card occupies. -/
theorem C19_estimate_le_peak_plus (p : Params) (hn : 1 ≤ p.n) :
    estimate p + (8 * p.aux.length + auxBytes p.aux) ≤
      p.objsize + peak (readEvents p ++ convolveEvents p) + 2048 + 146 * p.aux.length := by
  have h1 := estimateWith_le p.aux.length p
  rw [estDims_eq_convDims p hn] at h1
  have h2 : _ ≤ peak (readEvents p ++ convolveEvents p) := liveAfter_le_peakFrom 0 _
  rw [C19_live_after_convolve] at h2
  show estimateWith p.aux.length p + _ ≤ _
  omega

example : 1 ≤ C19.exampleParams.n ∧ estimate C19.exampleParams + (8 * 3 + auxBytes C19.exampleParams.aux) = 6318 ∧
    C19.exampleParams.objsize + peak (readEvents C19.exampleParams ++ convolveEvents C19.exampleParams) + 2048 + 146 * 3 = 6528 := by
  decide +kernel

/-- a 1-dimensional table of order 0 with `k + 2` knots, no auxiliary cards, no convolution -/
def C19.tightParams (k : Nat) : Params :=
  { objsize := 96, dims := [⟨0, k + 2, k + 1⟩], aux := [], nauxKnotsHdu := 4, n := 1, cdim := 0 }

/-- **Tightness witness (a family)**: for the tables `tightParams k` the peak is `12·k + 88` bytes and the estimate is
    at most 2048 bytes above object + peak, so `peak / estimate → 1`. -/
theorem C19_tight_family (k : Nat) :
    C19.Valid (C19.tightParams k) ∧ loadable (C19.tightParams k) = true ∧ convolvable (C19.tightParams k) = true ∧
    peak (readEvents (C19.tightParams k) ++ convolveEvents (C19.tightParams k)) = 12 * k + 88 ∧
    estimate (C19.tightParams k) ≤ 96 + (12 * k + 88) + 2048 := by
  have hl : loadable (C19.tightParams k) = true := by
    simp [loadable, readerRejects, C19.tightParams]
  have hc : convolvable (C19.tightParams k) = true := rfl
  have hp : peak (readEvents (C19.tightParams k) ++ convolveEvents (C19.tightParams k)) = 12 * k + 88 := by
    rw [(C19_peak_exact _ hl hc (fun _ h => nomatch h)).2]
    simp [C19.tightParams, convDims, adjustAt, convDim, prodNaxes, knotBytes, auxBytes]
    omega
  have he := C19_estimate_le_peak_plus (C19.tightParams k) (Nat.le_refl 1)
  rw [hp] at he
  exact ⟨C19_valid_of_loadable _ hl hc (fun _ h => nomatch h) (fun _ h => nomatch h), hl, hc, hp,
    Nat.le_trans (Nat.le_add_right _ _) (Nat.le_trans he (Nat.le_of_eq (Nat.add_zero _)))⟩

/-- **The relative slack vanishes**: for every `M` there is a valid, loadable file whose estimate exceeds object + peak
    by less than a fraction `1/M` of the estimate. -/
theorem C19_relative_slack_vanishes (M : Nat) :
    ∃ p : Params, C19.Valid p ∧ loadable p = true ∧
      p.objsize + peak (readEvents p ++ convolveEvents p) ≤ estimate p ∧
      M * (estimate p - (p.objsize + peak (readEvents p ++ convolveEvents p))) ≤ estimate p := by
  obtain ⟨hv, hl, _, hp, he⟩ := C19_tight_family (171 * M)
  have hlow := (C19_peak_le_estimate _ hv).2
  refine ⟨_, hv, hl, hlow, ?_⟩
  rw [hp] at hlow ⊢
  -- the slack is at most 2048 bytes, and the estimate is at least `2052·M` bytes
  exact Nat.le_trans (Nat.mul_le_mul_left M (Nat.sub_le_iff_le_add.mpr (Nat.add_comm _ _ ▸ he)))
    (Nat.le_trans (by omega) hlow)

example : C19.tightParams 1000 = { objsize := 96, dims := [⟨0, 1002, 1001⟩], aux := [], nauxKnotsHdu := 4, n := 1, cdim := 0 } ∧
    estimate (C19.tightParams 1000) = 13312 ∧
    peak (readEvents (C19.tightParams 1000) ++ convolveEvents (C19.tightParams 1000)) = 12088 := by
  refine ⟨rfl, by decide, ?_⟩
  exact (C19_tight_family 1000).2.2.2.1

end PsV
