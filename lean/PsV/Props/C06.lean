import PsV.Proofs.Fits
import PsV.Proofs.FitsCodec
import PsV.Proofs.FitsRead
import PsV.Proofs.FitsBridge
import PsV.Proofs.FitsLayout
import PsV.Proofs.FitsBits
import PsV.Proofs.FitsAccepted
/-!
# C06 — FITS serialisation round-trips every table exactly, in the documented layout

Property theorems, and the definitions only their statements use (`extName`, `exExtname`).  They are about
`PsV.Fits.writeCore` / `readFixed` / `readCore` / `encodeFits` / `decodeFits`, the definitions the correspondence
driver (`PsV/Driver/C06.lean`) executes against the real library.  `readFixed` is `read_fits_core` as repaired by
fixes/C07-1.diff (validation of counts and knots); `readCore` is the reader without that block (it also reads tables
that are storable but not well-formed).  `E : Ext` (number text for `TDOUBLE` keys, float⇄double conversion) is
arbitrary.  Data are bit patterns.
-/
namespace PsV
open PsV.Fits PsV.Fits.Codec

/- Vocabulary of the statements: `rowMajor`, `storedLen`, `padFits`, `pad8` (end of `PsV/Model/Fits.lean`);
   `Storable`, `Reread` (`PsV/Proofs/Fits.lean`), `DimsWF` (`PsV/Proofs/FitsRead.lean`), `Encodable`
   (`PsV/Proofs/FitsBridge.lean`), `Accepted` (`PsV/Proofs/FitsAccepted.lean`), `HduOK` (`PsV/Proofs/FitsCodec.lean`),
   `isNaN32` (`PsV/Proofs/FitsBits.lean`). -/

/-- The reader without the validation block reads back every storable table (well-formed or not). -/
theorem C06_roundtrip_core (E : Ext) (t : Table) (h : Storable t) :
    ∃ t', readCore E (writeCore E t) = .ok t' ∧ Reread E t t' :=
  ⟨_, readCore_writeGen E t false h nofun, reread_rereadTable E t h⟩

/-- the hypothesis of `C06_roundtrip_core` is satisfiable: a 2 × 3 table with extents, periods and three aux keys, one of
    them `it's ''` (a single apostrophe and a run of two) -/
example : Storable exTable := exTable_storable

/-- Auxiliary values survive with apostrophes anywhere (single, leading, trailing, adjacent runs, nothing but
    apostrophes, stored form filling the card): the value read is the value written followed by blanks only — at most
    up to 8 characters in all, none once the value has 8 — and for a value without apostrophes exactly `pad8`. -/
theorem aux_values_gain_blanks_only (E : Ext) (t t' : Table) (h : Reread E t t') :
    t'.aux.map (·.1) = t.aux.map (·.1) ∧
    ∀ i (hi : i < t.aux.length), ∃ k, (t'.aux.getD i default).2 = t.aux[i].2 ++ List.replicate k ' '
      ∧ k ≤ 8 - t.aux[i].2.length ∧ ('\'' ∉ t.aux[i].2 → (t'.aux.getD i default).2 = pad8 t.aux[i].2) := by
  have ha := h.aux
  refine ⟨by rw [ha, List.map_map]; rfl, ?_⟩
  intro i hi
  have hg : t'.aux.getD i default = (t.aux[i].1, padFits t.aux[i].2) := by
    rw [ha, List.getD_eq_getElem?_getD, List.getElem?_map, List.getElem?_eq_getElem hi]; rfl
  refine ⟨8 - storedLen t.aux[i].2, by rw [hg]; rfl, ?_, ?_⟩
  · have := length_le_storedLen t.aux[i].2; omega
  · intro hq; rw [hg]; exact padFits_plain _ hq

/-- not vacuous: the table read back for `exTable`; `it's ''` (stored as 10 characters) gains no blank, the empty value
    gains 8, and the reader's copy loop really halves the run of four stored apostrophes -/
example (E : Ext) : ∃ t', readCore E (writeCore E exTable) = .ok t' ∧ Reread E exTable t' ∧
    t'.aux.map (·.2) = ["J. Doe  ".toList, "        ".toList, "it's ''".toList] ∧
    s2c "it's ''".toList = "'it''s '''''".toList ∧ stripQuotes "'it''s '''''".toList = "it's ''".toList := by
  obtain ⟨t', h1, h2⟩ := C06_roundtrip_core E exTable exTable_storable
  have haux := h2.aux
  refine ⟨t', h1, h2, ?_⟩
  rw [haux]
  simp -index only [exTable, String.toList_ofList]
  decide +kernel

/-- C06: for every well-formed table (any number of dimensions, axis lengths, orders, knots, coefficient bit patterns,
    extents or none, periods or none, aux values with or without apostrophes as `write_key` accepts them) write → read
    succeeds and reproduces every field bit for bit; aux values gain trailing blanks only (`aux_values_gain_blanks_only`).  `DimsWF t`: per dimension `nknots ≥ 2·order+2`,
    `naxes = nknots-order-1`, knots finite and non-decreasing — what the repaired reader insists on. -/
theorem C06_roundtrip (E : Ext) (t : Table) (h : Storable t) (hw : DimsWF t) :
    ∃ t', readFixed E (writeCore E t) = .ok t' ∧ Reread E t t' :=
  ⟨_, readFixed_writeGen E t false h hw nofun, reread_rereadTable E t h⟩

/-- satisfiable: the 1 × order-0 table `exValidTable` (three knots 0,1,2, two coefficients) is storable and passes the
    reader's checks -/
example : Storable exValidTable ∧ DimsWF exValidTable := ⟨exValidTable_storable, exValidTable_dims⟩

/-- The older layout with a single `ORDER` key is read as the same table (reader without the validation block). -/
theorem legacy_order_key_core (E : Ext) (t : Table) (h : Storable t) (o : Nat) (ho : ∀ x ∈ t.order, x = o) :
    readCore E (writeGen E true t) = readCore E (writeGen E false t) := by
  rw [readCore_writeGen E t true h fun _ => order_eq_head t o ho, readCore_writeGen E t false h nofun]

/-- the hypotheses of `legacy_order_key_core` are satisfiable (2 × 3 table, both orders 2) -/
example : Storable exTableLegacy ∧ ∀ x ∈ exTableLegacy.order, x = 2 := ⟨exTableLegacy_storable, by decide⟩

/-- A file in the older layout (one `ORDER` key for all dimensions), as an independent writer produces it, is read
    as the table it describes — the same table as from the current layout. -/
theorem legacy_order_key (E : Ext) (t : Table) (h : Storable t) (hw : DimsWF t) (o : Nat) (ho : ∀ x ∈ t.order, x = o) :
    ∃ t', readFixed E (writeGen E true t) = .ok t' ∧ readFixed E (writeGen E false t) = .ok t' ∧ Reread E t t' :=
  ⟨_, readFixed_writeGen E t true h hw fun _ => order_eq_head t o ho, readFixed_writeGen E t false h hw nofun,
    reread_rereadTable E t h⟩

example : Storable exValidTable ∧ DimsWF exValidTable ∧ ∀ x ∈ exValidTable.order, x = 0 :=
  ⟨exValidTable_storable, exValidTable_dims, by decide⟩

/-- A file without the EXTENTS extension gets the extents made up from the knots,
    `[knots[i][order[i]], knots[i][nknots[i]-order[i]-1]]`. -/
theorem missing_extents_defaults (E : Ext) (t : Table) (h : Storable t) (hw : DimsWF t) :
    ∃ t', readFixed E (writeCore E { t with extents := none }) = .ok t' ∧
      t'.extents = some (defaultExtents t.order t.knots) ∧ t'.knots = t.knots ∧ t'.coef = t.coef :=
  ⟨_, readFixed_writeGen E _ false h.without_extents hw nofun, rfl, rfl, rfl⟩

/-- non-vacuous: for the example table (which has an EXTENTS extension when written as is) the made-up extents
    are `[knots[0][2], knots[0][5-2-1], knots[1][3], knots[1][7-3-1]]` -/
example : Storable exTable ∧ defaultExtents exTable.order exTable.knots = [2, 2, 13, 13] :=
  ⟨exTable_storable, by decide⟩

/-- Whatever is read (from any store), the strides are the row-major strides of the reversed image axes. -/
theorem strides_reconstructed (E : Ext) (f : Fits) (h0 : Hdu) (rest : List Hdu) (t : Table)
    (hf : f = h0 :: rest) (h : readFixed E f = .ok t ∨ readCore E f = .ok t) :
    t.naxes = h0.axes.reverse ∧ t.strides = rowMajor t.naxes := by
  subst hf
  have := readCore_strides E h0 rest t (readCore_of_readFixed h)
  exact ⟨this.1, by rw [this.1]; exact this.2⟩

/-- the hypotheses of `strides_reconstructed` are satisfiable: the file written for the example table is read -/
example (E : Ext) : ∃ h0 rest t, writeCore E exTable = h0 :: rest ∧ readCore E (writeCore E exTable) = .ok t := by
  obtain ⟨t', ht', _⟩ := C06_roundtrip_core E exTable exTable_storable
  exact ⟨_, _, t', rfl, ht'⟩

/-- big-endian words: decoding the encoded bytes returns the bit pattern, for every 32- and 64-bit word -/
theorem be_bits_roundtrip :
    (∀ x : UInt32, ∃ a b c d, be32 x = [a, b, c, d] ∧ rd32 a b c d = x) ∧
    (∀ x : UInt64, ∃ a b c d e f g h, be64 x = [a, b, c, d, e, f, g, h] ∧ rd64 a b c d e f g h = x) ∧
    (∀ (l : List UInt32) (rest : Bytes), dec32 l.length (enc32 l ++ rest) = some l) ∧
    (∀ (l : List UInt64) (rest : Bytes), dec64 l.length (enc64 l ++ rest) = some l) :=
  ⟨fun x => ⟨_, _, _, _, rfl, rd32_be32 x⟩, fun x => ⟨_, _, _, _, _, _, _, _, rfl, rd64_be64 x⟩, dec32_enc32,
    dec64_enc64⟩

/-- The codec for the documented subset is faithful: 80-column cards, END, 2880-byte blocks, mandatory keywords in
    order, big-endian data.  `HduOK`: pixel count = product of the axes, at most 999 axes each below 10^20, and every
    user card survives the 80-column text form (`CardRT`; every value card and string card in fixed format and every
    commentary card has it: `PlainCard.cardRT`, `StringCard.cardRT`, `cardRT_commentary` in
    `PsV/Proofs/FitsCardForm.lean`; the classes the library writes are such cards: `cardInt_form`, `cardDbl_form`,
    `cardStr_form` in `PsV/Proofs/FitsBridge.lean`). -/
theorem decode_encode (f : Fits) (hne : f ≠ []) (h : ∀ hdu ∈ f, HduOK hdu) :
    decodeFits (encodeFits f) = some f :=
  Codec.decode_encode f hne h

/-- satisfiable: a two-HDU file with boiler-plate, TYPE, ORDERn (one negative), PERIOD0 and a string card with an
    embedded apostrophe -/
example : exampleFits ≠ [] ∧ ∀ hdu ∈ exampleFits, HduOK hdu := ⟨by decide, exampleFits_ok⟩

/-- What `write_fits_core` writes is inside the codec's domain: its 80-column / 2880-byte form decodes to the very
    store (`Encodable`: standard 8-character keywords — at most 999 dimensions, at most 100 when PERIODn keys are
    written —, sizes below 10^20, Latin-1 aux values whose stored form — apostrophes doubled — has at most 68
    characters, TDOUBLE text that is a blank-free token). -/
theorem written_bytes_decode (E : Ext) (t : Table) (h : Encodable E t) :
    decodeFits (encodeFits (writeCore E t)) = some (writeCore E t) :=
  writeCore_decode_encode E t h

example : Encodable exExt0 exT := exT_encodable

/-- C06 end to end at the byte level: table → store → bytes → store → table. -/
theorem C06_bytes_roundtrip (E : Ext) (t : Table) (h : Storable t) (hw : DimsWF t) (he : Encodable E t) :
    ∃ f t', decodeFits (encodeFits (writeCore E t)) = some f ∧ readFixed E f = .ok t' ∧ Reread E t t' := by
  obtain ⟨t', hr, hre⟩ := C06_roundtrip E t h hw
  exact ⟨writeCore E t, t', written_bytes_decode E t he, hr, hre⟩

/-- all three hypotheses hold together for a concrete table (order 0, three knots, two coefficients) and any `E` -/
example (E : Ext) : Storable exValidTable ∧ DimsWF exValidTable ∧ Encodable E { exValidTable with periods := none } :=
  ⟨exValidTable_storable, exValidTable_dims, exValidTable_encodable E⟩

/-! `Layout.layoutBytes E t` (`PsV/Model/FitsLayout.lean`, an independent specification) lists the bytes of the file for table `t` directly from the FITS standard and the photospline
documentation (80-column fixed-format records, `END`, 2880-byte blocks, primary `BITPIX = -32` image with
`NAXISj = naxes[ndim-j]`, `TYPE`, `ORDERi`, `PERIODi`, aux string keywords, one `BITPIX = -64` `KNOTSi` image extension per
dimension, an `EXTENTS` extension when there are extents) — without the cfitsio model, `fmtCard` or `encodeFits`.  The
driver compares it with the real writer's bytes on every run. -/

/-- **The encoder meets the documented layout**, for all tables: what the model of `write_fits_core` (over the model of
    cfitsio and the generic card / block encoder) produces is, byte for byte, the file the specification describes. -/
theorem encoder_meets_layout (E : Ext) (t : Table) (h : Storable t) (he : Encodable E t) :
    encodeFits (writeCore E t) = Layout.layoutBytes E t :=
  Layout.encode_writeCore_eq_layout E t he h.order_lt h.coef_len h.extents_len

/-- satisfiable: the 2 × 3 table with extents, periods and aux values with apostrophes -/
example : Storable exT ∧ Encodable exExt0 exT := ⟨exT_storable, exT_encodable⟩

/-- **A file in the documented layout, produced by an independent writer, is read as the table it describes.** -/
theorem layout_file_is_read (E : Ext) (t : Table) (h : Storable t) (hw : DimsWF t) (he : Encodable E t) :
    ∃ f t', decodeFits (Layout.layoutBytes E t) = some f ∧ readFixed E f = .ok t' ∧ Reread E t t' := by
  rw [← encoder_meets_layout E t h he]
  exact C06_bytes_roundtrip E t h hw he

example (E : Ext) : Storable exValidTable ∧ DimsWF exValidTable ∧ Encodable E { exValidTable with periods := none } :=
  ⟨exValidTable_storable, exValidTable_dims, exValidTable_encodable E⟩

/-- the name an independent reader sees for an extension: the string value of its `EXTNAME` keyword -/
def extName (h : Hdu) : Option Str := (findCard h.cards "EXTNAME".toList).bind (c2s ·.val)

/-- **An independent FITS reader recovers the same arrays** from a file in the documented layout: the generic decoder
    (which knows nothing of photospline) finds a primary `float` image with the reversed axes holding exactly the
    coefficient words, then one `double` image per dimension with `EXTNAME = KNOTSi` holding exactly the knot vector, then
    — when the table has extents — a `double` image of `2·ndim` values with `EXTNAME = EXTENTS` holding the extents. -/
theorem independent_reader_arrays (E : Ext) (t : Table) (h : Storable t) (he : Encodable E t) :
    ∃ prim, decodeFits (Layout.layoutBytes E t)
        = some (prim :: ((List.range t.ndim).map (knotHdu t) ++ extentsHdus t)) ∧
      prim.axes = t.naxes.reverse ∧ prim.pix = .f32 t.coef ∧
      (∀ i, i < t.ndim → (knotHdu t i).axes = [(t.knots.getD i []).length] ∧
          (knotHdu t i).pix = .f64 (t.knots.getD i []) ∧
          extName (knotHdu t i) = some ("KNOTS".toList ++ Layout.dec i)) ∧
      (∀ e, t.extents = some e → ∃ x, extentsHdus t = [x] ∧ x.axes = [2 * t.ndim] ∧ x.pix = .f64 e ∧
          extName x = some "EXTENTS".toList) := by
  refine ⟨primHdu E false t, ?_, wAxes_eq t h.naxes_len, primHdu_pix E false t h.naxes_len h.coef_len,
    fun i hi => ⟨rfl, rfl, ?_⟩, fun e he' => ⟨_, extentsHdus_some t e he' (h.extents_len e he'), rfl, rfl, ?_⟩⟩
  · rw [← encoder_meets_layout E t h he, written_bytes_decode E t he]
    rfl
  · rw [extName, knotHdu_eq, extHdu_name, keyN_knots_ok i (by have := h.ndim_le; omega), Layout.keyN_eq]
  · rw [extName, extHdu_name, extents_name_ok]

example : Storable exT ∧ Encodable exExt0 exT ∧ exT.extents = some [2, 2, 13, 13] :=
  ⟨exT_storable, exT_encodable, rfl⟩

/-- **Reversed axis order is the right one**: in a FITS image the first axis varies fastest; with the axes written in
    reversed order (`NAXISj = naxes[ndim-j]`, part of `Layout.primaryHeader`) the pixel with the reversed coordinates of
    a multi-index is element `Σ idx[i]·strides[i]` of the row-major coefficient array — so the array is stored in
    memory order and coefficient `idx` is pixel `(idx[n-1]+1, …, idx[0]+1)`. -/
theorem reversed_axes_are_row_major (naxes idx : List Nat) (h : naxes.length = idx.length) :
    Layout.fitsIndex naxes.reverse idx.reverse = Layout.tableIndex (rowMajor naxes) idx :=
  Layout.fitsIndex_reverse naxes idx h

/-- a 2 × 3 × 4 table: coefficient (1,2,3) is element 1·12 + 2·4 + 3 = 23, which is pixel (3,2,1) of the 4 × 3 × 2
    image; the reversal matters: coefficient (1,0,0) is element 12, whereas pixel (1,0,0) of an image whose axes were
    not reversed would be element 1 -/
example : Layout.fitsIndex [4, 3, 2] [3, 2, 1] = 23 ∧ Layout.tableIndex (rowMajor [2, 3, 4]) [1, 2, 3] = 23 ∧
    Layout.tableIndex (rowMajor [2, 3, 4]) [1, 0, 0] = 12 ∧ Layout.fitsIndex [2, 3, 4] [1, 0, 0] = 1 := by decide

/-- **Writing**: the primary data start at a block boundary and the four bytes at offset `4·j` are the big-endian bit
    pattern of `coef[j]` — no case distinction on the pattern anywhere. -/
theorem coefficient_bits_written (E : Ext) (t : Table) (h : Storable t) (he : Encodable E t) (j : Nat)
    (hj : j < t.coef.length) :
    ∃ hdr rest, encodeFits (writeCore E t) = hdr ++ rest ∧ hdr.length % 2880 = 0 ∧
      (rest.drop (4 * j)).take 4 = be32 t.coef[j] := by
  obtain ⟨hdr, rest, h1, _, h3, h4⟩ := Layout.layout_coef_bytes E t j hj
  exact ⟨hdr, rest, by rw [encoder_meets_layout E t h he, h1], h3, by rw [h4, be32_eq]⟩

/-- satisfiable with NaN patterns: `exAccepted` holds a negative quiet NaN with payload and a signalling NaN -/
example (E : Ext) : Encodable E exAccepted ∧ exAccepted.coef.map isNaN32 = [true, true] :=
  ⟨(exAccepted_ok E).encodable, by decide⟩

/-- **Reading**, for any byte string the decoder accepts and the reader reads: the table's coefficient words,
    re-encoded big-endian, are exactly the bytes of the file from a block boundary on.  (Only a `BITPIX = -32` primary
    image is copied; a `BITPIX = -64` one goes through `E.d2f`, see `read_coef_verbatim`.) -/
theorem coefficient_bits_read (E : Ext) (b : Bytes) (h0 : Hdu) (rest : List Hdu) (d : List UInt32) (t : Table)
    (hd : decodeFits b = some (h0 :: rest)) (hp : h0.pix = .f32 d)
    (hr : readFixed E (h0 :: rest) = .ok t ∨ readCore E (h0 :: rest) = .ok t) :
    ∃ off, off % 2880 = 0 ∧ enc32 t.coef = (b.drop off).take (4 * t.coef.length) := by
  obtain ⟨off, h1, h2, h3⟩ := decodeFits_f32_bits b h0 rest d hd hp
  obtain ⟨_, h5⟩ := read_coef_verbatim E h0 rest t hr
  rw [hp] at h5
  simp only at h5
  have hcd : t.coef = d := h5.trans (List.take_of_length_le (h2 ▸ npix_le_prod _))
  rw [hcd]
  exact ⟨off, h1, h3⟩

/-- satisfiable: the bytes written for `exAccepted` decode, and are read -/
example (E : Ext) : ∃ b h0 rest d t, decodeFits b = some (h0 :: rest) ∧ h0.pix = .f32 d ∧
    readFixed E (h0 :: rest) = .ok t := by
  have hA := exAccepted_ok E
  obtain ⟨t', ht', _⟩ := C06_roundtrip E exAccepted hA.storable hA.dims
  exact ⟨_, _, _, _, t', written_bytes_decode E exAccepted hA.encodable, rfl, ht'⟩

/-- **NaN coefficients** survive the round trip with sign, quiet bit and payload: a corollary of `Reread` stated on the
    bit patterns (`operator==` is IEEE comparison and cannot see this; the check compares bits). -/
theorem nan_bits_preserved (E : Ext) (t t' : Table) (h : Reread E t t') :
    t'.coef.map isNaN32 = t.coef.map isNaN32 ∧
    ∀ j, isNaN32 (t.coef.getD j 0) = true → t'.coef.getD j 0 = t.coef.getD j 0 := by
  have hc := h.coef
  rw [hc]
  exact ⟨rfl, fun _ _ => rfl⟩

/-- not vacuous: the table read back for `exAccepted` has the two NaN patterns at their places -/
example (E : Ext) : ∃ t', readFixed E (writeCore E exAccepted) = .ok t' ∧ Reread E exAccepted t' ∧
    t'.coef = [0xffc00001, 0x7fa00000] ∧ t'.coef.map isNaN32 = [true, true] := by
  have hA := exAccepted_ok E
  obtain ⟨t', ht', hre⟩ := C06_roundtrip E exAccepted hA.storable hA.dims
  have hc := hre.coef
  exact ⟨t', ht', hre, hc, by rw [hc]; decide⟩

/-- **`PERIODn` for every formatter and parser**: each period `x` comes back as `parseD (fmtD x)` (`0` when the text
    cannot be read back).  Hence the periods survive exactly iff the parser inverts the formatter on the values that
    occur — the residual assumption about cfitsio's `%.15G` text, which does not hold for every double (C06 leaves
    period values out of the property; the generator draws multiples of 0.25). -/
theorem period_text_roundtrip (E : Ext) (t : Table) (h : Storable t) :
    ∃ t', readCore E (writeCore E t) = .ok t' ∧ Reread E t t' ∧
      ∀ p, t.periods = some p →
        t'.periods = some (p.map fun x => (E.parseD (E.fmtD x)).getD 0) ∧
        (t'.periods = some p ↔ ∀ x ∈ p, (E.parseD (E.fmtD x)).getD 0 = x) := by
  refine ⟨_, readCore_writeGen E t false h nofun, reread_rereadTable E t h, fun p hp => ?_⟩
  have hper : (rereadTable E t).periods = some (p.map fun x => (E.parseD (E.fmtD x)).getD 0) :=
    congrArg some (rdPeriods_map E t p hp (h.periods_len p hp))
  refine ⟨hper, ?_⟩
  rw [hper, Option.some.injEq]
  exact map_eq_self_iff _ p

/-- satisfiable with periods present -/
example : Storable exTable ∧ exTable.periods = some [0, 7] := ⟨exTable_storable, rfl⟩

/-- **The float⇄double conversions are never applied** when a written file is read back (coefficients are written and
    read as `float`, knots and extents as `double`): the result depends on `E` through `parseD ∘ fmtD` only. -/
theorem conversions_not_used (E E' : Ext) (t : Table) (h : Storable t)
    (hn : ∀ x, E.parseD (E.fmtD x) = E'.parseD (E'.fmtD x)) :
    readCore E (writeCore E t) = readCore E' (writeCore E' t) := by
  rw [writeCore, writeCore, readCore_writeGen E t false h nofun, readCore_writeGen E' t false h nofun]
  unfold rereadTable
  rw [rdPeriods_congr E E' t hn]

/-- two different pairs of conversions, same number text -/
example : ∀ x, exExt0.parseD (exExt0.fmtD x) = ({ exExt0 with d2f := fun _ => 1, f2d := fun _ => 2 } : Ext).parseD
    (({ exExt0 with d2f := fun _ => 1, f2d := fun _ => 2 } : Ext).fmtD x) := fun _ => rfl

/-- `Accepted` (shape invariants of the object, `DimsWF`, machine sizes, `write_key`'s tests for the aux entries,
    see `PsV/Proofs/FitsAccepted.lean`) implies all the technical hypotheses used above. -/
theorem accepted_storable (E : Ext) (t : Table) (h : Accepted E t) : Storable t ∧ DimsWF t ∧ Encodable E t :=
  ⟨h.storable, h.dims, h.encodable⟩

example (E : Ext) : Accepted E exAccepted := exAccepted_ok E

/-- The aux hypothesis of `Accepted` is what `splinetable::write_key` lets through: every standard-keyword entry the
    model of `write_key` accepts (`PsV.Aux.validate`, the definition the C16 driver runs against the real `write_key`,
    constants regenerated from the source) satisfies `WriteKeyOK`.  So an aux store built through the public API is
    covered as soon as it holds no `EXTNAME` / `HDUNAME` / `HIERARCH` key (and no long, HIERARCH-convention key: C16). -/
theorem write_key_entries_accepted (key val : Str) (hv : Aux.validate key val = none) (h8 : key.length ≤ 8) :
    WriteKeyOK key val :=
  writeKeyOK_of_validate key val hv h8

example : Aux.validate "REMARK".toList "it's ''".toList = none ∧ "REMARK".toList.length ≤ 8 := by
  simp -index only [String.toList_ofList]
  decide +kernel

/-- **C06 for every accepted table, end to end**: the bytes in the documented layout are what the encoder writes;
    they decode to the store `write_fits_core` built; the repaired reader reads that store as a table with every field
    equal bit for bit (aux values followed by the blanks of the FITS padding rule; periods as `parseD ∘ fmtD` makes
    them). -/
theorem C06_accepted_roundtrip (E : Ext) (t : Table) (h : Accepted E t) :
    encodeFits (writeCore E t) = Layout.layoutBytes E t ∧
    ∃ t', (decodeFits (Layout.layoutBytes E t)).map (readFixed E) = some (.ok t') ∧ Reread E t t' ∧
      ∀ p, t.periods = some p → t'.periods = some (p.map fun x => (E.parseD (E.fmtD x)).getD 0) := by
  have hlay := encoder_meets_layout E t h.storable h.encodable
  refine ⟨hlay, _, ?_, reread_rereadTable E t h.storable, fun p hp =>
    congrArg some (rdPeriods_map E t p hp (h.periods_len p hp))⟩
  rw [← hlay, written_bytes_decode E t h.encodable]
  exact congrArg some (readFixed_writeGen E t false h.storable h.dims nofun)

example (E : Ext) : Accepted E exAccepted := exAccepted_ok E

/-- `exAccepted` with the aux entry `EXTNAME = KNOTS0` -/
def exExtname : Table := { exAccepted with aux := [("EXTNAME".toList, "KNOTS0".toList)] }

/-- **An auxiliary key `EXTNAME` breaks the round trip** (the library before /repo 9579c12, whose `write_key` refuses
    the key: `write_key`, `write_fits_mem` succeed, `read_fits_mem` throws "inconsistent numbers of knots (13) …").
    The card lands in the primary header, `fits_movnam_hdu("KNOTS0")` starts at the primary HDU and takes it for the
    knot extension: the repaired reader rejects the file; the reader before the validation returned the coefficients,
    converted to double, as the knot vector. -/
theorem aux_extname_breaks_roundtrip (E : Ext) :
    readFixed E (writeCore E exExtname) = .error (.invalid 0 1) ∧
    (∃ t', readCore E (writeCore E exExtname) = .ok t' ∧ t'.knots = [exExtname.coef.map E.f2d]) ∧
    [exExtname.coef.map E.f2d] ≠ exExtname.knots := by
  refine ⟨rfl, ⟨_, rfl, rfl⟩, fun h => ?_⟩
  have := congrArg (fun l => l.map List.length) h
  simp [exExtname, exAccepted] at this

/-- An order of 2^31 or more is written through `int*` as a negative number, which `fits_read_key(TUINT)` refuses. -/
theorem order_2p31_not_read (E : Ext) :
    readCore E (writeCore E { exAccepted with order := [2147483648] }) = .error (.order 0) :=
  order_big_not_read E _ rfl (by simp -index only [exAccepted, String.toList_ofList]; decide +kernel) 0 (by decide)
    nofun (by decide) (by decide)

end PsV
