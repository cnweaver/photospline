import PsV.Proofs.CApi
import PsV.Proofs.CApiRefine
import PsV.Generated.C18
/-!
# C18 — the C interface is a faithful, leak-free wrapper

Property theorems only.  They are statements about `PsV.Generated.C18.wrappers` and `PsV.Generated.C18.facts`, the
tables that `tools/gen_c18.py` extracts from the *current* `src/cinter/splinetable.cpp` on every run, and about
`PsV.CApi.wrapRet` / `PsV.CApi.cstep`, the definitions the driver executes.  If the source loses a `catch(...)`, drops a
result, or deletes through the wrong type, the table changes and these proofs stop checking.

Three layers: per call and per whole body of a wrapper; per history, ownership only (under the usage rule, and in the
wider scope of what the C code defines); per history with the C++ objects (`C18_refines`: the C machine `cstep` against
the C++ program `tstep` a caller of the C++ API writes), and what remains undefined.
-/
namespace PsV
open PsV.CApi PsV.Generated.C18

/-- Every wrapper record of the generated table passes the per-call check `wrapperOk` and the two conditions on whole
    bodies (`failReturns`: a failure reported through a result is never dropped; `finalOk`: a body that does not end
    in `return 0` ends in a call whose result it returns) that `C18_body_faithful` and `C18_body_completes` rest on.
    It stops checking when the source loses a `catch(...)`, a guard's failure literal, a test of a `bool` result, or
    returns the wrong literal after a call. -/
theorem C18_table_checked2 : wrappers.all wrapperOk2 = true := by decide +kernel

/-- The per-call part of it, on which every per-call theorem below and `C18_refines` rest. -/
theorem C18_table_checked : wrappers.all wrapperOk = true :=
  List.all_eq_true.mpr fun w hw => (wrapperOk2_iff.mp (List.all_eq_true.mp C18_table_checked2 w hw)).1

/-- Every life-cycle fact read off the pointer-moving wrappers holds: `new` is stored, `delete` goes through the dynamic
    type and resets the handle, the file reader frees an occupied handle first and the memory reader allocates only
    into a NULL one, the grid result is released to the caller after `*result = NULL`, the buffer is handed over.
    The per-history theorems rest on it; it stops checking when one of these statements leaves the source. -/
theorem C18_facts_good : facts.Good := by decide

/-- **no_exception_escapes.**  For every wrapper and every call it makes into the C++ library: whatever that call does
    (return, report failure, throw), no exception leaves the `extern "C"` function. -/
theorem C18_no_exception_escapes :
    ∀ w ∈ wrappers, ∀ c ∈ w.calls, ∀ o, possible c.op o = true → wrapRet w c o ≠ .escapes := by
  intro w hw c hc o hp
  exact ((wrapperOk_sound (List.all_eq_true.mp C18_table_checked w hw)).1 c hc o hp).1

/-- The same in syntactic form: every call of an operation that can throw sits inside a `try` with a `catch(...)`. -/
theorem C18_throwing_calls_guarded :
    ∀ w ∈ wrappers, ∀ c ∈ w.calls, canThrow c.op = true → c.guarded = true := by
  intro w hw c hc ht
  have h := C18_no_exception_escapes w hw c hc .throws ht
  cases hg : c.guarded with
  | true => rfl
  | false => exact absurd ((escapes_iff w c .throws).mpr ⟨rfl, hg⟩) h

/-- **wrapper_faithful.**  For every wrapper, every underlying call and every outcome that call can have, the C caller
    sees exactly what a faithful wrapper must show: status wrappers 0 on success and non-zero on failure, pointer
    wrappers the C++ pointer on success and NULL on failure, value wrappers the C++ value. -/
theorem C18_wrapper_faithful :
    ∀ w ∈ wrappers, ∀ c ∈ w.calls, ∀ o, possible c.op o = true → wrapRet w c o = expected w.ret o := by
  intro w hw c hc o hp
  exact ((wrapperOk_sound (List.all_eq_true.mp C18_table_checked w hw)).1 c hc o hp).2

/-- `ret ≠ 0 ⇔ the underlying operation failed`, for every `int`-returning wrapper. -/
theorem C18_status_nonzero_iff_failed :
    ∀ w ∈ wrappers, w.ret = .status → ∀ c ∈ w.calls, ∀ o, possible c.op o = true →
      (wrapRet w c o = .failure ↔ o ≠ .ok) ∧ (wrapRet w c o = .success ↔ o = .ok) := by
  intro w hw hr c hc o hp
  rw [C18_wrapper_faithful w hw c hc o hp, hr]
  cases o <;> simp [expected]

/-- `NULL ⇔ the underlying operation failed`, for every pointer-returning wrapper. -/
theorem C18_pointer_null_iff_failed :
    ∀ w ∈ wrappers, w.ret = .pointer → ∀ c ∈ w.calls, ∀ o, possible c.op o = true →
      (wrapRet w c o = .failure ↔ o ≠ .ok) := by
  intro w hw hr c hc o hp
  rw [C18_wrapper_faithful w hw c hc o hp, hr]
  cases o <;> simp [expected]

/-- Value wrappers hand the C++ value through. -/
theorem C18_value_passthrough :
    ∀ w ∈ wrappers, w.ret = .value → ∀ c ∈ w.calls, wrapRet w c .ok = .value := by
  intro w hw hr c hc
  rw [C18_wrapper_faithful w hw c hc .ok rfl, hr]; rfl

/-- A NULL argument that a wrapper guards against yields the failure value (never a success code). -/
theorem C18_null_guard_fails : ∀ w ∈ wrappers, guardRet w = expected w.ret .fail :=
  fun w hw => guardRet_sound (List.all_eq_true.mp C18_table_checked w hw)

/-- **handles_balanced.**  Any number of handles and result slots, any (unbounded) sequence of C-interface calls obeying
    the usage rule `validRun` (init only on a handle that owns nothing, grid evaluation only into an empty slot), with
    any mixture of successful and failing outcomes; then `splinetable_free` on every handle, `ndsparse_destroy` on
    every slot and `free` on every buffer the caller still owns: the ledger is empty, nothing was deleted twice or
    through a wrong type, every handle is NULL. -/
theorem C18_handles_balanced (nh nr : Nat) (ops : List Op) (hv : validRun facts (St.init nh nr) ops = true) :
    let s := run facts (St.init nh nr) ops
    let t := run facts s (cleanupOps nh nr s.led.buffers)
    t.led = {} ∧ t.ub = false ∧ (∀ j, hget t j = .null) ∧ (∀ j, rget t j = false) :=
  balanced_of_good C18_facts_good nh nr ops hv

/-- The ledger is exact at every moment, not only at the end: live tables = live handles, result objects = array
    sets = occupied slots (so nothing is orphaned in between either). -/
theorem C18_ledger_tracks_handles (nh nr : Nat) (ops : List Op) (hv : validRun facts (St.init nh nr) ops = true) :
    let s := run facts (St.init nh nr) ops
    s.ub = false ∧ s.led.tables = s.hs.count .live ∧ s.led.ndObjs = s.rs.count true ∧ s.led.ndArrays = s.rs.count true := by
  intro s
  obtain ⟨hi, _, _⟩ := run_inv C18_facts_good ops (St.init nh nr) (inv_init nh nr) hv
  exact ⟨hi.noub, hi.tables, hi.ndObjs, hi.ndArrays⟩

/-- a wrapper whose underlying call can throw *and* report failure through its result -/
example : w_splinetable_read_key ∈ wrappers ∧ (∀ c ∈ w_splinetable_read_key.calls, possible c.op .throws = true ∧ possible c.op .fail = true)
    ∧ w_splinetable_read_key.calls ≠ [] := ⟨by simp [wrappers], by decide, by decide⟩

/-- a valid history mixing successes and failures on two handles and two result slots, with an occupied-handle read -/
def demoOps : List Op :=
  [.init 0 .ok, .readMem 0 .ok, .readFile 1 .throws, .readFile 1 .ok, .readFile 1 .ok, .readMem 1 .throws,
   .grideval 0 0 .ok, .grideval 1 1 .throws, .grideval 1 1 .ok, .writeMem 0 .ok, .use 1, .destroy 0, .grideval 0 0 .ok, .free 0,
   .init 0 .throws, .init 0 .ok]

example : validRun facts (St.init 2 2) demoOps = true := by decide +kernel
example : (run facts (St.init 2 2) demoOps).led = { tables := 2, ndObjs := 2, ndArrays := 2, buffers := 1 } := by decide +kernel

/-- without the usage rule the claim is false: `splinetable_init` on a live handle orphans the old object -/
example : (run facts (run facts (St.init 1 0) [.init 0 .ok, .init 0 .ok]) (cleanupOps 1 0 0)).led.tables = 1 := by decide +kernel

/-- `delete nd` through `struct ndsparse*` (the code before fix C18-3): the arrays are never freed -/
example : (run { facts with destroyDeletesDerived := false } (St.init 1 1)
    ([.init 0 .ok, .grideval 0 0 .ok] ++ cleanupOps 1 1 0)).led = { ndArrays := 1 } := by decide +kernel

/-- a wrapper that drops the `bool` of `read_key` (before fix C18-1) reports success for a missing key -/
example : wrapRet w_splinetable_read_key ⟨.readKey, true, .discarded⟩ .fail = .success := by decide

/-- an unguarded `convolve` (before fix C18-2) lets the exception out -/
example : wrapRet w_splinetable_convolve ⟨.convolve, false, .noResult⟩ .throws = .escapes := by decide

/-- `return searchcenters(...)` (before fix C18-4) is non-zero exactly on success -/
example : wrapRet w_tablesearchcenters ⟨.searchcenters, false, .returned⟩ .ok = .failure := by decide

/-- **body_faithful.**  `C18_wrapper_faithful` speaks of one call "all earlier calls having succeeded".  This one
    speaks of a whole body: for every wrapper of the table and *every* sequence of its calls into the C++ library (any
    length, any order, any outcomes the behaviour classes allow) that ends in a `return` of the wrapper: the C caller
    sees exactly what a faithful wrapper shows for the outcome of the C++ side (that of the first call that does not
    succeed, `ok` if there is none), and no exception leaves. -/
theorem C18_body_faithful :
    ∀ w ∈ wrappers, ∀ tr : List (Call × Outcome), (∀ p ∈ tr, p.1 ∈ w.calls ∧ possible p.1.op p.2 = true) →
      completes w tr = true → execTrace w tr = expected w.ret (traceOutcome tr) ∧ execTrace w tr ≠ .escapes := by
  intro w hw tr htr hc
  obtain ⟨h1, h2, _⟩ := wrapperOk2_iff.mp (List.all_eq_true.mp C18_table_checked2 w hw)
  have h := execTrace_sound h1 h2 tr htr hc
  exact ⟨h, h ▸ expected_ne_escapes _ _⟩

/-- the body of `splinetable_glamfit`: two helper containers are built, then `fit` throws -/
example : let w := w_splinetable_glamfit
    let tr : List (Call × Outcome) := [(⟨.other, true, .stored⟩, .ok), (⟨.other, true, .stored⟩, .ok), (⟨.fit, true, .noResult⟩, .throws)]
    (∀ p ∈ tr, p.1 ∈ w.calls ∧ possible p.1.op p.2 = true) ∧ completes w tr = true ∧ traceOutcome tr = .throws ∧
    execTrace w tr = .failure := by decide +kernel

/-- The hypothesis `completes` of `C18_body_faithful` holds for every body that gets as far as the wrapper's last call
    (whatever that call then does): a wrapper whose last statement is not `return 0` ends in a call whose result it
    returns.  (Bodies that stop earlier stop at a `return`, by the definition of `returnsOn`.) -/
theorem C18_body_completes :
    ∀ w ∈ wrappers, ∀ tr : List (Call × Outcome), tr.getLast?.map Prod.fst = w.calls.getLast? → completes w tr = true := by
  intro w hw tr hl
  exact completes_of_reaches_last (wrapperOk2_iff.mp (List.all_eq_true.mp C18_table_checked2 w hw)).2.2 tr hl

example : let w := w_splinetable_get_key
    let tr : List (Call × Outcome) := [(⟨.getAuxValue, true, .returned⟩, .fail)]
    tr.getLast?.map Prod.fst = w.calls.getLast? ∧ w.finalSucceeds = false ∧ execTrace w tr = .failure := by decide +kernel

/-- The return literals of the seven pointer-moving wrappers (`LifeRetsOk`), which `cstep` reads from the table by
    name: it stops checking when one of them returns the wrong literal for success, a caught exception or a NULL
    argument, or disappears from the table. -/
theorem C18_life_rets : LifeRetsOk wrappers := by decide +kernel

/-- every wrapper of the table is either one of the seven that move pointers (modelled one by one in `cstep`) or a plain
    member-function wrapper (modelled generically by `CCall.member w`, for any `w` of the table) -/
theorem C18_every_wrapper_covered :
    ∀ w ∈ wrappers, lifeNames.contains w.name = true ∨ (principal w 0).isSome = true := by
  -- decided in this order: the left disjunct compares no names, and it holds for every wrapper of the table
  have h : ∀ w ∈ wrappers, (principal w 0).isSome = true ∨ lifeNames.contains w.name = true := by decide +kernel
  exact fun w hw => (h w hw).symm

/-- **refines.**  Any object type, argument type and value type; any semantics `sem` of the C++ operations that stays
    inside the behaviour classes (`Sem.WF`); any number of handles and result slots; any history of calls of the C
    interface — every wrapper of the generated table, live and NULL handles, NULL arguments, allocation failures inside
    the C++ operations (part of `sem`) and of the wrappers' own (`oom`) — inside the defined scope `cDefined`.  Then,
    running the C machine (`cstep`: pointers and ledger driven by the generated `facts`, return codes by the generated
    `wrappers`) and the C++ program for the same calls (`tstep`):
    * the handles hold exactly the twin's objects in the twin's states, the result pointers the twin's results, the
      caller the same number of buffers (`abs`);
    * call by call the C caller saw `0`/non-NULL/the value iff the C++ operation succeeded, the failure value iff it
      threw, reported failure or could not be written down, the same value, and no exception left (`agrees`);
    * nothing was deleted twice or through a wrong type, no handle dangles, and the ledger is the live C++ objects:
      table objects = the twin's objects, result objects = array sets = the twin's results;
    * the ownership state is the one `run facts` (the definitions of `C18_handles_balanced`) reaches by a history that
      obeys the usage rule — so the clean-up of `C18_handles_balanced` empties the ledger (`C18_refines_balanced`). -/
theorem C18_refines {Obj Arg Val : Type} (sem : Sem Obj Arg Val) (hsem : sem.WF) (nh nr : Nat) (calls : List (CCall Arg))
    (hd : cDefinedRun facts wrappers sem (CSt.init nh nr) calls = true) :
    let c := crun facts wrappers sem (CSt.init nh nr) calls
    let t := trun sem (TSt.init nh nr) calls
    c.1.abs = t.1 ∧ agreesAll calls c.2 t.2 ∧
    c.1.ub = false ∧ (∀ h, hptr c.1 h = .null ∨ ∃ x, hptr c.1 h = .live x) ∧
    c.1.led.tables = t.1.objs.countP Option.isSome ∧ c.1.led.ndObjs = t.1.res.countP Option.isSome ∧
    c.1.led.ndArrays = t.1.res.countP Option.isSome ∧ c.1.led.buffers = t.1.bufs ∧
    ∃ ops, validRun facts (St.init nh nr) ops = true ∧ c.1.erase = run facts (St.init nh nr) ops := by
  intro c t
  obtain ⟨h1, h2, h3, h4⟩ := crun_refines C18_facts_good (List.all_eq_true.mp C18_table_checked) C18_life_rets sem hsem calls
    (CSt.init nh nr) (by rw [CSt.init_erase]; exact inv_init nh nr) hd
  rw [CSt.init_abs] at h1 h2
  rw [CSt.init_erase] at h4
  have h5 := inv_abs h3
  rw [h1] at h5
  exact ⟨h1, h2, h5.1, h5.2.1, h5.2.2.1, h5.2.2.2.1, h5.2.2.2.2.1, h5.2.2.2.2.2, h4⟩

/-- … and so the caller's clean-up (`splinetable_free` on every handle, `ndsparse_destroy` on every result pointer,
    `free` on every buffer) after any such history leaves nothing behind. -/
theorem C18_refines_balanced {Obj Arg Val : Type} (sem : Sem Obj Arg Val) (hsem : sem.WF) (nh nr : Nat) (calls : List (CCall Arg))
    (hd : cDefinedRun facts wrappers sem (CSt.init nh nr) calls = true) :
    let s := (crun facts wrappers sem (CSt.init nh nr) calls).1.erase
    let t := run facts s (cleanupOps nh nr s.led.buffers)
    t.led = {} ∧ t.ub = false ∧ (∀ j, hget t j = .null) ∧ (∀ j, rget t j = false) := by
  obtain ⟨ops, hv, he⟩ := (C18_refines sem hsem nh nr calls hd).2.2.2.2.2.2.2.2
  simp only [he]
  exact C18_handles_balanced nh nr ops hv

/-- a semantics inside the behaviour classes and a defined history that uses every kind of call: a table is read from
    memory into a fresh handle, a key is read (the C++ call reports failure through its result), a guarded wrapper is
    called on a handle that owns nothing and with a NULL key, a grid evaluation succeeds, an allocation of
    `splinetable_permute`'s own fails, the file reader replaces the object, everything is released, and released again -/
def demoSem : Sem Nat Nat Nat :=
  { empty := 0, load := fun a => if a = 0 then none else some a,
    member := fun op a x => (if a = 0 then (if canFail op then .fail else if canThrow op then .throws else .ok) else .ok, x + a, 10 * x + a) }

theorem demoSem_wf : demoSem.WF := by
  intro op a x
  simp only [demoSem]
  by_cases ha : a = 0
  · cases hf : canFail op <;> cases ht : canThrow op <;> simp [ha, possible, hf, ht]
  · simp [ha, possible]

def demoCalls : List (CCall Nat) :=
  [.readMem 0 5 false, .member w_splinetable_read_key 0 0 1 false, .member w_splinetable_read_key 0 3 0 false,
   .member w_splinetable_get_key 1 3 0 false, .nullArg w_splinetable_read_key "key" 0,
   .grideval false 0 0 2 false, .grideval true 1 1 2 false, .member w_splinetable_permute 0 1 0 true,
   .member w_splinetable_ndim 0 1 0 false, .readMem 1 0 true, .init 1 true, .init 1 false, .readMem 1 0 false,
   .readFile 0 7 false, .readFile 1 0 false, .writeMem 0 1 false, .freeBuffer,
   .destroy 0, .destroy 0, .free 0, .free 0, .free 1]

example : cDefinedRun facts wrappers demoSem (CSt.init 2 2) demoCalls = true := by decide +kernel
example : ((crun facts wrappers demoSem (CSt.init 2 2) demoCalls).2.map (·.ret)) =
    [.success, .failure, .success, .failure, .failure, .success, .failure, .failure, .value, .failure, .failure, .success, .failure,
     .success, .failure, .success, .void, .void, .void, .void, .void, .void] := by decide +kernel

/-- **orphans_exact.**  `splinetable_init` on a handle that owns an object and `splinetable_grideval` into a result
    pointer that still holds a result are plain pointer overwrites in C: defined behaviour, but the object that was there
    can no longer be released.  For every history in that wider scope (`definedRun`): nothing is deleted twice, no
    handle dangles, and at every moment the ledger is what the handles and result pointers own *plus exactly* the
    orphans of the history (`orphansOf`: one table object per successful `init` on an owning handle, one result per
    grid evaluation — successful or not, `*result = NULL` comes first — into an occupied pointer); after the caller's
    clean-up exactly those orphans are left. -/
theorem C18_orphans_exact (nh nr : Nat) (ops : List Op) (hv : definedRun facts (St.init nh nr) ops = true) :
    let s := run facts (St.init nh nr) ops
    let o := orphansOf facts (St.init nh nr) ops
    let t := run facts s (cleanupOps nh nr s.led.buffers)
    (s.ub = false ∧ HState.dangling ∉ s.hs ∧ s.led.tables = s.hs.count .live + o.1 ∧
     s.led.ndObjs = s.rs.count true + o.2 ∧ s.led.ndArrays = s.rs.count true + o.2) ∧
    (t.led = { tables := o.1, ndObjs := o.2, ndArrays := o.2, buffers := 0 } ∧ t.ub = false ∧
     (∀ j, hget t j = .null) ∧ (∀ j, rget t j = false)) := by
  intro s o t
  have hi := (run_init_invO C18_facts_good nh nr ops hv).1
  exact ⟨⟨hi.noub, hi.nodangling, hi.tables, hi.ndObjs, hi.ndArrays⟩, balanced_of_goodO C18_facts_good nh nr ops hv⟩

/-- a history outside the usage rule but inside `definedRun`: init twice on the same handle, a failing and a successful
    grid evaluation into an occupied result pointer -/
def demoOrphanOps : List Op :=
  [.init 0 .ok, .init 0 .ok, .grideval 0 0 .ok, .grideval 0 0 .throws, .grideval 0 0 .ok, .grideval 0 0 .ok, .init 0 .throws]

example : definedRun facts (St.init 1 1) demoOrphanOps = true ∧ validRun facts (St.init 1 1) demoOrphanOps = false ∧
    orphansOf facts (St.init 1 1) demoOrphanOps = (1, 2) := by decide +kernel
example : (run facts (run facts (St.init 1 1) demoOrphanOps) (cleanupOps 1 1 0)).led = { tables := 1, ndObjs := 2, ndArrays := 2 } := by decide +kernel

/-- **free_twice.**  `splinetable_free` resets the handle, so a second `splinetable_free` on the same handle is
    `delete nullptr`: defined, and without effect — in any state a history in the defined scope can reach. -/
theorem C18_free_twice (nh nr : Nat) (ops : List Op) (hv : definedRun facts (St.init nh nr) ops = true) (h : Nat) :
    let s := run facts (St.init nh nr) ops
    step facts (step facts s (.free h)) (.free h) = step facts s (.free h) ∧ (step facts s (.free h)).ub = false := by
  intro s
  have hi := (run_init_invO C18_facts_good nh nr ops hv).1
  obtain ⟨h1, _, _, _, h5, _⟩ := freeStep_invO C18_facts_good hi h
  exact ⟨freeStep_null h5, h1.noub⟩

/-- **destroy_twice.**  `ndsparse_destroy` on a result pointer the caller has reset (or that `splinetable_grideval` set
    to NULL on failure) is `delete nullptr`: the second release through the same *variable* is without effect.
    (A second `ndsparse_destroy` through a stale copy of the pointer is a double delete and stays undefined.) -/
theorem C18_destroy_twice (s : St) (slot : Nat) :
    step facts (step facts s (.destroy slot)) (.destroy slot) = step facts s (.destroy slot) :=
  step_destroy_of_empty (rget_step_destroy ..)

/-- **NULL `table`.**  The wrappers that test their `table` argument — they return the failure value (void: return)
    before touching anything (`C18_null_guard_fails`, `cstep (.nullArg ..)`, `cstep (.grideval true ..)`) … -/
theorem C18_null_table_guarded :
    (wrappers.filter (·.nullChecked.contains "table")).map (·.name) =
    ["splinetable_init", "splinetable_free", "readsplinefitstable", "writesplinefitstable", "splinetable_get_key",
     "splinetable_read_key", "splinetable_write_key", "splinetable_convolve", "readsplinefitstable_mem",
     "writesplinefitstable_mem", "splinetable_glamfit", "splinetable_grideval"] := by rfl

/-- … and the calls that remain **undefined** with `table == NULL`: every wrapper that dereferences `table` without a
    test (the value wrappers, evaluation, `splinetable_permute`; `ndsparse_destroy` has no table argument). -/
theorem C18_undefined_on_null_table :
    (wrappers.filter (fun w => w.derefsData && !w.nullChecked.contains "table")).map (·.name) =
    ["splinetable_ndim", "splinetable_order", "splinetable_nknots", "splinetable_knots", "splinetable_knot",
     "splinetable_lower_extent", "splinetable_upper_extent", "splinetable_period", "splinetable_ncoeffs",
     "splinetable_total_ncoeffs", "splinetable_stride", "splinetable_coefficients", "tablesearchcenters", "ndsplineeval",
     "ndsplineeval_gradient", "ndsplineeval_deriv", "splinetable_permute"] := by rfl

/-- **NULL `table->data`** (a handle that owns nothing).  Defined: the wrappers that test it (failure value, no effect:
    `cstep (.member ..)` on a NULL handle), `splinetable_free` (`delete nullptr`), `splinetable_init`,
    `readsplinefitstable`, `readsplinefitstable_mem` (they create the object).  **Undefined** — the wrapper forms
    `*static_cast<…*>(table->data)` without a test: the list below (on top of it, with an object *without data* behind
    the handle the C++ operations behind the per-dimension getters and the evaluation functions are themselves
    undefined; that is a matter of the C++ class, not of the wrapper.  The wrappers of this list whose C++ operation *is*
    defined on an object without data — `splinetable_ndim` (0), `splinetable_total_ncoeffs` (the empty product 1),
    `tablesearchcenters` (no dimension to test: success), the writers, `splinetable_permute` with the empty
    permutation — are inside `cDefined` on such an object like on any live one, and the differential run calls them
    there: after `splinetable_init`, after a failed read / fit, after a convolve that emptied the table). -/
theorem C18_undefined_without_object :
    (wrappers.filter (fun w => w.derefsData && !w.nullChecked.contains "table->data" &&
        !["splinetable_free", "readsplinefitstable_mem"].contains w.name)).map (·.name) =
    ["writesplinefitstable", "splinetable_ndim", "splinetable_order", "splinetable_nknots", "splinetable_knots", "splinetable_knot",
     "splinetable_lower_extent", "splinetable_upper_extent", "splinetable_period", "splinetable_ncoeffs",
     "splinetable_total_ncoeffs", "splinetable_stride", "splinetable_coefficients", "tablesearchcenters", "ndsplineeval",
     "ndsplineeval_gradient", "ndsplineeval_deriv", "writesplinefitstable_mem", "splinetable_permute"] := by decide +kernel

/-- **bad_alloc.**  Every wrapper that makes a call which can throw — so every wrapper that can request heap storage at
    all, its own `new`, helper containers and temporaries included (`Wrapper.mayThrow`) — answers the failure of its
    first such request with the failure value (void wrappers: return normally), and the exception does not leave.
    (The effect on handles and ledger is part of `C18_refines`: the `oom` flag of the calls.) -/
theorem C18_bad_alloc_contained :
    ∀ w ∈ wrappers, w.mayThrow = true → oomRet w = expected w.ret .throws ∧ oomRet w ≠ .escapes := by
  intro w hw hm
  exact oomRet_sound (List.all_eq_true.mp C18_table_checked w hw) hm

example : w_splinetable_permute ∈ wrappers ∧ w_splinetable_permute.mayThrow = true ∧ w_ndsplineeval_gradient.mayThrow = true :=
  ⟨by simp [wrappers], by decide, by decide⟩

/-- The other wrappers make no call that can throw; the model classifies the operations behind them as allocation-free
    (`canThrow = false`), and the harness counts the `operator new` requests of every call of these to be 0. -/
theorem C18_allocation_free_wrappers :
    (wrappers.filter (fun w => !w.mayThrow)).map (·.name) =
    ["splinetable_free", "splinetable_get_key", "splinetable_ndim", "splinetable_order", "splinetable_nknots", "splinetable_knots",
     "splinetable_knot", "splinetable_lower_extent", "splinetable_upper_extent", "splinetable_period", "splinetable_ncoeffs",
     "splinetable_total_ncoeffs", "splinetable_stride", "splinetable_coefficients", "tablesearchcenters", "ndsplineeval",
     "ndsplineeval_deriv", "ndsparse_destroy"] := by rfl

/-- `readsplinefitstable_mem` on a handle that owns nothing when `new splinetable<>()` throws: nothing is created, the
    handle stays NULL (the other failure, `read_fits_mem` throwing, leaves an empty object behind the handle) -/
example : (cstep facts wrappers demoSem (CSt.init 1 0) (.readMem 0 0 true)).1.abs.objs = [none] ∧
    (cstep facts wrappers demoSem (CSt.init 1 0) (.readMem 0 0 false)).1.abs.objs = [some 0] ∧
    (cstep facts wrappers demoSem (CSt.init 1 0) (.readMem 0 0 true)).2.ret = .failure ∧
    (cstep facts wrappers demoSem (CSt.init 1 0) (.readMem 0 0 false)).2.ret = .failure := by decide +kernel

end PsV
