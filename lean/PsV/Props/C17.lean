import PsV.Proofs.Glam
import PsV.Proofs.GlamCont
import PsV.Proofs.GlamIdx
import PsV.Proofs.GlamGrid
import PsV.Proofs.GlamRound
import PsV.Props.C01
/-!
# C17 — grid evaluation is the tensor-product B-spline sum, computed by mode products

Property theorems and the two witness tables of the necessity results.  The carrier is any ordered field whose `Arith` bundle is lawful; `Rat` with the instance the
compiled driver executes is one.

`grideval` is a chain of mode products; its value at a grid point is the tensor-product sum with the right-continuous basis
in every dimension, which is the pointwise convention exactly where no coordinate from `knots[naxes]` on is a knot of
multiplicity above the order; the `int` index arithmetic is exact below 2³¹ columns; under rounding the result stays
within an envelope of the majorant `Σ|coef|·Π basis` (`Proofs/GlamRound.lean`).
-/
namespace PsV
set_option linter.unusedSectionVars false
section
variable {α : Type} [Field α] [LinearOrder α] [IsStrictOrderedRing α] [A : Arith α] [L : LawfulArith α]

/-- For a valid index tuple the un-flattening loop (run with the result's ranges, where entry `dim`
has been replaced) recovers every index other than `dim`; index `dim` becomes the result row. -/
theorem unflatten_flatten (ranges idx : List Nat) (dim g n' : Nat) (hv : IdxIn idx ranges)
    (hd : dim < ranges.length) :
    unflattenIdx (ranges.set dim n') dim g (flattenCol ranges idx dim) = idx.set dim g :=
  unflatten_flatten' ranges idx dim g n' hv hd

/-- The flattened column number is injective on valid index tuples up to the entry `dim`. -/
theorem flattenCol_injective (ranges idx idx' : List Nat) (dim : Nat) (hv : IdxIn idx ranges)
    (hv' : IdxIn idx' ranges) (hd : dim < ranges.length)
    (h : flattenCol ranges idx dim = flattenCol ranges idx' dim) : idx.set dim 0 = idx'.set dim 0 := by
  rw [← unflatten_flatten ranges idx dim 0 0 hv hd, ← unflatten_flatten ranges idx' dim 0 0 hv' hd, h]

/-- Non-vacuity: ranges `[2,3,2]`, index `[1,2,0]`, `dim = 1`. -/
example : IdxIn [1,2,0] [2,3,2] ∧ 1 < [2,3,2].length ∧
    unflattenIdx ([2,3,2].set 1 5) 1 4 (flattenCol [2,3,2] [1,2,0] 1) = [1,4,0] := by
  refine ⟨⟨rfl, ?_⟩, by decide, by decide⟩
  decide

/-- An index tuple nobody lists has value zero. -/
theorem get_of_not_listed (s : NdSparse α) (idx : List Nat) (h : ∀ e ∈ s.entries, e.1 ≠ idx) :
    s.get idx = 0 := by
  rw [get_eq_entSum]; exact entSum_eq_zero _ _ h

/-- `slicemultiply(a, b, dim)` succeeds when `b` has as many rows as `a` has indices along `dim`;
the result has range `b.ncol` along `dim`, lists valid indices only, and its value at a valid index
is `Σ_j b[j, idx_dim] · a(idx with entry dim := j)`. -/
theorem slice_is_mode_product (a : NdSparse α) (b : Mat α) (dim : Nat) (ha : a.WF)
    (hd : dim < a.ranges.length) (hb : b.nrow = a.ranges.getD dim 0) :
    ∃ a', sliceMultiply a b dim = some a' ∧ a'.ranges = a.ranges.set dim b.ncol ∧ a'.WF ∧
      ∀ idx, IdxIn idx a'.ranges →
        a'.get idx = ∑ j ∈ Finset.range b.nrow, b.val j (idx.getD dim 0) * a.get (idx.set dim j) :=
  sliceMultiply_spec a b dim ha hd hb

/-- The dimension check of `slicemultiply` (`return -1`). -/
theorem slice_dim_mismatch (a : NdSparse α) (b : Mat α) (dim : Nat)
    (hb : b.nrow ≠ a.ranges.getD dim 0) : sliceMultiply a b dim = none :=
  sliceMultiply_eq_none a b dim hb

/-- The basis matrix entries of `bsplinebasis` (guarded recursion of splineutil.c) are the
Cox–de Boor functions with the right-continuous order-0 indicator and `a/0 = 0`. -/
theorem bsplineG_is_coxDeBoor (t : Int → α) (x : α) (n : Nat) (i : Int) :
    bsplineG t x n i = Bind (indR t x) t x n i :=
  bsplineG_eq_Bind t x n i

/-- For a well-formed dimension list (`GridTableWF`: non-empty, `naxes = nknots - order - 1`,
row-major strides) and one coordinate vector per dimension, `grideval` succeeds, the result has one
index per coordinate along every dimension, lists valid indices only, and its value at the grid
index `g` is the sum over all stored coefficients of coefficient × Π_d B_d(x_d) at the point
`x_d = coords_d[g_d]` (right-continuous basis in every dimension). -/
theorem grideval_eq_spec (dims : List (Dim α)) (coef : Int → α) (coords : List (List α))
    (hwf : GridTableWF dims) (hlen : coords.length = dims.length) :
    ∃ nd, gridEval dims coef coords = some nd ∧ nd.ranges = coords.map List.length ∧ nd.WF ∧
      ∀ g xs, gridPoint coords g = some xs → nd.get g = gridSpec dims coef xs := by
  obtain ⟨nd, h1, h2, h3, h4⟩ := gridEval_flat dims coef coords hwf hlen
  refine ⟨nd, h1, h2, h3, fun g xs hg => ?_⟩
  rw [(h4 g xs hg).1, gridSpec_flat dims coef xs hwf.ne hwf.strides (by rw [gridPoint_length coords g xs hg, hlen])]

/-- Wrong number of coordinate vectors: the exception of `grideval`. -/
theorem grideval_wrong_arity (dims : List (Dim α)) (coef : Int → α) (coords : List (List α))
    (h : coords.length ≠ dims.length) : gridEval dims coef coords = none := by
  unfold gridEval; rw [if_pos h]

/-- The grid sum is the pointwise specification `specEval` (value mode in every dimension) whenever
every coordinate is below `knots[naxes]` of its dimension or is not a knot value at all
(`RightContAt`).  The exceptional set — `x ≥ knots[naxes]` *and* `x` equal to some knot — is where
the pointwise convention (C01) switches to the left-continuous piece while `grideval` keeps the
right-continuous one; there the two may differ (at `x = knots[naxes]` itself, typically the upper end
of the fully supported range, `grideval` gives the value of the piece to the right, which is zero
when no basis function extends beyond). -/
theorem grideval_eq_pointwise_partial (dims : List (Dim α)) (coef : Int → α) (xs : List α)
    (h : List.Forall₂ RightContAt dims xs) :
    gridSpec dims coef xs
      = specEval ⟨dims, coef⟩ xs (List.replicate dims.length BasisMode.value) := by
  unfold gridSpec specEval
  rw [gridRows_eq_specRows dims xs h]

/-- `grideval_eq_spec` and `grideval_eq_pointwise_partial` combined: the value `grideval` stores at a grid index equals the pointwise specification
at that grid point, outside the exceptional set. -/
theorem grideval_get_eq_pointwise_partial (dims : List (Dim α)) (coef : Int → α)
    (coords : List (List α)) (hwf : GridTableWF dims) (hlen : coords.length = dims.length) :
    ∃ nd, gridEval dims coef coords = some nd ∧
      ∀ g xs, gridPoint coords g = some xs → List.Forall₂ RightContAt dims xs →
        nd.get g = specEval ⟨dims, coef⟩ xs (List.replicate dims.length BasisMode.value) := by
  obtain ⟨nd, h1, _, _, h4⟩ := grideval_eq_spec dims coef coords hwf hlen
  exact ⟨nd, h1, fun g xs hg hx => by rw [h4 g xs hg, grideval_eq_pointwise_partial dims coef xs hx]⟩

/-! `RightContAt` excludes, from `knots[naxes]` upwards, *every* coordinate that equals a knot.  The right-continuous basis
of `grideval` and the left-continuous one of the pointwise convention differ only where a basis function jumps, i.e. at
a knot whose multiplicity exceeds the order: `AgreeAt d x` says `x < knots[naxes]`, or `x` occurs at most `order` times
among the knots.  For non-decreasing knots it is sufficient (`grideval_eq_pointwise`) and — up to the position of the
knot — necessary (`basis_jump_at_full_knot`, `grideval_ne_pointwise_1d`, the witnesses below). -/

/-- **Continuity at a knot of multiplicity ≤ order**: on a non-decreasing knot window the right- and
left-continuous Cox–de Boor functions `B_{i,n}` agree at `x` unless `x` fills `n+1` of its `n+2` knots. -/
theorem coxDeBoor_indR_eq_indL (t : Int → α) (x : α) (n : Nat) (i : Int) (hm : MonoOn t i (i + n + 1))
    (hA : ¬ (t i = x ∧ t (i + n) = x)) (hB : ¬ (t (i + 1) = x ∧ t (i + n + 1) = x)) :
    Bind (indR t x) t x n i = Bind (indL t x) t x n i :=
  Bind_indR_eq_indL t x n i hm hA hB

/-- **Full statement** (`RightContAt` implies `AgreeAt`; unlike `grideval_eq_pointwise_partial` this one asks for
non-decreasing knots):
for tables with non-decreasing knots the grid sum is the pointwise specification `specEval` at every
point whose coordinates satisfy `AgreeAt` — below `knots[naxes]`, or not a knot of multiplicity above
the order.  In particular every point of a table with simple knots and orders ≥ 1, and every
coordinate equal to a simple knot ≥ `knots[naxes]`, is covered. -/
theorem grideval_eq_pointwise (dims : List (Dim α)) (coef : Int → α) (xs : List α)
    (hk : ∀ d ∈ dims, d.KnotsMono ∧ d.naxes = d.nknots - d.order - 1)
    (h : List.Forall₂ AgreeAt dims xs) :
    gridSpec dims coef xs
      = specEval ⟨dims, coef⟩ xs (List.replicate dims.length BasisMode.value) := by
  unfold gridSpec specEval
  rw [gridRows_eq_specRows_of_agree dims xs hk h]

/-- `RightContAt` implies `AgreeAt` (so the partial theorem is the special case) -/
theorem rightContAt_agreeAt (d : Dim α) (x : α) (h : RightContAt d x) : AgreeAt d x :=
  h.imp id fun h a _ _ hh => h a hh.1.symm

/-- `grideval_eq_spec` and `grideval_eq_pointwise` combined: the value `grideval` stores at a grid index is the pointwise specification at
that grid point, for every grid point satisfying the side condition. -/
theorem grideval_get_eq_pointwise (dims : List (Dim α)) (coef : Int → α)
    (coords : List (List α)) (hwf : GridTableWF dims) (hmono : ∀ d ∈ dims, d.KnotsMono)
    (hlen : coords.length = dims.length) :
    ∃ nd, gridEval dims coef coords = some nd ∧ nd.ranges = coords.map List.length ∧
      ∀ g xs, gridPoint coords g = some xs → List.Forall₂ AgreeAt dims xs →
        nd.get g = specEval ⟨dims, coef⟩ xs (List.replicate dims.length BasisMode.value) := by
  obtain ⟨nd, h1, h2, _, h4⟩ := grideval_eq_spec dims coef coords hwf hlen
  exact ⟨nd, h1, h2, fun g xs hg hx => by
    rw [h4 g xs hg, grideval_eq_pointwise dims coef xs (fun d hd => ⟨hmono d hd, hwf.naxes_eq d hd⟩) hx]⟩

/-- **The property as stated, modulo C01's known finding.**  For every grid point below the last knot
in every dimension (in particular: strictly inside the knot range) that is not in the configuration of
C01's known finding `degenerate-upper-end` (`NonDegenerate`: not both `x = knots[naxes]` and
`knots[naxes-1] = knots[naxes]`), the stored grid value is the pointwise specification.  So below the
last knot the only exceptional inputs of C17 are the exceptional inputs of C01. -/
theorem grideval_get_eq_pointwise_inside (dims : List (Dim α)) (coef : Int → α)
    (coords : List (List α)) (hwf : GridTableWF dims) (hmono : ∀ d ∈ dims, d.KnotsMono)
    (hlen : coords.length = dims.length) :
    ∃ nd, gridEval dims coef coords = some nd ∧ nd.ranges = coords.map List.length ∧
      ∀ g xs, gridPoint coords g = some xs →
        List.Forall₂ (fun d x => x < d.knots ((d.nknots : Int) - 1) ∧ NonDegenerate d x) dims xs →
        nd.get g = specEval ⟨dims, coef⟩ xs (List.replicate dims.length BasisMode.value) := by
  obtain ⟨nd, h1, h2, h3⟩ := grideval_get_eq_pointwise dims coef coords hwf hmono hlen
  exact ⟨nd, h1, h2, fun g xs hg hx => h3 g xs hg
    (forall₂_agreeAt_of_inside dims xs (fun d hd => ⟨hmono d hd, hwf.naxes_eq d hd⟩) hx)⟩

/-- **Necessity, basis level.**  At a knot `x ≥ knots[naxes]` of multiplicity `order+1`
(`knots[a] = … = knots[a+order] = x`) followed by a larger knot, basis function `a` is `1` in the matrix
`grideval` builds and `0` under the pointwise convention. -/
theorem basis_jump_at_full_knot (d : Dim α) (x : α) (hm : d.KnotsMono) (a : Nat)
    (ha : a + d.order + 1 < d.nknots) (h1 : d.knots a = x) (h2 : d.knots ((a : Int) + d.order) = x)
    (h3 : x < d.knots ((a : Int) + d.order + 1)) (hge : d.knots d.naxes ≤ x) :
    Bind (indR d.knots x) d.knots x d.order a = 1 ∧ Bsel d x 0 a = 0 := by
  obtain ⟨r, l⟩ := Bind_full_left d.knots x d.order a (hm.window (by omega) (by omega)) h1 h2 h3
  refine ⟨r, ?_⟩
  rw [Bsel, selInd_of_not_lt (not_lt.mpr hge)]
  exact l

/-- **Necessity, table level (one dimension).**  Under the same hypotheses the 1-d table with this
dimension (stride 1) and the unit coefficient vector `e_a` has grid value `1` and pointwise
specification `0` at `x`: without the multiplicity condition the statement is false. -/
theorem grideval_ne_pointwise_1d (d : Dim α) (x : α) (hm : d.KnotsMono)
    (hn : d.naxes = d.nknots - d.order - 1) (hs : d.stride = 1) (a : Nat)
    (ha : a + d.order + 1 < d.nknots) (h1 : d.knots a = x) (h2 : d.knots ((a : Int) + d.order) = x)
    (h3 : x < d.knots ((a : Int) + d.order + 1)) (hge : d.knots d.naxes ≤ x) :
    gridSpec [d] (fun p : Int => if p = (a : Int) * d.stride then (A.one : α) else A.zero) [x] = 1 ∧
    specEval ⟨[d], fun p : Int => if p = (a : Int) * d.stride then (A.one : α) else A.zero⟩ [x]
      [BasisMode.value] = 0 := by
  obtain ⟨r, l⟩ := basis_jump_at_full_knot d x hm a ha h1 h2 h3 hge
  have han : a < d.naxes := by omega
  constructor
  · unfold gridSpec
    simp only [gridRows]
    rw [specSum_1d_unit _ _ a (by simpa using han) (by omega)]
    simp [List.getD_eq_getElem?_getD, han, r]
  · unfold specEval
    simp only [specRows]
    rw [specSum_1d_unit _ _ a (by simpa using han) (by omega)]
    simp [List.getD_eq_getElem?_getD, han, derivOrder, l]

/-! `PsV/Model/GlamIdx.lean` restates the index expressions of `slicemultiply` in the C types they are written
in (`int cols, j, stride`, `unsigned int` ranges and indices, `long` triplet indices): products are taken
modulo 2³² and converted to `int`, `j/stride` and `j % stride` are signed, a zero divisor is undefined
behaviour (`CRes.ub`).  The theorems below say that with fewer than 2³¹ columns in the flattened section
none of this can be observed: the C-typed routines *are* the natural-number definitions the theorems above are about
(the ones the driver executes).  The bound is decidable (`sliceIdxSafe`, `gridIdxSafe`) and the check
evaluates it on every generated case. -/

/-- `cols` (an `int` product of `unsigned int` ranges; `slicemultiply` uses it only as the column count of the section it
allocates, so `sliceMultiplyC` does not read it) is the exact number of columns. -/
theorem slicemultiply_cols_exact (ranges : List Nat) (dim : Nat)
    (hpos : ∀ i, i < ranges.length → i ≠ dim → 0 < ranges.getD i 0)
    (hb : colsOf ranges dim < 2147483648) : colsC ranges dim = colsOf ranges dim :=
  colsC_eq ranges dim hpos hb

/-- The flattened column the C code accumulates in a `long` (`stride*index` in `unsigned int`, `stride`
in `int`) is the exact mixed-radix number `flattenCol`, and it is below the number of columns. -/
theorem slicemultiply_flatten_exact (ranges idx : List Nat) (dim : Nat) (hv : IdxIn idx ranges)
    (hd : dim < ranges.length) (hb : colsOf ranges dim < 2147483648) :
    flattenColC ranges idx dim = ((flattenCol ranges idx dim : Nat) : Int) ∧
      flattenCol ranges idx dim < colsOf ranges dim :=
  flattenColC_eq ranges idx dim hv hd hb

/-- The un-flattening loop in `int` arithmetic (`stride /= range`, `j/stride`, `j % stride`) divides by
no zero and produces the exact index tuple `unflattenIdx`. -/
theorem slicemultiply_unflatten_exact (ranges : List Nat) (dim row col : Nat) (hd : dim < ranges.length)
    (hpos : ∀ k, k < ranges.length → k ≠ dim → 0 < ranges.getD k 0)
    (hb : colsOf ranges dim < 2147483648) (hrow : row < 4294967296) (hcol : col < colsOf ranges dim) :
    unflattenIdxC ranges dim row col = .ok (unflattenIdx ranges dim row col) :=
  unflattenIdxC_eq ranges dim row col
    (fun k hk => hpos k ((mem_loopDims hd).mp hk).1 ((mem_loopDims hd).mp hk).2)
    (by rw [← colsOf_eq_mrProd ranges dim hd]; exact hb) hrow (by omega)

/-- **No overflow in `slicemultiply`.**  For a tensor that lists valid indices only, if the other index
ranges multiply to less than 2³¹ and `b` has fewer than 2³² columns (`sliceIdxSafe`), `slicemultiply` with
its index arithmetic in C types meets no undefined behaviour and returns exactly `sliceMultiply a b dim`
(`.fail` = the dimension check, as before). -/
theorem slicemultiply_int_arith_exact (a : NdSparse α) (b : Mat α) (dim : Nat) (ha : a.WF)
    (hd : dim < a.ranges.length) (hsafe : sliceIdxSafe a.ranges dim b.ncol = true) :
    sliceMultiplyC a b dim = CRes.ofOption (sliceMultiply a b dim) :=
  sliceMultiplyC_eq a b dim ha hd hsafe

/-- **No overflow in `grideval`.**  If at every step of the loop over the dimensions the section has
fewer than 2³¹ columns (`gridIdxSafe` on the table's `naxes` and the grid lengths — the predicate the
check evaluates on each case), `grideval` with C-typed index arithmetic in every `slicemultiply` is
`gridEval`. -/
theorem grideval_int_arith_exact (dims : List (Dim α)) (coef : Int → α) (coords : List (List α))
    (hwf : GridTableWF dims)
    (hsafe : gridIdxSafe (dims.map (·.naxes)) 0 (coords.map List.length) = true) :
    gridEvalC dims coef coords = CRes.ofOption (gridEval dims coef coords) :=
  gridEvalC_eq dims coef coords hwf.strides hwf.ne hsafe

/-- **The bound in terms of the table and grid sizes.**  If `Π_d max(1, naxes_d, npts_d) < 2³¹`
(`sizeBound`: per dimension the larger of the number of basis functions and the number of grid
abscissae), no `slicemultiply` call of `grideval` can overflow: the C-typed routine is `gridEval`. -/
theorem grideval_int_arith_exact_of_sizes (dims : List (Dim α)) (coef : Int → α) (coords : List (List α))
    (hwf : GridTableWF dims) (hlen : coords.length = dims.length)
    (h : sizeBound (dims.map (·.naxes)) (coords.map List.length) < 2147483648) :
    gridEvalC dims coef coords = CRes.ofOption (gridEval dims coef coords) :=
  grideval_int_arith_exact dims coef coords hwf
    (gridIdxSafe_of_sizeBound _ _ (by simp [hlen]) h)

/-- **Entry counter.**  A tensor that lists valid indices only (every intermediate tensor of `grideval`
does: `slice_is_mode_product`, `grideval_eq_spec`) lists at most `Π ranges` *distinct* index tuples — the
number of rows of the n-tuple once CHOLMOD has merged duplicates.  So the `int` entry counter of
`slicemultiply` (`for (i = 0; i < a->rows; i++)`) stays below 2³¹ whenever the dense size does. -/
theorem listed_entries_le_dense (s : NdSparse α) (hs : s.WF) :
    (s.entries.map (·.1)).dedup.length ≤ PsV.Permute.prodL s.ranges :=
  listed_count_le s hs

/-! CHOLMOD's `triplet_to_sparse` / `ssmult` / `sparse_to_triplet` are modelled by their meaning (`slice_is_mode_product`).
`grideval_eq_spec` states the result of the chain of mode products as the nested sum `specSum`; here it is the flat
n-dimensional tensor-product sum over every stored coefficient (the form in which `gridEval_flat` obtains it from
`modeLoop_get`; `grideval_eq_spec` follows by `gridSpec_flat`), and the *pattern* of the result (which
grid indices are listed at all — what the tie compares exactly with the code) is characterised too. -/

/-- **The chain of `slicemultiply` calls is the tensor-product evaluation sum**, any number of
dimensions: the value stored at grid index `g` is `Σ_q coef[q] · Π_d B_d(digit_d(q), x_d)` over all
`Π naxes` stored coefficients (`digits` = the row-major index tuple of position `q`). -/
theorem grideval_get_eq_flat_sum (dims : List (Dim α)) (coef : Int → α) (coords : List (List α))
    (hwf : GridTableWF dims) (hlen : coords.length = dims.length) :
    ∃ nd, gridEval dims coef coords = some nd ∧
      ∀ g xs, gridPoint coords g = some xs →
        nd.get g = ∑ q ∈ Finset.range (PsV.Permute.prodL (dims.map (·.naxes))),
          coef (q : Int) * gridBasisProd dims xs (PsV.Permute.digits (dims.map (·.naxes)) q) := by
  obtain ⟨nd, h1, _, _, h4⟩ := gridEval_flat dims coef coords hwf hlen
  exact ⟨nd, h1, fun g xs hg => (h4 g xs hg).1⟩

/-- **Pattern of `slicemultiply`** (the symbolic product of `ssmult`): the result lists `idx` iff some
listed entry `e` of `a` agrees with `idx` off `dim` and `b[e_dim, idx_dim]` is non-zero (stored). -/
theorem slice_lists_iff (a : NdSparse α) (b : Mat α) (dim : Nat) (ha : a.WF) (hd : dim < a.ranges.length)
    (a' : NdSparse α) (h : sliceMultiply a b dim = some a') (idx : List Nat) :
    a'.Lists idx ↔ ∃ e, a.Lists e ∧ ∃ g, g < b.ncol ∧ b.val (e.getD dim 0) g ≠ 0 ∧ idx = e.set dim g :=
  slice_lists_iff' a b dim ha hd a' h idx

/-- **Which grid points `grideval` lists**: exactly those where the tensor-product sum has a non-zero
term — some stored coefficient `coef[pos c] ≠ 0` whose basis product `Π_d B_d(c_d, x_d)` is non-zero.
(With `get_of_not_listed`: every other grid point has value zero, and is not listed.) -/
theorem grideval_lists_iff (dims : List (Dim α)) (coef : Int → α) (coords : List (List α))
    (hwf : GridTableWF dims) (hlen : coords.length = dims.length) :
    ∃ nd, gridEval dims coef coords = some nd ∧
      ∀ g xs, gridPoint coords g = some xs →
        (nd.Lists g ↔ ∃ c, IdxIn c (dims.map (·.naxes)) ∧
          coef (posL dims c : Nat) * gridBasisProd dims xs c ≠ 0) := by
  obtain ⟨nd, h1, _, _, h4⟩ := gridEval_flat dims coef coords hwf hlen
  exact ⟨nd, h1, fun g xs hg => (h4 g xs hg).2⟩

end

section
variable {α : Type} [Field α] [LinearOrder α] [IsStrictOrderedRing α]
attribute [local instance] Arith.ofField

/-- **C17 at model level.**  For a well-formed table (C01's `Table.WF`, row-major strides) and any grid,
the value `grideval` stores at a grid index equals what the pointwise routine `ndsplineeval` (C01's model
of the evaluation code: margin loops, de Boor recurrence, block walk) returns at that grid point, for
every grid point the lookup accepts that lies below the last knot in every dimension and is not in the
configuration of C01's known finding (`NonDegenerate`).  Composition of `grideval_get_eq_pointwise_inside`
with `C01_eval_eq_spec_partial`; exact arithmetic on both sides (both sides under rounding: `C17_grideval_near_pointwise`). -/
theorem grideval_get_eq_ndsplineeval (T : Table α) (coords : List (List α)) (hT : T.WF)
    (hs : StridesRowMajor T.dims) (hlen : coords.length = T.dims.length) :
    ∃ nd, gridEval T.dims T.coef coords = some nd ∧ nd.ranges = coords.map List.length ∧
      ∀ g xs cs, gridPoint coords g = some xs →
        @searchCenters α (cmpLO α) (T.dims.map Dim.axis) xs = .ok cs →
        List.Forall₂ (fun d x => x < d.knots ((d.nknots : Int) - 1) ∧ NonDegenerate d x) T.dims xs →
        nd.get g = ndsplineeval T xs cs 0 := by
  have hg := hT.gridTableWF hs
  obtain ⟨nd, h1, h2, h3⟩ := grideval_get_eq_pointwise_inside T.dims T.coef coords hg
    (fun d hd => (hT.dims d hd).mono) hlen
  refine ⟨nd, h1, h2, fun g xs cs hgp hsc hx => ?_⟩
  have hxl : T.dims.length = xs.length := by rw [gridPoint_length coords g xs hgp, hlen]
  rw [h3 g xs hgp hx, C01_eval_eq_spec_partial T xs cs hT hxl (allNonDegenerate_of_forall₂ hx) hsc]

end

/-- Non-vacuity: a 2×3×2 tensor over `Rat` with two entries, a 3×4 matrix, `dim = 1`. -/
example :
    let a : NdSparse Rat := ⟨[2,3,2], [([1,2,0], 5), ([0,1,1], -2)]⟩
    let b : Mat Rat := ⟨3, 4, fun i j => (i : Rat) - j⟩
    a.WF ∧ 1 < a.ranges.length ∧ b.nrow = a.ranges.getD 1 0 := by
  exact ⟨exSparse_wf, by decide, rfl⟩

/-- Non-vacuity of `grideval_eq_spec` and `grideval_get_eq_pointwise_partial`: a 2-d table over `Rat` (order 2 with 7 knots → 4 functions, stride 2;
order 1 with 4 knots → 2 functions, stride 1; knots `0,1,2,…`), a 3×1 grid, a grid point, and a
point where one coordinate is below `knots[naxes]` and the other is not a knot. -/
example :
    let dims : List (Dim Rat) := [⟨2, 7, 4, 2, fun i => (i : Rat)⟩, ⟨1, 4, 2, 1, fun i => (i : Rat)⟩]
    let coords : List (List Rat) := [[1/2, 5/2, 3], [5/2]]
    GridTableWF dims ∧ coords.length = dims.length ∧
      gridPoint coords [1, 0] = some [5/2, 5/2] ∧ List.Forall₂ RightContAt dims [5/2, 5/2] := by
  refine ⟨exGrid2_gridWF, rfl, rfl, ?_⟩
  · refine List.Forall₂.cons (Or.inl ?_) (List.Forall₂.cons (Or.inr ?_) List.Forall₂.nil)
    · norm_num
    · exact half5_ne_intCast

/-- order 1, knots 0,1,2,3,3 (naxes = 3): the last knot is double, `knots[naxes-1] < knots[naxes]` -/
def lastKnotTable : Table Rat :=
  ⟨[⟨1, 5, 3, 1, fun i => if i ≤ 0 then 0 else if i = 1 then 1 else if i = 2 then 2 else 3⟩],
   fun i => if i = 2 then 7 else 1⟩

theorem degTable_gridWF : GridTableWF degTable.dims := .single _ rfl rfl

theorem degTable_knotsMono : ∀ d ∈ degTable.dims, d.KnotsMono := by
  intro d hd
  simp only [degTable, List.mem_singleton] at hd
  subst hd
  exact Dim.knotsMono_of_steps _ (by decide +kernel)

/-- **Witness that the side condition is necessary — the input class of C01's known finding.**
`degTable` (order 1, knots 0,1,2,2,3, coefficients 1,5,7) on the one-point grid `x = 2 = knots[naxes]`,
a double knot with `knots[naxes-1] = knots[naxes]`: `grideval` stores `7` (the piece to the right of the
knot), the pointwise specification is `5` (the piece to its left; `C01_degenerate_upper_end`), and the
pointwise *code* model yields `0` (NaN in IEEE arithmetic) — three different answers.  The point
violates `AgreeAt` and C01's `NonDegenerate`, and lies strictly inside the knot range. -/
theorem grideval_ne_pointwise_at_degenerate_upper_end :
    (∃ nd, gridEval degTable.dims degTable.coef [[2]] = some nd ∧ nd.get [0] = 7) ∧
    specEval degTable [2] [BasisMode.value] = 5 ∧
    ndsplineeval degTable [2] [2] 0 = 0 ∧
    (∀ d ∈ degTable.dims, ¬ AgreeAt d 2 ∧ ¬ NonDegenerate d 2 ∧
      d.knots 0 < 2 ∧ (2 : Rat) < d.knots ((d.nknots : Int) - 1)) := by
  refine ⟨?_, C01_degenerate_upper_end.2.2, C01_degenerate_upper_end.2.1, ?_⟩
  · obtain ⟨nd, h1, _, _, h4⟩ := grideval_eq_spec degTable.dims degTable.coef [[2]] degTable_gridWF rfl
    refine ⟨nd, h1, ?_⟩
    rw [h4 [0] [2] rfl]
    decide +kernel
  · intro d hd
    simp only [degTable, List.mem_singleton] at hd
    subst hd
    refine ⟨?_, ?_, by norm_num, by norm_num⟩
    · rintro (h | h)
      · norm_num at h
      · exact h 2 (by norm_num) (by norm_num) (by norm_num)
    · rintro (h | h)
      · norm_num at h
      · norm_num at h

/-- **Witness that "below the last knot" is needed in `grideval_get_eq_pointwise_inside`** (and that the
exceptional class is larger than C01's at the last knot): order 1, knots 0,1,2,3,3, `x = 3`.  C01's
`NonDegenerate` holds, but `x` is a double knot: `grideval` stores `0` (nothing extends to the right),
the pointwise specification is `7`. -/
theorem grideval_ne_pointwise_at_last_knot :
    (∃ nd, gridEval lastKnotTable.dims lastKnotTable.coef [[3]] = some nd ∧ nd.get [0] = 0) ∧
    specEval lastKnotTable [3] [BasisMode.value] = 7 ∧
    (∀ d ∈ lastKnotTable.dims, d.KnotsMono ∧ NonDegenerate d 3 ∧ ¬ AgreeAt d 3) := by
  have hwf : GridTableWF lastKnotTable.dims := .single _ rfl rfl
  refine ⟨?_, ?_, ?_⟩
  · obtain ⟨nd, h1, _, _, h4⟩ := grideval_eq_spec lastKnotTable.dims lastKnotTable.coef [[3]] hwf rfl
    refine ⟨nd, h1, ?_⟩
    rw [h4 [0] [3] rfl]
    decide +kernel
  · decide +kernel
  · intro d hd
    simp only [lastKnotTable, List.mem_singleton] at hd
    subst hd
    refine ⟨Dim.knotsMono_of_steps _ (by decide +kernel), Or.inl (by norm_num), ?_⟩
    · rintro (h | h)
      · norm_num at h
      · exact h 3 (by norm_num) (by norm_num) (by norm_num)

/-- Non-vacuity of `coxDeBoor_indR_eq_indL`: knots `0,1,2,…`, the quadratic `B_{0,2}` at its simple knot 2. -/
example : MonoOn (fun i : Int => (i : Rat)) 0 (0 + (2 : Nat) + 1) ∧
    ¬ (((0 : Int) : Rat) = 2 ∧ (((0 : Int) + (2 : Nat) : Int) : Rat) = 2) ∧
    ¬ ((((0 : Int) + 1 : Int) : Rat) = 2 ∧ (((0 : Int) + (2 : Nat) + 1 : Int) : Rat) = 2) := by
  exact ⟨monoOn_intCast _ _, by norm_num, by norm_num⟩

/-- Non-vacuity of `grideval_eq_pointwise`, `grideval_get_eq_pointwise` and
`grideval_get_eq_pointwise_inside`: the 2-d table of the example above with the grid point `(5, 5/2)`;
`5` is a (simple) knot above `knots[naxes] = 4` of the first dimension — a point the partial theorem
excludes (`RightContAt` fails) and the full one covers. -/
example :
    let dims : List (Dim Rat) := [⟨2, 7, 4, 2, fun i => (i : Rat)⟩, ⟨1, 4, 2, 1, fun i => (i : Rat)⟩]
    let coords : List (List Rat) := [[1/2, 5, 3], [5/2]]
    GridTableWF dims ∧ (∀ d ∈ dims, d.KnotsMono) ∧ coords.length = dims.length ∧
      gridPoint coords [1, 0] = some [5, 5/2] ∧ List.Forall₂ AgreeAt dims [5, 5/2] ∧
      List.Forall₂ (fun d x => x < d.knots ((d.nknots : Int) - 1) ∧ NonDegenerate d x) dims [5, 5/2] ∧
      ¬ RightContAt (⟨2, 7, 4, 2, fun i => (i : Rat)⟩ : Dim Rat) 5 := by
  refine ⟨exGrid2_gridWF, exGrid2_knotsMono, rfl, rfl, ?_, ?_, ?_⟩
  · refine List.Forall₂.cons (Or.inr ?_) (List.Forall₂.cons (Or.inr ?_) List.Forall₂.nil)
    · intro a _ _ ⟨h1, h2⟩
      have e1 : a = 5 := Int.cast_injective (α := Rat) h1
      have e2 : a + (2 : Nat) = 5 := Int.cast_injective (α := Rat) h2
      omega
    · exact fun a _ _ h => half5_ne_intCast a h.1.symm
  · refine List.Forall₂.cons ⟨by norm_num, Or.inl (by norm_num)⟩
      (List.Forall₂.cons ⟨by norm_num, Or.inl (by norm_num)⟩ List.Forall₂.nil)
  · rintro (h | h)
    · norm_num at h
    · exact h 5 (by norm_num)

/-- Non-vacuity of `basis_jump_at_full_knot` / `grideval_ne_pointwise_1d`: the dimension of `degTable`,
`a = 2`, `x = 2`. -/
example :
    let d : Dim Rat := ⟨1, 5, 3, 1, fun i => if i ≤ 0 then 0 else if i = 1 then 1 else if i = 2 then 2 else if i = 3 then 2 else 3⟩
    d.KnotsMono ∧ d.naxes = d.nknots - d.order - 1 ∧ d.stride = 1 ∧ 2 + d.order + 1 < d.nknots ∧
      d.knots (2 : Nat) = 2 ∧ d.knots (((2 : Nat) : Int) + d.order) = 2 ∧
      (2 : Rat) < d.knots (((2 : Nat) : Int) + d.order + 1) ∧ d.knots d.naxes ≤ 2 := by
  refine ⟨degTable_knotsMono _ (by simp [degTable]), rfl, rfl, by decide, by norm_num, by norm_num, by norm_num,
    by norm_num⟩

/-- **The bound is sharp.**  Index ranges `65536 × 32768 × 1`, `dim = 2`: the section has exactly 2³¹
columns and the `int` product `cols` is `-2147483648`; with `65536 × 65536 × 1` it is `0`. -/
theorem slicemultiply_cols_overflow_witness :
    colsOf [65536, 32768, 1] 2 = 2147483648 ∧ colsC [65536, 32768, 1] 2 = -2147483648 ∧
    colsOf [65536, 65536, 1] 2 = 4294967296 ∧ colsC [65536, 65536, 1] 2 = 0 := by
  decide

/-- Non-vacuity of the overflow theorems: a 3×4×2 tensor, `dim = 1`, an entry, its flattened column; and the grid
predicate on a 2-d table with `naxes = (4, 2)` and a `3 × 1` grid. -/
example :
    IdxIn [2,3,1] [3,4,2] ∧ colsOf [3,4,2] 1 = 6 ∧ flattenColC [3,4,2] [2,3,1] 1 = 5 ∧
    unflattenIdxC [3,7,2] 1 6 5 = .ok [2,6,1] ∧ sliceIdxSafe [3,4,2] 1 7 = true ∧
    gridIdxSafe [4,2] 0 [3,1] = true ∧ sizeBound [4,2] [3,1] = 8 := by
  refine ⟨⟨rfl, by decide⟩, by decide, by decide, by rfl, by decide, by decide, by decide⟩

/-- Non-vacuity of `grideval_get_eq_flat_sum`, `grideval_lists_iff` (`slice_lists_iff` shares
the hypotheses of `slice_is_mode_product`, see the first example): `degTable` on the one-point grid
`x = 2`; the grid index `[0]` is listed because coefficient `c = [2]` (value 7) has basis value 1 there. -/
example :
    GridTableWF degTable.dims ∧ ([[2]] : List (List Rat)).length = degTable.dims.length ∧
    gridPoint ([[2]] : List (List Rat)) [0] = some [2] ∧
    ∃ c, IdxIn c (degTable.dims.map (·.naxes)) ∧
      degTable.coef (posL degTable.dims c : Nat) * gridBasisProd degTable.dims [2] c ≠ 0 := by
  exact ⟨degTable_gridWF, rfl, rfl, [2], ⟨rfl, by decide⟩, by decide +kernel⟩

/-- Non-vacuity of `grideval_get_eq_ndsplineeval`: C01's example table (order 2, knots 0..6, stride 1),
the one-point grid `x = 7/2`, accepted by the lookup with centre 3, below the last knot, non-degenerate. -/
example : (⟨[⟨2, 7, 4, 1, fun i => (i : Rat)⟩], fun _ => 1⟩ : Table Rat).WF ∧
    StridesRowMajor [(⟨2, 7, 4, 1, fun i => (i : Rat)⟩ : Dim Rat)] ∧
    gridPoint ([[7/2]] : List (List Rat)) [0] = some [7/2] ∧
    @searchCenters Rat (cmpLO Rat) [Dim.axis (⟨2, 7, 4, 1, fun i => (i : Rat)⟩ : Dim Rat)] [(7/2 : Rat)] = .ok [3] ∧
    List.Forall₂ (fun (d : Dim Rat) x => x < d.knots ((d.nknots : Int) - 1) ∧ NonDegenerate d x)
      [(⟨2, 7, 4, 1, fun i => (i : Rat)⟩ : Dim Rat)] [(7/2 : Rat)] := by
  exact ⟨exTable1_wf, rfl, rfl, exTable1_search, exTable1_inside⟩

/-! The same model definitions run at `Arith.rounded fl st` (every `+ − × ÷` followed by a rounding `fl` of relative
error `ε`: `RelErr ε 1 a (fl a)`, the standard model without underflow/overflow; IEEE double is `ε = u/(1-u)`,
`u = 2^-53`, `C01_standard_model`) against the run at exact arithmetic.  Inputs (knots, abscissae, coefficients)
are exactly represented.  `TRel ε k E R M`: the exact, the rounded and the majorant tensor (exact arithmetic on
the magnitudes) list the same index tuples entry by entry, and every rounded entry is within `gfac ε k · m` of the
exact one, `m` the majorant entry. -/
section rounding
variable {F : Type} [Field F] [LinearOrder F] [IsStrictOrderedRing F] {ε : F} {fl st : F → F}
attribute [local instance] Arith.ofField

/-- **The recursive basis value `bspline(knots, x, i, n)` under rounding.**  On a non-decreasing knot window
`t_i ≤ … ≤ t_{i+n+1}` the rounded value carries at most `5n` roundings (per level and term: one subtraction
`x − t_i` / `t_{i+n+1} − x` of exactly represented inputs, one product, one knot difference, one quotient; one sum),
all terms are non-negative (no cancellation), so the relative error is `gfac ε (5n)`; the value vanishes outside
`[t_i, t_{i+n+1})`. -/
theorem C17_basis_rounding (hε : 0 ≤ ε) (hfl : ∀ a, RelErr ε 1 a (fl a)) (t : Int → F) (x : F) (n : Nat) (i : Int)
    (hm : MonoOn t i (i + n + 1)) :
    RelErr ε (5 * n) (bsplineG t x n i) (bsplineG (A := Arith.rounded fl st) t x n i) ∧
      0 ≤ bsplineG t x n i ∧
      |bsplineG (A := Arith.rounded fl st) t x n i - bsplineG t x n i| ≤ gfac ε (5 * n) * bsplineG t x n i ∧
      (bsplineG t x n i ≠ 0 → t i ≤ x ∧ x < t (i + n + 1)) := by
  obtain ⟨h1, h2, h3⟩ := bsplineG_relerr (st := st) hε hfl t x n i hm
  refine ⟨h1, h2, ?_, h3⟩
  have := h1.abs_sub hε
  rwa [abs_of_nonneg h2] at this

/-- **One slice multiplication under rounding** (`slicemultiply(a, b, dim)`, per output cell a dot product).
Basis matrix non-negative and known up to `kb` roundings, input entries within `gfac ε k` of the majorant:
the three runs succeed together, every *entry* of the result carries `k + kb + 1` roundings, and every *cell*
(the `N = nlisted` entries listed at the index are added up) satisfies
`|rounded − exact| ≤ gfac ε (k + kb + 1 + N) · majorant`, where exact cell and majorant cell are the dot products
`Σ_j b[j, idx_dim] · a(idx with entry dim := j)` of the exact resp. majorant input. -/
theorem C17_slicemultiply_rounding (hε : 0 ≤ ε) (hfl : ∀ a, RelErr ε 1 a (fl a)) {k kb : Nat}
    {aE aR aM : NdSparse F} (h : TRel ε k aE aR aM) (bE bR : Mat F) (dim : Nat)
    (hnr : bR.nrow = bE.nrow) (hnc : bR.ncol = bE.ncol)
    (hb : ∀ j g, j < bE.nrow → g < bE.ncol → RelErr ε kb (bE.val j g) (bR.val j g) ∧ 0 ≤ bE.val j g)
    (hwf : aE.WF) (hd : dim < aE.ranges.length) (hdim : bE.nrow = aE.ranges.getD dim 0) :
    ∃ cE cR cM, sliceMultiply aE bE dim = some cE ∧
      sliceMultiply (A := Arith.rounded fl st) aR bR dim = some cR ∧
      sliceMultiply aM bE dim = some cM ∧ TRel ε (k + kb + 1) cE cR cM ∧
      ∀ idx, |cR.get (A := Arith.rounded fl st) idx - cE.get idx|
            ≤ gfac ε (k + kb + 1 + cE.nlisted idx) * cM.get idx ∧
        (IdxIn idx cE.ranges →
          cE.get idx = ∑ j ∈ Finset.range bE.nrow, bE.val j (idx.getD dim 0) * aE.get (idx.set dim j) ∧
          cM.get idx = ∑ j ∈ Finset.range bE.nrow, bE.val j (idx.getD dim 0) * aM.get (idx.set dim j)) := by
  obtain ⟨cE, cR, cM, s1, s2, s3, s4⟩ := sliceMultiply_rel (st := st) hε hfl h bE bR dim hnr hnc hb hwf hd hdim
  refine ⟨cE, cR, cM, s1, s2, s3, s4, fun idx => ⟨(s4.get hε hfl idx).1, fun hidx => ?_⟩⟩
  have t := of_exists_eq_some (sliceMultiply_spec aE bE dim hwf hd hdim) s1
  have u := of_exists_eq_some (sliceMultiply_spec aM bE dim (h.wfM hwf) (by rw [h.rM]; exact hd)
    (by rw [h.rM]; exact hdim)) s3
  exact ⟨t.2.2 idx hidx, u.2.2 idx (by rw [s4.rM]; exact hidx)⟩

/-- **Forward error of grid evaluation** (model at rounded arithmetic vs the same model exact).  For a
well-formed dimension list with non-decreasing knots and any grid, the rounded run, the exact run and the exact
run on the magnitudes of the coefficients succeed together, and at **every** index tuple `g`
`|rounded(g) − exact(g)| ≤ gfac ε K · majorant(g)`, `K = Σ_d (5·order_d + 1) + N(g)` (`gridRoundCount dims`: the
roundings of the basis recursion and of the product with the basis value, per dimension; `N(g) = nlisted`: the
number of non-zero terms of the cell, each addition one rounding); at a grid point the exact value is the
tensor-product sum `Σ coef·Π_d B_d(x_d)` and the majorant is `Σ |coef|·Π_d B_d(x_d)`.

`_partial` because of two things, neither a hypothesis on the input: (1) the rounding model — `RelErr ε 1 a (fl a)`
for every operation, i.e. no underflow and no overflow; (2) the order of the additions: the model keeps the
products of a cell as separate list entries and adds them up when the cell is read (`NdSparse.get`), whereas
CHOLMOD's `ssmult` adds them up slice by slice (and in an order of its own).  Any order of recursive summation of
`N` terms puts at most `N` additions on a term, and summing slice by slice at most `Σ_d n_d ≤ N + ndim − 1`
(`n_d` the length of the dot product in dimension `d` on the way to the cell: every further summand of a dot
product accounts for at least one further term of the cell), so the envelope that the check applies to the real
code is this theorem's with `ndim` added to `K` (`C17_grideval_rounding_envelope_tie_partial`). -/
theorem C17_grideval_rounding_envelope_partial (hε : 0 ≤ ε) (hfl : ∀ a, RelErr ε 1 a (fl a))
    (dims : List (Dim F)) (coef : Int → F) (coords : List (List F)) (hwf : GridTableWF dims)
    (hmono : ∀ d ∈ dims, d.KnotsMono) (hlen : coords.length = dims.length) :
    ∃ rE rR rM, gridEval dims coef coords = some rE ∧
      gridEval (A := Arith.rounded fl st) dims coef coords = some rR ∧
      gridEval dims (fun i => |coef i|) coords = some rM ∧
      (∀ g, |rR.get (A := Arith.rounded fl st) g - rE.get g|
          ≤ gfac ε (gridRoundCount dims + rE.nlisted g) * rM.get g) ∧
      ∀ g xs, gridPoint coords g = some xs →
        rE.get g = gridSpec dims coef xs ∧ rM.get g = gridSpec dims (fun i => |coef i|) xs := by
  obtain ⟨rE, rR, rM, g1, g2, g3, g4⟩ := gridEval_rel (st := st) hε hfl dims coef coords hwf hmono hlen
  refine ⟨rE, rR, rM, g1, g2, g3, fun g => (g4.get hε hfl g).1, fun g xs hg => ?_⟩
  exact ⟨(of_exists_eq_some (grideval_eq_spec dims coef coords hwf hlen) g1).2.2 g xs hg,
    (of_exists_eq_some (grideval_eq_spec dims (fun i => |coef i|) coords hwf hlen) g3).2.2 g xs hg⟩

/-- the envelope the check applies to the real code: `K = Σ_d (5·order_d + 1) + ndim + N(g)` (a weakening of
`C17_grideval_rounding_envelope_partial` by `ndim`, which covers summation slice by slice, see there) -/
theorem C17_grideval_rounding_envelope_tie_partial (hε : 0 ≤ ε) (hfl : ∀ a, RelErr ε 1 a (fl a))
    (dims : List (Dim F)) (coef : Int → F) (coords : List (List F)) (hwf : GridTableWF dims)
    (hmono : ∀ d ∈ dims, d.KnotsMono) (hlen : coords.length = dims.length) :
    ∃ rE rR rM, gridEval dims coef coords = some rE ∧
      gridEval (A := Arith.rounded fl st) dims coef coords = some rR ∧
      gridEval dims (fun i => |coef i|) coords = some rM ∧
      ∀ g, |rR.get (A := Arith.rounded fl st) g - rE.get g|
          ≤ gfac ε (gridRoundCount dims + dims.length + rE.nlisted g) * rM.get g := by
  obtain ⟨rE, rR, rM, g1, g2, g3, g4⟩ := gridEval_rel (st := st) hε hfl dims coef coords hwf hmono hlen
  refine ⟨rE, rR, rM, g1, g2, g3, fun g => ?_⟩
  exact ((g4.get (st := st) hε hfl g).mono hε (by omega)).1

/-- **Grid evaluation and pointwise evaluation, both under rounding.**  For a well-formed table (C01's `Table.WF`,
row-major strides) and any grid: at every grid point the lookup accepts that lies below the last knot in every
dimension and is not in the configuration of C01's known finding, the rounded grid value and the rounded value of
the pointwise routine `ndsplineeval` differ by at most the sum of the two envelopes,
`(gfac ε K₁₇ + gfac ε K₀₁) · Σ|coef|·Π basis`, `K₁₇ = Σ_d (5·order_d + 1) + N(g)`,
`K₀₁ = 3 + ndim·(7n + 3) + 2·Π_d (order_d + 1)` (`n` = largest order).  Composition of
`C17_grideval_rounding_envelope_partial`, `grideval_get_eq_pointwise_inside` and `C01_rounding_envelope_all_partial`
(both sides at the same `fl`, `st`; the code evaluates pointwise in single precision, which is the instance
`fl` = round to double, `st` = round to float, `ε` the larger of the two). -/
theorem C17_grideval_near_pointwise (hε : 0 ≤ ε) (hfl : ∀ a, RelErr ε 1 a (fl a)) (hst : ∀ a, RelErr ε 1 a (st a))
    (T : Table F) (coords : List (List F)) (n : Nat) (hT : T.WF) (hs : StridesRowMajor T.dims)
    (hlen : coords.length = T.dims.length) (hn : ∀ d ∈ T.dims, d.order ≤ n) :
    ∃ rE rR, gridEval T.dims T.coef coords = some rE ∧
      gridEval (A := Arith.rounded fl st) T.dims T.coef coords = some rR ∧
      ∀ g xs cs, gridPoint coords g = some xs →
        @searchCenters F (cmpLO F) (T.dims.map Dim.axis) xs = .ok cs →
        List.Forall₂ (fun d x => x < d.knots ((d.nknots : Int) - 1) ∧ NonDegenerate d x) T.dims xs →
        |rR.get (A := Arith.rounded fl st) g - ndsplineeval (A := Arith.rounded fl st) T xs cs 0| ≤
          (gfac ε (gridRoundCount T.dims + rE.nlisted g)
            + gfac ε (3 + T.dims.length * (7 * n + 3) + 2 * blockSize T.dims)) *
          specEval ⟨T.dims, fun i => |T.coef i|⟩ xs (List.replicate T.dims.length .value) := by
  have hg := hT.gridTableWF hs
  have hmono : ∀ d ∈ T.dims, d.KnotsMono := fun d hd => (hT.dims d hd).mono
  obtain ⟨rE, rR, rM, g1, g2, _, g4, g5⟩ :=
    C17_grideval_rounding_envelope_partial (st := st) hε hfl T.dims T.coef coords hg hmono hlen
  refine ⟨rE, rR, g1, g2, fun g xs cs hgp hsc hx => ?_⟩
  have hxl : T.dims.length = xs.length := by rw [gridPoint_length coords g xs hgp, hlen]
  -- below the last knot and outside C01's finding the grid sums are the pointwise specification
  have hk : ∀ d ∈ T.dims, d.KnotsMono ∧ d.naxes = d.nknots - d.order - 1 := fun d hd => ⟨hmono d hd, hg.naxes_eq d hd⟩
  have hsp := fun coef => grideval_eq_pointwise T.dims coef xs hk (forall₂_agreeAt_of_inside T.dims xs hk hx)
  have hA := g4 g
  rw [(g5 g xs hgp).1, (g5 g xs hgp).2, hsp, hsp] at hA
  have hB := C01_rounding_envelope_all_partial hε hfl hst T xs cs n hT hxl (allNonDegenerate_of_forall₂ hx) hsc hn
  rw [abs_sub_comm] at hB
  rw [add_mul]
  exact (abs_sub_le _ _ _).trans (add_le_add hA hB)

end rounding

/-- `C17_basis_rounding`: a rounding that is not the identity (`fl a = 17/16·a`, within `ε = 1/8`) and a
non-decreasing knot window for `B_{0,2}` on the knots `0,1,2,3`. -/
example : (0 : Rat) ≤ 1/8 ∧ (∀ a : Rat, RelErr (1/8 : Rat) 1 a (a * (17/16))) ∧
    MonoOn (fun i : Int => (i : Rat)) 0 (0 + (2 : Nat) + 1) := by
  exact ⟨by norm_num, relErr_scale _ (by norm_num) (by norm_num), monoOn_intCast _ _⟩

/-- `C17_slicemultiply_rounding`: the 2×3×2 tensor of the first example as an exactly known input (`TRel.ofExact`: rounded
run from the same values, majorant from the magnitudes, `k = 0`), a non-negative 3×4 matrix known exactly
(`kb = 0`), `dim = 1`. -/
example :
    let a : NdSparse Rat := ⟨[2,3,2], [([1,2,0], 5), ([0,1,1], -2)]⟩
    let b : Mat Rat := ⟨3, 4, fun i j => if i ≤ j then (i : Rat) + 1 else 0⟩
    TRel (1/8 : Rat) 0 a a ⟨a.ranges, a.entries.map fun e => (e.1, |e.2|)⟩ ∧
    (∀ j g, j < b.nrow → g < b.ncol → RelErr (1/8 : Rat) 0 (b.val j g) (b.val j g) ∧ 0 ≤ b.val j g) ∧
    a.WF ∧ 1 < a.ranges.length ∧ b.nrow = a.ranges.getD 1 0 := by
  refine ⟨TRel.ofExact _, fun j g _ _ => ⟨RelErr.refl _, ?_⟩, exSparse_wf, by decide, rfl⟩
  simp only
  split
  · positivity
  · exact le_refl _

/-- `C17_grideval_rounding_envelope_partial`: the 2-d table `exGrid2` (orders 2 and 1, knots `0,1,2,…`),
a 3×1 grid, non-decreasing knots, the non-identity rounding. -/
example :
    let dims : List (Dim Rat) := [⟨2, 7, 4, 2, fun i => (i : Rat)⟩, ⟨1, 4, 2, 1, fun i => (i : Rat)⟩]
    let coords : List (List Rat) := [[1/2, 5/2, 3], [5/2]]
    GridTableWF dims ∧ (∀ d ∈ dims, d.KnotsMono) ∧ coords.length = dims.length ∧
      (∀ a : Rat, RelErr (1/8 : Rat) 1 a (a * (17/16))) := by
  exact ⟨exGrid2_gridWF, exGrid2_knotsMono, rfl, relErr_scale _ (by norm_num) (by norm_num)⟩

/-- `C17_grideval_near_pointwise`: C01's example table (order 2, knots 0..6, stride 1), the one-point grid
`x = 7/2` accepted with centre 3, below the last knot, non-degenerate, orders ≤ 2, roundings `fl a = 17/16·a`
and `st a = 15/16·a` within `ε = 1/8`. -/
example : (⟨[⟨2, 7, 4, 1, fun i => (i : Rat)⟩], fun _ => 1⟩ : Table Rat).WF ∧
    StridesRowMajor [(⟨2, 7, 4, 1, fun i => (i : Rat)⟩ : Dim Rat)] ∧
    (∀ d ∈ [(⟨2, 7, 4, 1, fun i => (i : Rat)⟩ : Dim Rat)], d.order ≤ 2) ∧
    (∀ a : Rat, RelErr (1/8 : Rat) 1 a (a * (17/16))) ∧ (∀ a : Rat, RelErr (1/8 : Rat) 1 a (a * (15/16))) ∧
    gridPoint ([[7/2]] : List (List Rat)) [0] = some [7/2] ∧
    @searchCenters Rat (cmpLO Rat) [Dim.axis (⟨2, 7, 4, 1, fun i => (i : Rat)⟩ : Dim Rat)] [(7/2 : Rat)] = .ok [3] ∧
    List.Forall₂ (fun (d : Dim Rat) x => x < d.knots ((d.nknots : Int) - 1) ∧ NonDegenerate d x)
      [(⟨2, 7, 4, 1, fun i => (i : Rat)⟩ : Dim Rat)] [(7/2 : Rat)] := by
  exact ⟨exTable1_wf, rfl, fun _ hd => List.mem_singleton.mp hd ▸ le_refl _, relErr_scale _ (by norm_num) (by norm_num),
    relErr_scale _ (by norm_num) (by norm_num), rfl, exTable1_search, exTable1_inside⟩

end PsV
