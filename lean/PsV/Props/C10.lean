import PsV.Proofs.Monotone
import PsV.Proofs.MonoTail
import PsV.Proofs.MonoCoords
import PsV.Props.C11
import PsV.Proofs.ElimPosDef
import PsV.Proofs.KnotScale
import Mathlib.LinearAlgebra.Matrix.Notation
/-!
# C10 — the monotonic fit's back-transform yields a surface that is non-decreasing along the
monotonic dimension on the fully supported region

Helpers in `PsV.Proofs.Monotone`, `MonoTail`, `MonoCoords`, `KnotScale`.  The in-place
cumulative-sum loop at the end of `glamfit_complex` (`PsV.cumsumLoop`), run with any addition that does not decrease the
running sum when it adds an entry `≥ 0` (exact addition; a float addition that returns a nearest representable number, since
the running sum is representable), turns non-negative T-spline coefficients (basis `B·L`) into a table that is non-negative
and non-decreasing along the monotonic index; with such a table the first derivative of `specEval` along that dimension is
non-negative and its values are non-decreasing on the fully supported region.  Besides: the inactive constraint (a
non-negative unconstrained solution in T-coordinates is, with C11, the unique solution of the non-negative problem; the
matrix the unrepaired code assembles violates this, `fixes/C10-1.diff`), and rescaled axes (definitions in
`PsV.Model.KnotScale`: the objective of `FitProblem.knotScale` is the same function of the coefficients; an absolute drop
tolerance in `calc_penalty` breaks this, seeded change C10-6).
-/
namespace PsV
open Finset

/-- Cumulative-sum loop, rounded arithmetic.  `add a s` is `fl(a + s)` with `a` the increment
(`out[idx i j k]`) and `s` the running sum (`out[idx i (j-1) k]`), as in `cumStep`. -/
theorem float_cumsum_monotone {α : Type} [LinearOrder α] (z : α) (add : α → α → α)
    (hadd : ∀ a s, z ≤ a → s ≤ add a s) (s1 n s2 : Nat) (out : Nat → α)
    (hout : ∀ p, p < s1 * n * s2 → z ≤ out p) :
    ∀ i, i < s1 → ∀ j, j + 1 < n → ∀ k, k < s2 →
      cumsumLoop add s1 n s2 out (idx3 n s2 i j k)
        ≤ cumsumLoop add s1 n s2 out (idx3 n s2 i (j+1) k) :=
  cumsumLoop_mono_of_inv z add (fun _ => True) (fun a s ha _ => hadd a s ha) (fun _ _ => trivial)
    s1 n s2 out (fun _ _ => trivial) hout

/-- the same, as the executable check the driver runs -/
theorem float_cumsum_monoAlongB {α : Type} [LinearOrder α] (z : α) (add : α → α → α)
    (hadd : ∀ a s, z ≤ a → s ≤ add a s) (s1 n s2 : Nat) (out : Nat → α)
    (hout : ∀ p, p < s1 * n * s2 → z ≤ out p) :
    monoAlongB (fun a b => decide (a ≤ b)) s1 n s2 (cumsumLoop add s1 n s2 out) = true :=
  (monoAlongB_iff s1 n s2 _).mpr (float_cumsum_monotone z add hadd s1 n s2 out hout)

/-- the closed form the proof rests on: cell `(i,j,k)` ends up holding `cs j`, `cs 0 = out[i,0,k]`,
`cs (j+1) = add out[i,j+1,k] (cs j)` -/
theorem cumsumLoop_closed_form {α : Type} (add : α → α → α) (s1 n s2 : Nat) (out : Nat → α)
    (i j k : Nat) (hi : i < s1) (hj : j < n) (hk : k < s2) :
    cumsumLoop add s1 n s2 out (idx3 n s2 i j k) = csum add out n s2 i k j :=
  cumsumLoop_spec add out n s2 s1 hi hj hk

/-- Non-vacuity: a non-associative "rounding" addition on `Nat` (round the exact sum up to an even
number) satisfies the hypothesis, and the loop on a 2×3×2 array gives a monotone result. -/
example : (∀ a s : Nat, 0 ≤ a → s ≤ (a + s + 1) / 2 * 2) ∧
    (∀ p, p < 2 * 3 * 2 → 0 ≤ (fun p : Nat => 7 * p % 5) p) ∧
    monoAlongB (fun a b => decide (a ≤ b)) 2 3 2
      (cumsumLoop (fun a s => (a + s + 1) / 2 * 2) 2 3 2 (fun p => 7 * p % 5)) = true :=
  ⟨fun a s _ => by omega, fun _ _ => Nat.zero_le _, by decide +kernel⟩

theorem cumsum_formula {α : Type} [AddCommMonoid α] (s1 n s2 : Nat) (t : Nat → α)
    (i j k : Nat) (hi : i < s1) (hj : j < n) (hk : k < s2) :
    cumsumLoop (· + ·) s1 n s2 t (idx3 n s2 i j k) = ∑ l ∈ range (j+1), t (idx3 n s2 i l k) :=
  cumsum_exact s1 n s2 t hi hj hk

theorem cumsum_monotone {α : Type} [Field α] [LinearOrder α] [IsStrictOrderedRing α]
    (s1 n s2 : Nat) (t : Nat → α) (ht : ∀ p, p < s1 * n * s2 → 0 ≤ t p) :
    (∀ i, i < s1 → ∀ j, j + 1 < n → ∀ k, k < s2 →
      cumsumLoop (· + ·) s1 n s2 t (idx3 n s2 i j k)
        ≤ cumsumLoop (· + ·) s1 n s2 t (idx3 n s2 i (j+1) k)) ∧
    (∀ i, i < s1 → ∀ j, j < n → ∀ k, k < s2 →
      cumsumLoop (· + ·) s1 n s2 t (idx3 n s2 i j k) = ∑ l ∈ range (j+1), t (idx3 n s2 i l k)) :=
  ⟨float_cumsum_monotone 0 (· + ·) (fun _ _ ha => le_add_of_nonneg_left ha) s1 n s2 t ht,
   fun i hi j hj k hk => cumsum_formula s1 n s2 t i j k hi hj hk⟩

/-- non-vacuity of `cumsum_monotone`: the increments `(p % 3)/2` on a 2 × 3 × 2 box are non-negative -/
example : (∀ p, p < 2 * 3 * 2 → (0 : Rat) ≤ (fun p : Nat => ((p % 3 : Nat) : Rat) / 2) p) :=
  fun p _ => by positivity

/-- `(B·L)_j = Σ_{l ≥ j} B_l` (`L` the lower-triangular ones matrix): evaluating the T-spline
coefficients `t` against the basis `B·L` equals evaluating the cumulative sums against `B`,
for a tensor flattened to `s1 × n × s2` and arbitrary weights `W` from the other dimensions. -/
theorem tspline_eq_cumsum {α : Type} [CommRing α] (s1 n s2 : Nat) (W : Nat → Nat → α)
    (B : Nat → α) (t : Nat → α) :
    ∑ i ∈ range s1, ∑ j ∈ range n, ∑ k ∈ range s2,
        W i k * (∑ l ∈ range n, if j ≤ l then B l else 0) * t (idx3 n s2 i j k)
      = ∑ i ∈ range s1, ∑ j ∈ range n, ∑ k ∈ range s2,
        W i k * B j * cumsumLoop (· + ·) s1 n s2 t (idx3 n s2 i j k) := by
  refine Finset.sum_congr rfl fun i hi => ?_
  rw [Finset.sum_comm, Finset.sum_comm (s := range n)]
  refine Finset.sum_congr rfl fun k hk => ?_
  simp only [mul_assoc, ← Finset.mul_sum]
  rw [fibre_BL B (fun j => t (idx3 n s2 i j k)) n]
  refine congrArg _ (Finset.sum_congr rfl fun j hj => ?_)
  rw [cumsum_formula s1 n s2 t i j k (mem_range.mp hi) (mem_range.mp hj) (mem_range.mp hk)]

/-- any shape: the three blocks exhaust the array -/
theorem strides_total (naxes : List Nat) (m : Nat) (h : m < naxes.length) :
    stride1 naxes m * naxes[m] * stride2 naxes m = naxes.foldl (· * ·) 1 :=
  strides_total_aux naxes m h

example : stride1 [2, 3, 4, 5] 2 = 6 ∧ stride2 [2, 3, 4, 5] 2 = 5 ∧ [2, 3, 4, 5].foldl (· * ·) 1 = 120 := by
  decide

/-- every coefficient the loop produces from increments `≥ z` is itself `≥ z` (what the check reports as
`mono:negative-coefficient` when violated) -/
theorem float_cumsum_nonneg {α : Type} [LinearOrder α] (z : α) (add : α → α → α)
    (hadd : ∀ a s, z ≤ a → s ≤ add a s) (s1 n s2 : Nat) (out : Nat → α)
    (hout : ∀ p, p < s1 * n * s2 → z ≤ out p) :
    ∀ i, i < s1 → ∀ j, j < n → ∀ k, k < s2 → z ≤ cumsumLoop add s1 n s2 out (idx3 n s2 i j k) :=
  fun _ hi _ hj _ hk => cumsumLoop_ge_of_inv z add (fun _ => True) (fun a s ha _ => hadd a s ha) (fun _ _ => trivial)
    s1 n s2 out (fun _ _ => trivial) hout hi hj hk

example : ∀ i, i < 2 → ∀ j, j < 3 → ∀ k, k < 2 →
    0 ≤ cumsumLoop (fun a s : Nat => (a + s + 1) / 2 * 2) 2 3 2 (fun p => 7 * p % 5) (idx3 3 2 i j k) :=
  float_cumsum_nonneg 0 _ (fun a s _ => by omega) 2 3 2 _ (fun _ _ => Nat.zero_le _)

/-- **Float storage, hypothesis reduced to the two defining properties of a rounding.**  `add a s = rnd (plus a s)`
with `rnd` monotone and the identity on representable numbers (`R`; every value the loop reads is representable: the
increments are floats, and every running sum has been rounded): the rounded cumulative sum of non-negative increments is
non-decreasing.  IEEE round-to-nearest (also composed double → float) is such an `rnd`. -/
theorem rounded_cumsum_monotone {α : Type} [LinearOrder α] (z : α) (plus : α → α → α) (rnd : α → α) (R : α → Prop)
    (hplus : ∀ a s, z ≤ a → s ≤ plus a s)
    (hmono : ∀ a b, a ≤ b → rnd a ≤ rnd b) (hfix : ∀ a, R a → rnd a = a) (hrep : ∀ a, R (rnd a))
    (s1 n s2 : Nat) (out : Nat → α)
    (hR : ∀ p, p < s1 * n * s2 → R (out p)) (hout : ∀ p, p < s1 * n * s2 → z ≤ out p) :
    ∀ i, i < s1 → ∀ j, j + 1 < n → ∀ k, k < s2 →
      cumsumLoop (fun a s => rnd (plus a s)) s1 n s2 out (idx3 n s2 i j k)
        ≤ cumsumLoop (fun a s => rnd (plus a s)) s1 n s2 out (idx3 n s2 i (j+1) k) :=
  -- a representable running sum is fixed by `rnd`, so monotonicity of `rnd` carries `s ≤ plus a s` over
  cumsumLoop_mono_of_inv z _ R
    (fun a s ha hs => (hfix s hs).symm.le.trans (hmono _ _ (hplus a s ha))) (fun _ _ => hrep _) s1 n s2 out hR hout

/-- non-vacuity: rounding to the nearest even integer (upwards) on `Int`; representable = even -/
example : (∀ a s : Int, 0 ≤ a → s ≤ a + s) ∧ (∀ a b : Int, a ≤ b → (a + 1) / 2 * 2 ≤ (b + 1) / 2 * 2) ∧
    (∀ a : Int, a % 2 = 0 → (a + 1) / 2 * 2 = a) ∧ (∀ a : Int, ((a + 1) / 2 * 2) % 2 = 0) ∧
    (∀ p, p < 2 * 3 * 2 → (fun p : Nat => (2 * (7 * p % 5 : Nat) : Int)) p % 2 = 0) :=
  ⟨fun a s h => Int.le_add_of_nonneg_left h,
    fun a b h => Int.mul_le_mul_of_nonneg_right (Int.ediv_le_ediv (by decide) (Int.add_le_add_right h 1)) (by decide),
    fun a _ => by omega, fun a => Int.mul_emod_left _ _, fun p _ => Int.mul_emod_right _ _⟩

/-- **Round-to-nearest is such a rounding.**  Any selector `rnd` of a nearest element of a set `F` of representable numbers
(`rnd a ∈ F`, no element of `F` is closer to `a` — the definition of IEEE-754 round-to-nearest away from overflow, whatever
the tie rule) is monotone and fixes `F`; so is the composition of two of them with `F ⊆ F'` (a double-precision addition
stored into a `float`). -/
theorem nearest_rounding_monotone {α : Type} [Field α] [LinearOrder α] [IsStrictOrderedRing α] (F : α → Prop)
    (rnd : α → α) (hF : ∀ a, F (rnd a)) (hnear : ∀ a f, F f → |a - rnd a| ≤ |a - f|) :
    (∀ a b, a ≤ b → rnd a ≤ rnd b) ∧ (∀ a, F a → rnd a = a) := by
  -- a point at least as close to the larger of two numbers lies right of their midpoint, and conversely
  have key : ∀ c lo hi : α, lo < hi →
      (|c - hi| ≤ |c - lo| → lo + hi ≤ 2 * c) ∧ (|c - lo| ≤ |c - hi| → 2 * c ≤ lo + hi) := by
    intro c lo hi hlt
    have h1 := neg_le_abs (c - hi)
    have h2 := le_abs_self (c - lo)
    constructor <;> intro h
    · rcases abs_cases (c - lo) with ⟨e, _⟩ | ⟨e, _⟩ <;> linarith only [hlt, h, h1, e]
    · rcases abs_cases (c - hi) with ⟨e, _⟩ | ⟨e, _⟩ <;> linarith only [hlt, h, h2, e]
  refine ⟨fun a b hab => ?_, fun a ha => ?_⟩
  · by_contra hlt
    have hlt : rnd b < rnd a := not_le.mp hlt
    have h1 := (key a (rnd b) (rnd a) hlt).1 (hnear a (rnd b) (hF b))
    have h2 := (key b (rnd b) (rnd a) hlt).2 (hnear b (rnd a) (hF a))
    rw [le_antisymm hab (le_of_mul_le_mul_left (h2.trans h1) two_pos)] at hlt
    exact lt_irrefl _ hlt
  · have := hnear a a ha
    rw [sub_self, abs_zero] at this
    exact (sub_eq_zero.mp (abs_nonpos_iff.mp this)).symm

/-- non-vacuity: `F = {0, 1}` inside `ℚ`, `rnd` = the nearer of the two (tie at `1/2` downwards) -/
example : (∀ a : ℚ, (fun q : ℚ => q = 0 ∨ q = 1) ((fun q : ℚ => if q ≤ 1/2 then (0 : ℚ) else 1) a)) ∧
    (∀ a f : ℚ, (f = 0 ∨ f = 1) → |a - (fun q : ℚ => if q ≤ 1/2 then (0 : ℚ) else 1) a| ≤ |a - f|) := by
  refine ⟨fun a => ?_, fun a f hf => ?_⟩
  · show (if a ≤ 1/2 then (0 : ℚ) else 1) = 0 ∨ (if a ≤ 1/2 then (0 : ℚ) else 1) = 1
    split <;> simp
  · show |a - (if a ≤ 1/2 then (0 : ℚ) else 1)| ≤ |a - f|
    rcases hf with rfl | rfl <;> split
    · exact le_refl _
    · exact abs_le.mpr ⟨by linarith [le_abs_self (a - 0)], by linarith [le_abs_self (a - 0)]⟩
    · exact abs_le.mpr ⟨by linarith [neg_le_abs (a - 1)], by linarith [neg_le_abs (a - 1)]⟩
    · exact le_refl _

/-- the float cumulative sum with an IEEE-style addition `fl(a + s)` = a nearest representable number to the exact sum:
no hypothesis on the arithmetic beyond that definition -/
theorem ieee_cumsum_monotone {α : Type} [Field α] [LinearOrder α] [IsStrictOrderedRing α] (F : α → Prop)
    (rnd : α → α) (hF : ∀ a, F (rnd a)) (hnear : ∀ a f, F f → |a - rnd a| ≤ |a - f|)
    (s1 n s2 : Nat) (out : Nat → α)
    (hR : ∀ p, p < s1 * n * s2 → F (out p)) (hout : ∀ p, p < s1 * n * s2 → 0 ≤ out p) :
    ∀ i, i < s1 → ∀ j, j + 1 < n → ∀ k, k < s2 →
      cumsumLoop (fun a s => rnd (a + s)) s1 n s2 out (idx3 n s2 i j k)
        ≤ cumsumLoop (fun a s => rnd (a + s)) s1 n s2 out (idx3 n s2 i (j+1) k) := by
  obtain ⟨hm, hfix⟩ := nearest_rounding_monotone F rnd hF hnear
  exact rounded_cumsum_monotone 0 (· + ·) rnd F (fun a s ha => le_add_of_nonneg_left ha) hm hfix hF s1 n s2 out hR hout

/-- non-vacuity: exact arithmetic is the rounding with every number representable; increments `p % 3` -/
example : (∀ a : ℚ, (fun _ : ℚ => True) (id a)) ∧ (∀ a f : ℚ, True → |a - id a| ≤ |a - f|) ∧
    (∀ p, p < 2 * 3 * 2 → (0 : ℚ) ≤ (fun p : Nat => ((p % 3 : Nat) : ℚ)) p) :=
  ⟨fun _ => trivial, fun a f _ => by simp, fun p _ => by positivity⟩

/-- **The tail of `glamfit_complex` for a monotonic fit** (`backTransform`: scale the normalised solution back in double,
convert to float, cumulative sum in float), for every shape and every solver output `x ≥ 0` (which
`block3_nonneg_invariant` of C11 guarantees on every exit of the non-negative solver): the coefficient table is
non-negative and non-decreasing along the monotonic index, and passes the check the driver executes. -/
theorem backTransform_monotone {δ φ : Type} [Preorder δ] [LinearOrder φ] (zd : δ) (zf : φ)
    (mulS : δ → δ) (toF : δ → φ) (add : φ → φ → φ)
    (hmul : ∀ a, zd ≤ a → zd ≤ mulS a) (htoF : ∀ a, zd ≤ a → zf ≤ toF a) (hadd : ∀ a s, zf ≤ a → s ≤ add a s)
    (s1 n s2 : Nat) (x : Nat → δ) (hx : ∀ p, p < s1 * n * s2 → zd ≤ x p) :
    (∀ i, i < s1 → ∀ j, j + 1 < n → ∀ k, k < s2 →
      backTransform mulS toF add s1 n s2 x (idx3 n s2 i j k)
        ≤ backTransform mulS toF add s1 n s2 x (idx3 n s2 i (j+1) k)) ∧
    (∀ i, i < s1 → ∀ j, j < n → ∀ k, k < s2 → zf ≤ backTransform mulS toF add s1 n s2 x (idx3 n s2 i j k)) ∧
    monoAlongB (fun a b => decide (a ≤ b)) s1 n s2 (backTransform mulS toF add s1 n s2 x) = true := by
  have h0 : ∀ p, p < s1 * n * s2 → zf ≤ (fun p => toF (mulS (x p))) p :=
    fun p hp => htoF _ (hmul _ (hx p hp))
  exact ⟨float_cumsum_monotone zf add hadd s1 n s2 _ h0, float_cumsum_nonneg zf add hadd s1 n s2 _ h0,
    float_cumsum_monoAlongB zf add hadd s1 n s2 _ h0⟩

example : (∀ a : Nat, 0 ≤ a → 0 ≤ 3 * a) ∧ (∀ a : Nat, 0 ≤ a → (0 : Int) ≤ (a : Int)) ∧
    monoAlongB (fun a b => decide (a ≤ b)) 2 3 2
      (backTransform (fun a : Nat => 3 * a) (fun a => (a : Int)) (fun a s : Int => (a + s + 1) / 2 * 2) 2 3 2
        (fun p => 7 * p % 5)) = true :=
  ⟨fun _ _ => Nat.zero_le _, fun a _ => Int.natCast_nonneg a, by decide +kernel⟩

open Matrix

/-- **The change of variables is a bijection of the box** (exact arithmetic): every table is the cumulative sum of its own
increments, and the increments of a cumulative sum are the summands. -/
theorem cumsum_diff_inverse {α : Type} [AddCommGroup α] (s1 n s2 : Nat) (c t : Nat → α) :
    (∀ p, p < s1 * n * s2 → cumsumLoop (· + ·) s1 n s2 (diffAlong (· - ·) n s2 c) p = c p) ∧
    (∀ p, p < s1 * n * s2 → diffAlong (· - ·) n s2 (cumsumLoop (· + ·) s1 n s2 t) p = t p) :=
  ⟨fun _ hp => cumsum_diffAlong s1 n s2 c hp, fun _ hp => diffAlong_cumsum s1 n s2 t hp⟩

/-- a concrete instance of `cumsum_diff_inverse` on a 2 × 3 × 2 box -/
example : (List.range 12).all (fun p =>
    diffAlong (· - ·) 3 2 (cumsumLoop (· + ·) 2 3 2 (fun q : Nat => ((7 * q % 5 : Nat) : Int))) p == ((7 * p % 5 : Nat) : Int)) = true := by
  decide +kernel

/-- **Tables with non-negative increments = non-negative first slice + non-decreasing along the monotonic index**; so
the image of the non-negative orthant under the change of variables is exactly the set of tables the property describes,
and the executable checks `incNonnegB` / `monoAlongB` decide membership. -/
theorem increments_nonneg_iff (s1 n s2 : Nat) (c : Nat → Rat) :
    incNonnegB (fun a => decide (0 ≤ a)) (· - ·) s1 n s2 c = true ↔
      (∀ i, i < s1 → ∀ k, k < s2 → 0 < n → 0 ≤ c (idx3 n s2 i 0 k)) ∧
      monoAlongB (fun a b => decide (a ≤ b)) s1 n s2 c = true := by
  rw [incNonnegB_iff, diffAlong_nonneg_iff s1 n s2 c, monoAlongB_iff]
  exact Iff.rfl

example : incNonnegB (fun a : Rat => decide (0 ≤ a)) (· - ·) 2 3 2 (fun p => (p : Rat)) = true := by decide +kernel

/-- **`L t` is the cumulative sum, and `L` is injective** (any shape; `cumMat` is built column by column with the loop of
`glamfit_complex`). -/
theorem cumMat_spec {α : Type} [CommRing α] (s1 n s2 : Nat) :
    (∀ (t : Fin (s1 * n * s2) → α) (p : Fin (s1 * n * s2)),
      (cumMat α s1 n s2 *ᵥ t) p = cumsumLoop (· + ·) s1 n s2 (extZ t) p.val) ∧
    (∀ t : Fin (s1 * n * s2) → α, cumMat α s1 n s2 *ᵥ t = 0 → t = 0) :=
  ⟨cumMat_mulVec s1 n s2, cumMat_injective s1 n s2⟩

example : cumMat ℚ 1 2 2 = !![1,0,0,0; 0,1,0,0; 1,0,1,0; 0,1,0,1] := by decide +kernel

/-- support of a basis function: combinatorial, no hypothesis on the knots -/
theorem Bind_support (ind : Int → Bool) (t : Int → Rat) (x : Rat) (n : Nat) (i : Int)
    (h : Bind ind t x n i ≠ 0) : ∃ m, ind m = true ∧ i ≤ m ∧ m ≤ i + n :=
  PsV.Bind_support_aux ind t x n i h

theorem Bind_nonneg (ind : Int → Bool) (t : Int → Rat) (x : Rat)
    (hmono : ∀ a b : Int, a ≤ b → t a ≤ t b)
    (hind : ∀ m, ind m = true → t m ≤ x ∧ x ≤ t (m+1)) (n : Nat) (i : Int) :
    0 ≤ Bind ind t x n i :=
  Bind_nonneg_aux ind t x hmono hind n i

example : (∀ a b : Int, a ≤ b → ((a : Rat)) ≤ (b : Rat)) ∧
    (∀ m, indR (fun i : Int => (i : Rat)) (5/2) m = true →
      ((m : Rat)) ≤ 5/2 ∧ (5/2 : Rat) ≤ ((m + 1 : Int) : Rat)) ∧
    indR (fun i : Int => (i : Rat)) (5/2) 2 = true := by
  refine ⟨fun _ _ h => Int.cast_le.mpr h, fun m hm => ?_, (indR_iff _ _ _).mpr (by norm_num)⟩
  have h := (indR_iff _ _ _).mp hm
  exact ⟨h.1, le_of_lt h.2⟩

/-- derivative formula: `Σ_j c_j B'_{j,n+1}(x) = Σ_j (n+1)(c_{j+1} - c_j)/(t_{j+n+2} - t_{j+1}) B_{j+1,n}(x)`
on the fully supported region (the boundary terms vanish by the support lemma) -/
theorem deriv_formula (ind : Int → Bool) (t : Int → Rat) (x : Rat) (n N : Nat)
    (hsup : ∀ m, ind m = true → ((n : Int) + 1 ≤ m ∧ m + 1 ≤ (N : Int))) (c : Nat → Rat) :
    ∑ j ∈ range N, c j * Dind ind t x 1 (n+1) (j : Int)
      = ∑ j ∈ range (N-1), ((n+1 : Nat) : Rat) * (c (j+1) - c j)
          / (t ((j : Int) + 1 + n + 1) - t ((j : Int) + 1)) * Bind ind t x n ((j : Int) + 1) :=
  deriv_formula_aux ind t x n N hsup c

/-- non-decreasing coefficients give a non-negative first derivative (order `n+1 ≥ 1`) -/
theorem monotone_coeffs_nonneg_deriv (ind : Int → Bool) (t : Int → Rat) (x : Rat) (n N : Nat)
    (hmono : ∀ a b : Int, a ≤ b → t a ≤ t b)
    (hind : ∀ m, ind m = true → t m ≤ x ∧ x ≤ t (m+1))
    (hsup : ∀ m, ind m = true → ((n : Int) + 1 ≤ m ∧ m + 1 ≤ (N : Int)))
    (c : Nat → Rat) (hc : ∀ j, j + 1 < N → c j ≤ c (j+1)) :
    0 ≤ ∑ j ∈ range N, c j * Dind ind t x 1 (n+1) (j : Int) :=
  deriv_nonneg_aux ind t x n N hsup hmono hind c hc

/-- what C10 assumes of a dimension: knots non-decreasing on all of `ℤ`.  (Not the structure of the same name in
`Proofs/EvalSpec.lean`, which bounds the indices by `nknots`; the two modules cannot be imported together.) -/
structure Dim.WF (d : Dim Rat) : Prop where
  mono : ∀ a b : Int, a ≤ b → d.knots a ≤ d.knots b
  naxes_eq : d.naxes = d.nknots - d.order - 1

/-- On the fully supported region `[knots[order], knots[naxes]]` (non-degenerate) the indicator of the
spec selects an interval that brackets `x` and lies inside the region.  (`order + 1 ≤ naxes` is not
needed as a hypothesis: it follows from `knots[order] < knots[naxes]`, see `order_lt_naxes`.) -/
theorem selInd_ok (d : Dim Rat) (x : Rat) (hwf : d.WF)
    (hlo : d.knots d.order ≤ x) (hhi : x ≤ d.knots d.naxes) (hlt : d.knots d.order < d.knots d.naxes) :
    ∀ m, selInd d x m = true →
      d.knots m ≤ x ∧ x ≤ d.knots (m+1) ∧ (d.order : Int) ≤ m ∧ m + 1 ≤ (d.naxes : Int) := by
  intro m hm
  have h1 := selInd_bracket d x m hm
  have h2 := selInd_region d x hwf.mono hlo hhi hlt m hm
  exact ⟨h1.1, h1.2, h2.1, h2.2⟩

theorem order_lt_naxes (d : Dim Rat) (hwf : d.WF) (hlt : d.knots d.order < d.knots d.naxes) :
    d.order + 1 ≤ d.naxes :=
  order_lt_naxes_of_knots_lt d hwf.mono hlt

/-- Non-vacuity: order 2, knots 0..6, 4 coefficients, `x = 5/2` in the supported region `[2,4]`:
the indicator is not identically false. -/
example : (⟨2, 7, 4, 1, fun i => (i : Rat)⟩ : Dim Rat).WF ∧
    selInd (⟨2, 7, 4, 1, fun i => (i : Rat)⟩ : Dim Rat) (5/2) 2 = true ∧
    ((⟨2, 7, 4, 1, fun i => (i : Rat)⟩ : Dim Rat).knots 2 ≤ 5/2) := by
  refine ⟨⟨fun _ _ h => Int.cast_le.mpr h, rfl⟩, ?_, ?_⟩
  · rw [selInd_of_lt (by norm_num), indR_iff]
    norm_num
  · norm_num

/-- Non-vacuity of the 1-D core: order 2 (`n = 1`), knots `0,1,2,…`, `N = 4`, `x = 5/2`, `c j = j`;
all hypotheses hold with an indicator that fires at `m = 2`. -/
example : 0 ≤ ∑ j ∈ range 4, ((j : Nat) : Rat) *
    Dind (selInd (⟨2, 7, 4, 1, fun i => (i : Rat)⟩ : Dim Rat) (5/2)) (fun i => (i : Rat)) (5/2) 1 (1+1) (j : Int) := by
  have hwf : (⟨2, 7, 4, 1, fun i => (i : Rat)⟩ : Dim Rat).WF :=
    ⟨fun _ _ h => Int.cast_le.mpr h, rfl⟩
  have hsel := selInd_ok (⟨2, 7, 4, 1, fun i => (i : Rat)⟩ : Dim Rat) (5/2) hwf
    (by norm_num)
    (by norm_num)
    (by norm_num)
  exact monotone_coeffs_nonneg_deriv _ (fun i => (i : Rat)) (5/2) 1 4 hwf.mono
    (fun m hm => ⟨(hsel m hm).1, (hsel m hm).2.1⟩)
    (fun m hm => ⟨(hsel m hm).2.2.1, (hsel m hm).2.2.2⟩)
    (fun j => (j : Rat)) (fun j _ => Nat.cast_le.mpr (Nat.le_succ j))

/-- **1-d core**: with non-decreasing coefficients, `x ≤ y` inside the fully supported region implies
`Σ_j c_j B_j(x) ≤ Σ_j c_j B_j(y)` (any order, repeated knots allowed; no calculus: Abel summation over the tail sums
`Σ_{l ≥ j} B_l`, which are non-decreasing in `x` by induction over the order). -/
theorem spline_value_monotone_1d (d : Dim Rat) (x y : Rat) (hwf : d.WF)
    (hlo : d.knots d.order ≤ x) (hxy : x ≤ y) (hhi : y ≤ d.knots d.naxes)
    (hlt : d.knots d.order < d.knots d.naxes)
    (c : Nat → Rat) (hc : ∀ j, j + 1 < d.naxes → c j ≤ c (j+1)) :
    ∑ j ∈ range d.naxes, c j * Bsel d x 0 j ≤ ∑ j ∈ range d.naxes, c j * Bsel d y 0 j := by
  exact spline_value_mono_1d d x y hwf.mono hlo hxy hhi hlt c hc

/-- Non-vacuity of the 1-d statement: order 2, knots `0..6`, 4 coefficients `c j = j`, from `x = 5/2` to `y = 7/2`
inside the supported region `[2, 4]`. -/
example : ∑ j ∈ range 4, ((j : Nat) : Rat) * Bsel (⟨2, 7, 4, 1, fun i => (i : Rat)⟩ : Dim Rat) (5/2) 0 j
    ≤ ∑ j ∈ range 4, ((j : Nat) : Rat) * Bsel (⟨2, 7, 4, 1, fun i => (i : Rat)⟩ : Dim Rat) (7/2) 0 j :=
  spline_value_monotone_1d (⟨2, 7, 4, 1, fun i => (i : Rat)⟩ : Dim Rat) (5/2) (7/2)
    ⟨fun _ _ h => Int.cast_le.mpr h, rfl⟩
    (by norm_num) (by norm_num)
    (by norm_num)
    (by norm_num)
    (fun j => (j : Rat)) (fun j _ => Nat.cast_le.mpr (Nat.le_succ j))

/-- C10: first derivative along dimension `m` of the tensor-product spline is non-negative at every
point whose `m`-th coordinate lies in the fully supported region of dimension `m`, provided the
coefficients are non-decreasing along `m` (row-major table of any shape, flattened to
`stride1 × naxes_m × stride2`). -/
theorem C10_monotone (T : Table Rat) (m : Nat) (xs : List Rat) (ms : List BasisMode)
    (dm : Dim Rat) (xm : Rat)
    (hxs : xs.length = T.dims.length) (hms : ms.length = T.dims.length)
    (hdm : T.dims[m]? = some dm) (hxm : xs[m]? = some xm)
    (hmode : ∀ e mo, ms[e]? = some mo → mo = if e = m then BasisMode.deriv1 else BasisMode.value)
    (hwf : ∀ d ∈ T.dims, d.WF)
    (hstride : ∀ e d, T.dims[e]? = some d →
      d.stride = ((T.dims.drop (e+1)).map Dim.naxes).foldl (· * ·) 1)
    (hord : 1 ≤ dm.order)
    (hlo : dm.knots dm.order ≤ xm) (hhi : xm ≤ dm.knots dm.naxes)
    (hlt : dm.knots dm.order < dm.knots dm.naxes)
    (hcoef : ∀ i, i < stride1 (T.dims.map Dim.naxes) m → ∀ j, j + 1 < dm.naxes →
      ∀ k, k < stride2 (T.dims.map Dim.naxes) m →
        T.coef (idx3 dm.naxes (stride2 (T.dims.map Dim.naxes) m) i j k : Nat)
          ≤ T.coef (idx3 dm.naxes (stride2 (T.dims.map Dim.naxes) m) i (j+1) k : Nat)) :
    0 ≤ specEval T xs ms := by
  show 0 ≤ specSum T.coef (specRows T.dims xs ms) 1 0
  have hwfm : dm.WF := hwf dm (List.mem_of_getElem? hdm)
  exact specSum_dims_nonneg T.coef dm xm (spline_deriv_nonneg_1d dm xm hwfm.mono hord hlo hhi hlt)
    m T.dims xs ms hxs hms hdm hxm hmode
    (fun d hd => (hwf d hd).mono) (DimsRM_of_index _ hstride) 1 zero_le_one 0
    (fun i hi j hj k hk => by rw [zero_add, zero_add]; exact hcoef i hi j hj k hk)

/-- the same with the executable monotonicity check as hypothesis -/
theorem C10_monotone_B (T : Table Rat) (m : Nat) (xs : List Rat) (ms : List BasisMode)
    (dm : Dim Rat) (xm : Rat)
    (hxs : xs.length = T.dims.length) (hms : ms.length = T.dims.length)
    (hdm : T.dims[m]? = some dm) (hxm : xs[m]? = some xm)
    (hmode : ∀ e mo, ms[e]? = some mo → mo = if e = m then BasisMode.deriv1 else BasisMode.value)
    (hwf : ∀ d ∈ T.dims, d.WF)
    (hstride : ∀ e d, T.dims[e]? = some d →
      d.stride = ((T.dims.drop (e+1)).map Dim.naxes).foldl (· * ·) 1)
    (hord : 1 ≤ dm.order)
    (hlo : dm.knots dm.order ≤ xm) (hhi : xm ≤ dm.knots dm.naxes)
    (hlt : dm.knots dm.order < dm.knots dm.naxes)
    (hcoef : monoAlongB (fun a b => decide (a ≤ b)) (stride1 (T.dims.map Dim.naxes) m) dm.naxes
      (stride2 (T.dims.map Dim.naxes) m) (fun p => T.coef (p : Nat)) = true) :
    0 ≤ specEval T xs ms :=
  C10_monotone T m xs ms dm xm hxs hms hdm hxm hmode hwf hstride hord hlo hhi hlt
    ((monoAlongB_iff _ _ _ (fun p => T.coef (p : Nat))).mp hcoef)

/-- end to end: coefficients produced by the (rounded) cumulative-sum loop from non-negative
T-spline coefficients give a surface non-decreasing along `m` -/
theorem C10_monotone_of_cumsum (T : Table Rat) (m : Nat) (xs : List Rat) (ms : List BasisMode)
    (dm : Dim Rat) (xm : Rat) (add : Rat → Rat → Rat) (t : Nat → Rat)
    (hadd : ∀ a s, 0 ≤ a → s ≤ add a s)
    (ht : ∀ p, p < stride1 (T.dims.map Dim.naxes) m * dm.naxes * stride2 (T.dims.map Dim.naxes) m → 0 ≤ t p)
    (hT : ∀ p : Nat, T.coef (p : Nat) = cumsumLoop add (stride1 (T.dims.map Dim.naxes) m) dm.naxes
      (stride2 (T.dims.map Dim.naxes) m) t p)
    (hxs : xs.length = T.dims.length) (hms : ms.length = T.dims.length)
    (hdm : T.dims[m]? = some dm) (hxm : xs[m]? = some xm)
    (hmode : ∀ e mo, ms[e]? = some mo → mo = if e = m then BasisMode.deriv1 else BasisMode.value)
    (hwf : ∀ d ∈ T.dims, d.WF)
    (hstride : ∀ e d, T.dims[e]? = some d →
      d.stride = ((T.dims.drop (e+1)).map Dim.naxes).foldl (· * ·) 1)
    (hord : 1 ≤ dm.order)
    (hlo : dm.knots dm.order ≤ xm) (hhi : xm ≤ dm.knots dm.naxes)
    (hlt : dm.knots dm.order < dm.knots dm.naxes) :
    0 ≤ specEval T xs ms := by
  apply C10_monotone T m xs ms dm xm hxs hms hdm hxm hmode hwf hstride hord hlo hhi hlt
  intro i hi j hj k hk
  rw [hT, hT]
  exact float_cumsum_monotone 0 add hadd _ _ _ t ht i hi j hj k hk

/-- Non-vacuity of C10: a 2×3×3 table (orders 1,1,1; integer knots; coefficient `p` at flat position
`p`), monotonic dimension `m = 1` (`stride1 = 2`, `stride2 = 3`), point `(3/2, 3/2, 3/2)`.
(`#eval` of this `specEval` gives `3`, the slope of the coefficients along `m`.) -/
example : 0 ≤ specEval
    (⟨[⟨1, 4, 2, 9, fun i => (i : Rat)⟩, ⟨1, 5, 3, 3, fun i => (i : Rat)⟩, ⟨1, 5, 3, 1, fun i => (i : Rat)⟩],
      fun p => (p : Rat)⟩ : Table Rat)
    [3/2, 3/2, 3/2] [BasisMode.value, BasisMode.deriv1, BasisMode.value] := by
  apply C10_monotone _ 1 _ _ (⟨1, 5, 3, 3, fun i => (i : Rat)⟩ : Dim Rat) (3/2) rfl rfl rfl rfl
  · intro e mo h
    rcases e with _ | _ | _ | e <;> cases h <;> rfl
  · intro d hd
    simp only [List.mem_cons, List.not_mem_nil, or_false] at hd
    rcases hd with rfl | rfl | rfl <;>
      exact ⟨fun _ _ h => Int.cast_le.mpr h, rfl⟩
  · intro e d h
    rcases e with _ | _ | _ | e <;> cases h <;> rfl
  · exact Nat.le_refl 1
  · norm_num
  · norm_num
  · norm_num
  · intro i _ j _ k _
    exact Int.cast_le.mpr (Int.ofNat_le.mpr (by rw [idx3_succ]; exact Nat.le_add_right _ _))

/-- **C10, the surface itself**: if the coefficients are non-decreasing along dimension `m`, then moving the `m`-th
coordinate from `xm` up to `ym` inside the fully supported region of that dimension (all other coordinates fixed,
anywhere) does not decrease the value of the tensor-product spline — for every number of dimensions, every order
(0 included), every sorted knot vector. -/
theorem C10_surface_monotone (T : Table Rat) (m : Nat) (xs : List Rat) (ms : List BasisMode)
    (dm : Dim Rat) (xm ym : Rat)
    (hxs : xs.length = T.dims.length) (hms : ms.length = T.dims.length)
    (hdm : T.dims[m]? = some dm) (hxm : xs[m]? = some xm)
    (hmode : ∀ mo ∈ ms, mo = BasisMode.value)
    (hwf : ∀ d ∈ T.dims, d.WF)
    (hstride : ∀ e d, T.dims[e]? = some d →
      d.stride = ((T.dims.drop (e+1)).map Dim.naxes).foldl (· * ·) 1)
    (hlo : dm.knots dm.order ≤ xm) (hxy : xm ≤ ym) (hhi : ym ≤ dm.knots dm.naxes)
    (hlt : dm.knots dm.order < dm.knots dm.naxes)
    (hcoef : ∀ i, i < stride1 (T.dims.map Dim.naxes) m → ∀ j, j + 1 < dm.naxes →
      ∀ k, k < stride2 (T.dims.map Dim.naxes) m →
        T.coef (idx3 dm.naxes (stride2 (T.dims.map Dim.naxes) m) i j k : Nat)
          ≤ T.coef (idx3 dm.naxes (stride2 (T.dims.map Dim.naxes) m) i (j+1) k : Nat)) :
    specEval T xs ms ≤ specEval T (xs.set m ym) ms := by
  show specSum T.coef (specRows T.dims xs ms) 1 0 ≤ specSum T.coef (specRows T.dims (xs.set m ym) ms) 1 0
  have hwfm : dm.WF := hwf dm (List.mem_of_getElem? hdm)
  apply specSum_dims_le T.coef dm xm ym
    (fun c hc => spline_value_monotone_1d dm xm ym hwfm hlo hxy hhi hlt c hc)
    m T.dims xs ms hxs hms hdm hxm hmode (fun d hd => (hwf d hd).mono) (DimsRM_of_index _ hstride) 1 (by norm_num) 0
  intro i hi j hj k hk
  rw [zero_add, zero_add]
  exact hcoef i hi j hj k hk

/-- the same with the executable monotonicity check of the driver as hypothesis -/
theorem C10_surface_monotone_B (T : Table Rat) (m : Nat) (xs : List Rat) (ms : List BasisMode)
    (dm : Dim Rat) (xm ym : Rat)
    (hxs : xs.length = T.dims.length) (hms : ms.length = T.dims.length)
    (hdm : T.dims[m]? = some dm) (hxm : xs[m]? = some xm)
    (hmode : ∀ mo ∈ ms, mo = BasisMode.value)
    (hwf : ∀ d ∈ T.dims, d.WF)
    (hstride : ∀ e d, T.dims[e]? = some d →
      d.stride = ((T.dims.drop (e+1)).map Dim.naxes).foldl (· * ·) 1)
    (hlo : dm.knots dm.order ≤ xm) (hxy : xm ≤ ym) (hhi : ym ≤ dm.knots dm.naxes)
    (hlt : dm.knots dm.order < dm.knots dm.naxes)
    (hcoef : monoAlongB (fun a b => decide (a ≤ b)) (stride1 (T.dims.map Dim.naxes) m) dm.naxes
      (stride2 (T.dims.map Dim.naxes) m) (fun p => T.coef (p : Nat)) = true) :
    specEval T xs ms ≤ specEval T (xs.set m ym) ms :=
  C10_surface_monotone T m xs ms dm xm ym hxs hms hdm hxm hmode hwf hstride hlo hxy hhi hlt
    ((monoAlongB_iff _ _ _ (fun p => T.coef (p : Nat))).mp hcoef)

/-- **End to end**: a table whose coefficients are (the exact values of) the output of the back-transform of
`glamfit_complex` applied to any non-negative solver output is a surface non-decreasing along `m` on the fully supported
region. -/
theorem C10_fit_surface_monotone {δ : Type} [Preorder δ] (zd : δ) (mulS : δ → δ) (toF : δ → Rat)
    (add : Rat → Rat → Rat) (x : Nat → δ)
    (T : Table Rat) (m : Nat) (xs : List Rat) (ms : List BasisMode) (dm : Dim Rat) (xm ym : Rat)
    (hmul : ∀ a, zd ≤ a → zd ≤ mulS a) (htoF : ∀ a, zd ≤ a → 0 ≤ toF a) (hadd : ∀ a s, 0 ≤ a → s ≤ add a s)
    (hx : ∀ p, p < stride1 (T.dims.map Dim.naxes) m * dm.naxes * stride2 (T.dims.map Dim.naxes) m → zd ≤ x p)
    (hT : ∀ p : Nat, T.coef (p : Nat) = backTransform mulS toF add (stride1 (T.dims.map Dim.naxes) m) dm.naxes
      (stride2 (T.dims.map Dim.naxes) m) x p)
    (hxs : xs.length = T.dims.length) (hms : ms.length = T.dims.length)
    (hdm : T.dims[m]? = some dm) (hxm : xs[m]? = some xm)
    (hmode : ∀ mo ∈ ms, mo = BasisMode.value)
    (hwf : ∀ d ∈ T.dims, d.WF)
    (hstride : ∀ e d, T.dims[e]? = some d →
      d.stride = ((T.dims.drop (e+1)).map Dim.naxes).foldl (· * ·) 1)
    (hlo : dm.knots dm.order ≤ xm) (hxy : xm ≤ ym) (hhi : ym ≤ dm.knots dm.naxes)
    (hlt : dm.knots dm.order < dm.knots dm.naxes) :
    specEval T xs ms ≤ specEval T (xs.set m ym) ms := by
  apply C10_surface_monotone T m xs ms dm xm ym hxs hms hdm hxm hmode hwf hstride hlo hxy hhi hlt
  intro i hi j hj k hk
  rw [hT, hT]
  exact (backTransform_monotone zd 0 mulS toF add hmul htoF hadd _ _ _ x hx).1 i hi j hj k hk

/-- Non-vacuity of `C10_surface_monotone`: the 2×3×3 table above (orders 1,1,1; coefficient `p` at flat position `p`),
monotonic dimension 1, from `(3/2, 3/2, 3/2)` to `(3/2, 5/2, 3/2)`.  (`#eval` gives `11` and `14`.) -/
example : specEval
    (⟨[⟨1, 4, 2, 9, fun i => (i : Rat)⟩, ⟨1, 5, 3, 3, fun i => (i : Rat)⟩, ⟨1, 5, 3, 1, fun i => (i : Rat)⟩],
      fun p => (p : Rat)⟩ : Table Rat)
    [3/2, 3/2, 3/2] [BasisMode.value, BasisMode.value, BasisMode.value]
    ≤ specEval
    (⟨[⟨1, 4, 2, 9, fun i => (i : Rat)⟩, ⟨1, 5, 3, 3, fun i => (i : Rat)⟩, ⟨1, 5, 3, 1, fun i => (i : Rat)⟩],
      fun p => (p : Rat)⟩ : Table Rat)
    [3/2, 5/2, 3/2] [BasisMode.value, BasisMode.value, BasisMode.value] := by
  apply C10_surface_monotone _ 1 [3/2, 3/2, 3/2] _ (⟨1, 5, 3, 3, fun i => (i : Rat)⟩ : Dim Rat) (3/2) (5/2) rfl rfl rfl rfl
  · intro mo h
    simp only [List.mem_cons, List.not_mem_nil, or_false, or_self] at h
    exact h
  · intro d hd
    simp only [List.mem_cons, List.not_mem_nil, or_false] at hd
    rcases hd with rfl | rfl | rfl <;>
      exact ⟨fun _ _ h => Int.cast_le.mpr h, rfl⟩
  · intro e d h
    rcases e with _ | _ | _ | e <;> cases h <;> rfl
  · norm_num
  · norm_num
  · norm_num
  · norm_num
  · intro i _ j _ k _
    exact Int.cast_le.mpr (Int.ofNat_le.mpr (by rw [idx3_succ]; exact Nat.le_add_right _ _))

/-- Non-vacuity of the `_B` form: the executable hypothesis holds for that table (`stride1 = 2`, `n = 3`, `stride2 = 3`). -/
example : monoAlongB (fun a b : Rat => decide (a ≤ b)) 2 3 3 (fun p => ((p : Nat) : Rat)) = true := by decide +kernel

/-- Non-vacuity of the end-to-end form: solver output `x p = p % 2` in `Nat` (`zd = 0`), scaling by 3, conversion `Nat → ℚ`,
exact addition; the table `T.coef = backTransform …` satisfies `hT` by definition. -/
example : (∀ a : Nat, 0 ≤ a → 0 ≤ 3 * a) ∧ (∀ a : Nat, 0 ≤ a → (0 : Rat) ≤ (a : Rat)) ∧
    (∀ a s : Rat, 0 ≤ a → s ≤ a + s) ∧ (∀ p, p < 2 * 3 * 3 → 0 ≤ (fun p : Nat => p % 2) p) ∧
    (∀ p : Nat, (fun q : Int => backTransform (fun a : Nat => 3 * a) (fun a => (a : Rat)) (· + ·) 2 3 3 (fun p => p % 2) q.toNat) (p : Nat)
      = backTransform (fun a : Nat => 3 * a) (fun a => (a : Rat)) (· + ·) 2 3 3 (fun p => p % 2) p) :=
  ⟨fun _ _ => Nat.zero_le _, fun a _ => Nat.cast_nonneg a, fun a s h => le_add_of_nonneg_left h, fun _ _ => Nat.zero_le _,
   fun p => by simp⟩

section Inactive
variable {n : ℕ} {α : Type} [Field α] [LinearOrder α] [IsStrictOrderedRing α]

omit [LinearOrder α] [IsStrictOrderedRing α] in
/-- The normal equations of the T-spline problem are the change of basis `c = L t` of the B-spline ones:
with `A_T = Lᵀ A L`, `b_T = Lᵀ b`, any solution `c = L t` of `A c = b` gives a solution `t` of `A_T t = b_T`
(`L` need not even be the ones matrix here). -/
theorem tcoords_normal_eq (A L : Matrix (Fin n) (Fin n) α) (b t : Fin n → α)
    (h : A *ᵥ (L *ᵥ t) = b) : (Lᵀ * A * L) *ᵥ t = Lᵀ *ᵥ b := by
  rw [← h, Matrix.mulVec_mulVec, Matrix.mulVec_mulVec, Matrix.mul_assoc]

/-- **Inactive constraint.**  If the unconstrained minimiser of the (T-coordinate) quadratic — the solution `t` of
`A t = b` with `A` symmetric positive definite — is component-wise non-negative, then it satisfies the KKT conditions
of the non-negative problem and is therefore (by `kkt_unique_min`) its unique solution: the monotonic fit returns the
unconstrained fit. -/
theorem inactive_constraint (A : Matrix (Fin n) (Fin n) α) (b t : Fin n → α) (hA : SPD A)
    (hsol : A *ᵥ t = b) (ht : ∀ i, 0 ≤ t i) :
    KKT A b t ∧ ∀ z : Fin n → α, (∀ i, 0 ≤ z i) → qf A b t ≤ qf A b z ∧ (qf A b z = qf A b t → z = t) :=
  ⟨.of_stationary hsol ht, kkt_unique_min A b t hA (.of_stationary hsol ht)⟩

end Inactive

/-- non-vacuity of `inactive_constraint`: the 2 × 2 example of C11 with `b = A (1, 2)` -/
example : SPD (Nnls.toMat 2 exA) ∧
    (Nnls.toMat 2 exA) *ᵥ (fun i : Fin 2 => if i = 0 then (1:ℚ) else 2) = (fun i : Fin 2 => if i = 0 then (4:ℚ) else 5) ∧
    ∀ i : Fin 2, (0:ℚ) ≤ (fun i : Fin 2 => if i = 0 then (1:ℚ) else 2) i :=
  ⟨exA_spd, by decide +kernel, by decide +kernel⟩

/-- **Witness for the penalty defect** (2 coefficients in the monotonic dimension): the Kronecker factor that the
unrepaired `calc_penalty` puts in the monotonic slot when it penalises *another* dimension is the identity, whereas the
change of basis `c = L t` requires `LᵀL = [[2,1],[1,1]]`.  So for ≥ 2 dimensions the unrepaired monotonic fit minimises a
different objective and `inactive_constraint` does not apply to it. -/
theorem penalty_factor_differs :
    let L : Matrix (Fin 2) (Fin 2) ℚ := fun i j => if j ≤ i then 1 else 0
    Lᵀ * L ≠ (1 : Matrix (Fin 2) (Fin 2) ℚ) := by
  intro L h
  -- entry `(0,0)` of `LᵀL` is `2`
  exact absurd (congrFun (congrFun h 0) 0) (by decide +kernel)

section InactiveB
variable {N : ℕ} {α : Type} [Field α] [LinearOrder α] [IsStrictOrderedRing α]

/-- the objective of the T-spline problem (matrix `LᵀAL`, right-hand side `Lᵀb`) **is** the objective of the B-spline
problem evaluated at `c = L t` -/
theorem tobjective_eq (A L : Matrix (Fin N) (Fin N) α) (b t : Fin N → α) :
    qf (Lᵀ * A * L) (Lᵀ *ᵥ b) t = qf A b (L *ᵥ t) :=
  qf_tcoords A L b t

/-- **Inactive constraint, in B-spline coordinates.**  `A` symmetric positive definite (the normal matrix of the
penalised least-squares objective `qf A b`), `L` an injective change of variables `c = L t`, `c` the solution of the normal
equations `A c = b`.  If `c = L t` with `t ≥ 0` (the unconstrained fit has non-negative increments), then
1. `c` minimises `qf A b` over *all* vectors (it is the unconstrained fit),
2. the T-problem `(LᵀAL, Lᵀb)` — the **same objective** by `tobjective_eq` — is positive definite and `t` is a KKT point of it,
3. `c` minimises `qf A b` over the cone `{L z : z ≥ 0}`, uniquely,
4. whatever KKT point `t'` of the T-problem a non-negative solver returns, the back-transform `L t'` **is** `c`. -/
theorem inactive_constraint_B (A L : Matrix (Fin N) (Fin N) α) (b c t : Fin N → α) (hA : SPD A)
    (hL : ∀ v, L *ᵥ v = 0 → v = 0) (hsol : A *ᵥ c = b) (hc : c = L *ᵥ t) (ht : ∀ i, 0 ≤ t i) :
    (∀ z, qf A b c ≤ qf A b z) ∧
    SPD (Lᵀ * A * L) ∧ KKT (Lᵀ * A * L) (Lᵀ *ᵥ b) t ∧
    (∀ z : Fin N → α, (∀ i, 0 ≤ z i) → qf A b c ≤ qf A b (L *ᵥ z) ∧ (qf A b (L *ᵥ z) = qf A b c → z = t)) ∧
    (∀ t' : Fin N → α, KKT (Lᵀ * A * L) (Lᵀ *ᵥ b) t' → L *ᵥ t' = c) := by
  have hspd := spd_tcoords A L hA hL
  have hT : (Lᵀ * A * L) *ᵥ t = Lᵀ *ᵥ b := tcoords_normal_eq A L b t (by rw [← hc]; exact hsol)
  obtain ⟨hk, hmin⟩ := inactive_constraint (Lᵀ * A * L) (Lᵀ *ᵥ b) t hspd hT ht
  refine ⟨normal_eq_global_min A b c hA hsol, hspd, hk, fun z hz => ?_, fun t' hk' => ?_⟩
  · have := hmin z hz
    rw [tobjective_eq, tobjective_eq, ← hc] at this
    exact this
  · rw [hk'.unique hspd hk, hc]

end InactiveB

/-- non-vacuity of `inactive_constraint_B`: `A = exA` (C11), `L` the 2 × 2 lower-triangular ones matrix, `t = (1, 1)`,
`c = L t = (1, 2)`, `b = A c = (4, 5)` -/
example : SPD (Nnls.toMat 2 exA) ∧ (∀ v, cumMat ℚ 1 2 1 *ᵥ v = 0 → v = 0) ∧
    (Nnls.toMat 2 exA) *ᵥ ![1, 2] = ![4, 5] ∧ (![1, 2] : Fin 2 → ℚ) = cumMat ℚ 1 2 1 *ᵥ ![1, 1] ∧
    ∀ i : Fin 2, (0:ℚ) ≤ ![1, 1] i :=
  ⟨exA_spd, cumMat_injective 1 2 1, by decide +kernel, by decide +kernel, by decide +kernel⟩

/-- **Inactive constraint for the cumulative-sum change of variables, any shape `s1 × n × s2`.**  If the unconstrained fit
`c` (solution of `A c = b`, `A` positive definite) has a non-negative first slice and non-negative increments along the
monotonic index (`diffAlong`), then for **every** KKT point `t'` of the T-problem `(LᵀAL, Lᵀb)`, `L = cumMat`, the
cumulative sum of `t'` computed by the loop of `glamfit_complex` (in exact arithmetic) returns exactly `c`. -/
theorem inactive_constraint_cumsum {α : Type} [Field α] [LinearOrder α] [IsStrictOrderedRing α] (s1 n s2 : Nat)
    (A : Matrix (Fin (s1 * n * s2)) (Fin (s1 * n * s2)) α) (b c : Fin (s1 * n * s2) → α) (hA : SPD A)
    (hsol : A *ᵥ c = b)
    (hinc : ∀ p, p < s1 * n * s2 → 0 ≤ diffAlong (· - ·) n s2 (extZ c) p) :
    ∀ t' : Fin (s1 * n * s2) → α,
      KKT ((cumMat α s1 n s2)ᵀ * A * cumMat α s1 n s2) ((cumMat α s1 n s2)ᵀ *ᵥ b) t' →
      ∀ p : Fin (s1 * n * s2), cumsumLoop (· + ·) s1 n s2 (extZ t') p.val = c p := by
  intro t' hk p
  have := (inactive_constraint_B A (cumMat α s1 n s2) b c _ hA (cumMat_injective s1 n s2) hsol
    (cumMat_mulVec_diffAlong s1 n s2 c).symm (fun q => hinc q.val q.isLt)).2.2.2.2 t' hk
  rw [← cumMat_mulVec, this]

/-- non-vacuity: shape 1 × 2 × 1, `A = exA`, `c = (1, 2)` has increments `(1, 1) ≥ 0` -/
example : SPD (Nnls.toMat 2 exA) ∧ (Nnls.toMat 2 exA) *ᵥ ![1, 2] = ![4, 5] ∧
    ∀ p, p < 1 * 2 * 1 → (0 : ℚ) ≤ diffAlong (· - ·) 2 1 (extZ (![1, 2] : Fin (1 * 2 * 1) → ℚ)) p :=
  ⟨exA_spd, by decide +kernel, by decide +kernel⟩

/-- **The clause for the objective the property states** (`objective P` of `Spec/Fit.lean`, the penalised weighted
least-squares objective of C09 — data term *and* penalty in B-spline coefficients): if the unconstrained minimiser is the
cumulative sum of non-negative increments `t`, it minimises `objective P` over all tables with non-negative increments,
and (normal matrix positive definite) it is the only such minimiser: every `t'` that does as well equals `t` on the box.
(The first clause is the hypothesis restricted to those tables; the content is the uniqueness.  `inactive_constraint_B` is
the same clause for any positive definite matrix, without the model's `objective`.) -/
theorem inactive_constraint_objective (P : FitProblem Rat) (hP : NormalEq.PosDef P.ncoef (Mf P)) (s1 n s2 : Nat)
    (hN : s1 * n * s2 = P.ncoef) (t : Nat → Rat)
    (hmin : ∀ c' : Nat → Rat, objective P (cumsumLoop (· + ·) s1 n s2 t) ≤ objective P c') :
    (∀ t' : Nat → Rat, (∀ p, p < s1 * n * s2 → 0 ≤ t' p) →
      objective P (cumsumLoop (· + ·) s1 n s2 t) ≤ objective P (cumsumLoop (· + ·) s1 n s2 t')) ∧
    (∀ t' : Nat → Rat, objective P (cumsumLoop (· + ·) s1 n s2 t') ≤ objective P (cumsumLoop (· + ·) s1 n s2 t) →
      ∀ p, p < s1 * n * s2 → t' p = t p) := by
  refine ⟨fun t' _ => hmin _, fun t' hle => ?_⟩
  obtain ⟨hiff, huniq⟩ := fit_is_minimiser P (cumsumLoop (· + ·) s1 n s2 t) hP
  exact cumsum_injective s1 n s2 t' t (fun p hp => huniq (hiff.2 hmin) _ hle p (by omega))

/-- non-vacuity: the example problem of C09 (`exP`: two coefficients, minimiser `(1, 1)`) with shape 1 × 2 × 1 and
increments `t = (1, 0)` -/
example : NormalEq.PosDef exP.ncoef (Mf exP) ∧ 1 * 2 * 1 = exP.ncoef ∧
    ∀ c' : Nat → Rat, objective exP (cumsumLoop (· + ·) 1 2 1 (fun p => if p = 0 then 1 else 0)) ≤ objective exP c' := by
  refine ⟨exP_posDef, rfl, ?_⟩
  refine (fit_is_minimiser exP _ exP_posDef).1.1 fun i hi => ?_
  have hi' : i < 2 := hi
  have e : ∀ q, q < 2 → cumsumLoop (· + ·) 1 2 1 (fun p => if p = 0 then (1 : Rat) else 0) q = (fun _ => (1 : Rat)) q := by
    intro q hq
    have hq' : q = 0 ∨ q = 1 := by omega
    rcases hq' with rfl | rfl <;> decide +kernel
  rw [← exP_normal i hi]
  unfold NormalEq.mulVec
  apply Finset.sum_congr rfl
  intro j hj
  rw [e j (Finset.mem_range.mp hj)]

/-- **The code's objective in one dimension is the same objective.**  With a single dimension the only penalty is that of
the monotonic dimension itself, which `calc_penalty(mono = 1)` builds from the finite-difference matrix times `L`
(`finitediff · tril`): `Lᵀ G L + λ (D L)ᵀ (D L) = Lᵀ (G + λ DᵀD) L` — the change of basis of the B-spline normal matrix, so
`inactive_constraint_B` applies to what the code solves (the check finds the 1-d inactive case agreeing to 1e-7).  In two
or more dimensions this fails: `inactive_clause_fails_for_code_penalty`. -/
theorem code_objective_1d {N K : ℕ} {α : Type} [Field α] (G L : Matrix (Fin N) (Fin N) α) (D : Matrix (Fin K) (Fin N) α)
    (lam : α) :
    Lᵀ * G * L + lam • ((D * L)ᵀ * (D * L)) = Lᵀ * (G + lam • (Dᵀ * D)) * L := by
  rw [Matrix.transpose_mul, Matrix.mul_add, Matrix.add_mul, Matrix.mul_smul, Matrix.smul_mul]
  congr 2
  simp only [Matrix.mul_assoc]

/-- 2 × 2 table, monotonic dimension 0 (`s1 = 1, n = 2, s2 = 2`): `L = cumMat` -/
def cexL : Matrix (Fin 4) (Fin 4) ℚ := cumMat ℚ 1 2 2
/-- smoothness penalty of dimension 1 in B-spline coefficients, `I₂ ⊗ DᵀD` with `D = (−1 1)` (first differences) -/
def cexP : Matrix (Fin 4) (Fin 4) ℚ := !![1,-1,0,0; -1,1,0,0; 0,0,1,-1; 0,0,-1,1]
/-- the B-spline normal matrix: data term `BᵀWB = 1` plus the penalty -/
def cexA : Matrix (Fin 4) (Fin 4) ℚ := 1 + cexP
/-- what `glamfit_complex` + `calc_penalty` assemble for the monotonic fit: the data term in T-coordinates, but the
penalty of the *other* dimension with the identity in the monotonic slot (`I₂ ⊗ DᵀD` again, instead of `LᵀL ⊗ DᵀD`) -/
def cexAcode : Matrix (Fin 4) (Fin 4) ℚ := cexLᵀ * 1 * cexL + cexP
def cexb : Fin 4 → ℚ := ![0, 3, 1, 7]
def cexc : Fin 4 → ℚ := ![1, 2, 3, 5]
def cext : Fin 4 → ℚ := ![6/11, 27/11, 20/11, 35/11]
def cexAcodeN : Nnls.Mat := fun i j =>
  (([[3,-1,1,0], [-1,3,0,1], [1,0,2,-1], [0,1,-1,2]] : List (List ℚ)).getD i []).getD j 0

/-- **Counterexample for the code's objective** (known finding `inactive:differs:nd`; `fixes/C10-1.diff` repairs it).
The unconstrained fit `c = (1,2;3,5)` of the 2 × 2 problem `(cexA, cexb)` has non-negative increments along dimension 0,
so by `inactive_constraint_B` the monotonic fit for the *same* objective returns `c`.  The matrix the code assembles
(`cexAcode`) differs from the change of basis `LᵀAL`; it is positive definite, `t' = (6,27,20,35)/11 ≥ 0` solves its
normal equations — so `t'` is the unique solution of the non-negative problem the code hands to its solver — and the
back-transform `L t' = (6,27,26,62)/11` is not `c`. -/
theorem inactive_clause_fails_for_code_penalty :
    cexA *ᵥ cexc = cexb ∧ (∀ p, p < 1 * 2 * 2 → 0 ≤ diffAlong (· - ·) 2 2 (extZ cexc) p) ∧
    cexAcode ≠ cexLᵀ * cexA * cexL ∧
    SPD cexAcode ∧ KKT cexAcode (cexLᵀ *ᵥ cexb) cext ∧
    (∀ t' : Fin 4 → ℚ, KKT cexAcode (cexLᵀ *ᵥ cexb) t' → t' = cext) ∧
    cexL *ᵥ cext ≠ cexc := by
  have hN : cexAcode = Nnls.toMat 4 cexAcodeN := by decide +kernel
  have hspd : SPD cexAcode := by
    rw [hN]; exact spdCert_sound 4 cexAcodeN (by decide +kernel)
  have hk : KKT cexAcode (cexLᵀ *ᵥ cexb) cext := .of_stationary (by decide +kernel) (by decide +kernel)
  refine ⟨by decide +kernel, by decide +kernel, by decide +kernel, hspd, hk, fun t' hk' => hk'.unique hspd hk, by decide +kernel⟩

section KnotScale
variable {α : Type} [Field α] [LinearOrder α] [IsStrictOrderedRing α] [A : Arith α] [L : LawfulArith α]

/-- de Boor's recurrence on knots `h·t`: the `p`-th derivative coefficients are those on `t` divided by `h^p`
(also at repeated knots, where both sides are `0`). -/
theorem derivCoef_knot_scale (h : α) (hh : h ≠ 0) (t : Int → α) (order p : Nat) (c : Nat → α) (j : Nat) :
    derivCoef (scaleKnots h t) order p c j = derivCoef t order p c j / h ^ p :=
  derivCoef_knot_scale' h hh t order p c j

/-- `divided_diffs(order, p, j, h·knots, out)`: every one of the `p+1` weights is the weight for `knots` divided by `h^p`:
each of the `p` levels of the recursion divides by `delta = (t_{j+order+1} − t_{j+porder})/(order − (porder−1))`, which is
`h` times larger; nothing else in `divided_diffs` depends on the knots. -/
theorem divided_diffs_knot_scale (h : α) (hh : h ≠ 0) (t : Int → α) (order p j i : Nat) :
    (dividedDiffs (scaleKnots h t) order p j).getD i 0 = (dividedDiffs t order p j).getD i 0 / h ^ p :=
  dividedDiffs_knot_scale' h hh t order p j i

/-- the rows of the `p`-th divided-difference matrix of `calc_penalty` scale by `h^-p`: every entry of `finitediff`
(`mono = 0`) and of `finitediff · tril` (`mono = 1`, the matrix of the monotonic dimension). -/
theorem finiteDiff_knot_scale (h : α) (hh : h ≠ 0) (t : Int → α) (order p n r c : Nat) :
    (finiteDiff (scaleKnots h t) order p n).get r c = (finiteDiff t order p n).get r c / h ^ p
    ∧ (finiteDiffMono (scaleKnots h t) order p n).get r c = (finiteDiffMono t order p n).get r c / h ^ p :=
  ⟨finiteDiff_knot_scale' h hh t order p n r c, finiteDiffMono_knot_scale' h hh t order p n r c⟩

/-- non-vacuity / instance: uniform knots `2^20 · i`, third differences: `[-1, 3, -3, 1] / 2^60`; times `tril`: `[0, 1, -2, 1] / 2^60`. -/
example : dividedDiffs (scaleKnots (1048576 : Rat) (fun i => (i : Rat))) 3 3 0
      = [-1 / 1152921504606846976, 3 / 1152921504606846976, -3 / 1152921504606846976, 1 / 1152921504606846976]
    ∧ (List.range 4).map ((finiteDiffMono (scaleKnots (1048576 : Rat) (fun i => (i : Rat))) 3 3 6).get 0)
      = [0, 1 / 1152921504606846976, -2 / 1152921504606846976, 1 / 1152921504606846976] := by
  constructor <;> decide +kernel

/-- what `add_penalty_term` adds (`scale · DᵀD`, `DᵀD` = `dtd`) for a dimension on an axis rescaled by `h` with smoothing
`λ h^(2p)` is, entry by entry, what it adds at scale 1 with smoothing `λ`; in both branches of `calc_penalty`. -/
theorem penalty_chunk_knot_scale_code (h : α) (hh : h ≠ 0) (lam : α) (t : Int → α) (order p n i j : Nat) :
    lam * h ^ (2 * p) * (dtd (finiteDiff (scaleKnots h t) order p n)).get i j = lam * (dtd (finiteDiff t order p n)).get i j
    ∧ lam * h ^ (2 * p) * (dtd (finiteDiffMono (scaleKnots h t) order p n)).get i j
        = lam * (dtd (finiteDiffMono t order p n)).get i j :=
  penalty_chunk_knot_scale h hh lam t order p n i j

/-- non-vacuity / instance: `h = 2^20 ≠ 0`, non-uniform knots `t_i = i²`, `λ = 5`, penalty order 2, entry `(2, 3)` of the monotonic branch;
and the second derivative coefficient `0` of `c_i = i³` on the rescaled knots is the one at scale 1 divided by `2^40`. -/
example : (1048576 : Rat) ≠ 0
    ∧ (5 : Rat) * 1048576 ^ (2 * 2) * (dtd (finiteDiffMono (scaleKnots (1048576 : Rat) (fun i => ((i * i : Int) : Rat))) 3 2 6)).get 2 3
        = 5 * (dtd (finiteDiffMono (fun i => ((i * i : Int) : Rat)) 3 2 6)).get 2 3
    ∧ (dtd (finiteDiffMono (fun i => ((i * i : Int) : Rat)) 3 2 6)).get 2 3 ≠ 0
    ∧ derivCoef (scaleKnots (1048576 : Rat) (fun i => ((i * i : Int) : Rat))) 3 2 (fun i => ((i * i * i : Nat) : Rat)) 0
        = derivCoef (fun i => ((i * i : Int) : Rat)) 3 2 (fun i => ((i * i * i : Nat) : Rat)) 0 / 1048576 ^ 2 := by
  have hh : (1048576 : Rat) ≠ 0 := by norm_num
  exact ⟨hh, (penalty_chunk_knot_scale_code 1048576 hh 5 _ 3 2 6 2 3).2, by decide +kernel,
    derivCoef_knot_scale 1048576 hh _ 3 2 _ 0⟩

/-- the Cox–de Boor basis values (right-continuous order-0 indicator of the specification, `a/0 = 0` at repeated knots)
are invariant under simultaneous scaling of the knots and the abscissa by `h > 0` — every order, every index. -/
theorem Bind_knot_scale (h : α) (hpos : 0 < h) (t : Int → α) (x : α) (n : Nat) (i : Int) :
    Bind (indR (scaleKnots h t) (h * x)) (scaleKnots h t) (h * x) n i = Bind (indR t x) t x n i :=
  Bind_knot_scale' h hpos t x n i

example : Bind (indR (scaleKnots (1048576 : Rat) (fun i => (i : Rat))) (1048576 * (5/2)))
      (scaleKnots (1048576 : Rat) (fun i => (i : Rat))) (1048576 * (5/2)) 2 1 = 3/4 := by decide +kernel

/-- **The objective on rescaled axes is the same objective.**  `P.knotScale hs`: knots and abscissae of dimension `d`
multiplied by `h_d > 0`, smoothing `λ_d` replaced by `λ_d h_d^(2 p_d)`; data, weights, orders and penalty orders unchanged.
For every coefficient vector the penalised weighted least-squares objective of the specification has the same value. -/
theorem objective_knot_scale (hs : List α) (hpos : ∀ h ∈ hs, 0 < h) (P : FitProblem α) (c : Nat → α) :
    objective (P.knotScale hs) c = objective P c :=
  objective_knotScale hs hpos P c

/-- **Knot-scale equivariance of the unconstrained and of the monotonic fit** (exact arithmetic).  On the rescaled axes
1. the objective is the same function of the coefficients;
2. `c` minimises it over all coefficient vectors iff `c` minimises the original objective (the unconstrained fits coincide);
3. a cumulative sum of non-negative increments `t` (the tables the monotonic fit ranges over, any shape `s1 × n × s2`)
   minimises it over all such tables iff it does so for the original objective (the monotonic fits coincide).
The content is 1; 2 and 3 restate it for the two minimisation problems. -/
theorem C10_knot_scale_equivariant (hs : List α) (hpos : ∀ h ∈ hs, 0 < h) (P : FitProblem α) (s1 n s2 : Nat) :
    (∀ c, objective (P.knotScale hs) c = objective P c) ∧
    (∀ c, (∀ c', objective (P.knotScale hs) c ≤ objective (P.knotScale hs) c') ↔ (∀ c', objective P c ≤ objective P c')) ∧
    (∀ t : Nat → α,
      (∀ t' : Nat → α, (∀ p, p < s1 * n * s2 → 0 ≤ t' p) →
        objective (P.knotScale hs) (cumsumLoop (· + ·) s1 n s2 t) ≤ objective (P.knotScale hs) (cumsumLoop (· + ·) s1 n s2 t'))
      ↔ (∀ t' : Nat → α, (∀ p, p < s1 * n * s2 → 0 ≤ t' p) →
        objective P (cumsumLoop (· + ·) s1 n s2 t) ≤ objective P (cumsumLoop (· + ·) s1 n s2 t'))) := by
  have e := objective_knot_scale hs hpos P
  refine ⟨e, fun c => ?_, fun t => ?_⟩
  · simp only [e]
  · simp only [e]

end KnotScale

/-- non-vacuity: the example problem of C09 (`exP`: knots `0,1,2,3`, order 1, penalty order 1, `λ = 1`) on an axis
rescaled by `2^20`: the knots become `2^20 i`, the smoothing `2^40`, the abscissae `2^20 x`; the scale is positive and
the objective at `c = (0, 1)` is the same number. -/
example : (∀ h ∈ [(1048576 : Rat)], 0 < h) ∧ (exP.knotScale [1048576]).smooth = [1099511627776]
    ∧ ((exP.knotScale [1048576]).dims.map fun d => d.knots 3) = [3145728]
    ∧ objective (exP.knotScale [1048576]) (fun p => (p : Rat)) = objective exP (fun p => (p : Rat)) := by
  refine ⟨by simp, by decide +kernel, by decide +kernel, by decide +kernel⟩

/-- **The inactive clause on rescaled axes.**  If at scale 1 the unconstrained minimiser is the cumulative sum of
non-negative increments `t` (normal matrix positive definite), then on the rescaled axes the same table is the unconstrained
minimiser, it minimises the objective over all tables with non-negative increments, and it is the only such minimiser:
the monotonic fit at scale `h` returns the coefficients of the unconstrained fit at scale `h` — and both are the fits at
scale 1.  (What the check judges in one dimension, where the code's objective is this one: `code_objective_1d`.)
The first two clauses are the hypothesis carried over by `objective_knot_scale`; the content is the uniqueness. -/
theorem C10_inactive_on_rescaled_axes (P : FitProblem Rat) (hP : NormalEq.PosDef P.ncoef (Mf P)) (hs : List Rat)
    (hpos : ∀ h ∈ hs, 0 < h) (s1 n s2 : Nat) (hN : s1 * n * s2 = P.ncoef) (t : Nat → Rat)
    (hmin : ∀ c' : Nat → Rat, objective P (cumsumLoop (· + ·) s1 n s2 t) ≤ objective P c') :
    (∀ c' : Nat → Rat, objective (P.knotScale hs) (cumsumLoop (· + ·) s1 n s2 t) ≤ objective (P.knotScale hs) c') ∧
    (∀ t' : Nat → Rat, (∀ p, p < s1 * n * s2 → 0 ≤ t' p) →
      objective (P.knotScale hs) (cumsumLoop (· + ·) s1 n s2 t)
        ≤ objective (P.knotScale hs) (cumsumLoop (· + ·) s1 n s2 t')) ∧
    (∀ t' : Nat → Rat, objective (P.knotScale hs) (cumsumLoop (· + ·) s1 n s2 t')
        ≤ objective (P.knotScale hs) (cumsumLoop (· + ·) s1 n s2 t) →
      ∀ p, p < s1 * n * s2 → t' p = t p) := by
  have e := objective_knot_scale hs hpos P
  obtain ⟨h1, h2⟩ := inactive_constraint_objective P hP s1 n s2 hN t hmin
  simp only [e]
  exact ⟨hmin, h1, h2⟩

/-- non-vacuity: `exP`, shape 1 × 2 × 1, increments `t = (1, 0)` (the example of `inactive_constraint_objective`), axis scale `2^20` -/
example : NormalEq.PosDef exP.ncoef (Mf exP) ∧ (∀ h ∈ [(1048576 : Rat)], 0 < h) ∧ 1 * 2 * 1 = exP.ncoef :=
  ⟨exP_posDef, by simp, rfl⟩

/-- **An absolute drop tolerance is not scale-invariant** (the modelled reason why the seeded change C10-6 — `cholmod_l_drop(DBL_EPSILON,
finitediff, c)` after `finitediff = finitediff · tril` in `calc_penalty` — breaks the equivariance).  Uniform knots `t_i = i`,
spline order 3, penalty order 3, 6 coefficients, tolerance `2^-52`, axis scale `h = 2^20`:
1. at scale 1 the drop removes nothing but exact zeros: the matrix `D · tril` (rows `[0, 1, −2, 1, 0, 0]`, …) is unchanged;
2. at scale `h` its genuine entries are those divided by `h³ = 2^60` (`finiteDiff_knot_scale`), e.g. `2^-60 ≠ 0` …
3. … all of them below the tolerance: the drop removes **every** entry,
4. so `DᵀD = 0`: the smoothing penalty of the monotonic dimension vanishes whatever the smoothing `λ h⁶` is, whereas
5. the equivariant value of the entry `(1,1)` of `λ h⁶ · DᵀD` is `λ · 1 ≠ 0` (here `λ = 1`). -/
theorem absolute_drop_not_scale_invariant :
    (∀ r < 3, ∀ c < 6, ((finiteDiffMono (fun i => (i : Rat)) 3 3 6).dropTol (1 / 4503599627370496)).get r c
        = (finiteDiffMono (fun i => (i : Rat)) 3 3 6).get r c) ∧
    (finiteDiffMono (scaleKnots (1048576 : Rat) (fun i => (i : Rat))) 3 3 6).get 0 1 = 1 / 1152921504606846976 ∧
    (∀ r < 3, ∀ c < 6,
      ((finiteDiffMono (scaleKnots (1048576 : Rat) (fun i => (i : Rat))) 3 3 6).dropTol (1 / 4503599627370496)).get r c = 0) ∧
    (∀ i < 6, ∀ j < 6,
      (dtd ((finiteDiffMono (scaleKnots (1048576 : Rat) (fun i => (i : Rat))) 3 3 6).dropTol (1 / 4503599627370496))).get i j = 0) ∧
    (1 : Rat) * 1048576 ^ (2 * 3) * (dtd (finiteDiffMono (scaleKnots (1048576 : Rat) (fun i => (i : Rat))) 3 3 6)).get 1 1 = 1 := by
  have h3 : ∀ r < 3, ∀ c < 6,
      ((finiteDiffMono (scaleKnots (1048576 : Rat) (fun i => (i : Rat))) 3 3 6).dropTol (1 / 4503599627370496)).get r c = 0 := by
    decide +kernel
  exact ⟨by decide +kernel, by decide +kernel, h3, fun i _ j _ => dtd_get_eq_zero _ h3 i j, by decide +kernel⟩

end PsV
