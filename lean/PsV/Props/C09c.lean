import PsV.Props.C09
import PsV.Proofs.GlamFlatten
import PsV.Proofs.FitPosDef
/-!
# C09 (continued) — the C-typed index arithmetic of `flatten_ndarray_to_sparse`, and scale equivariance

The check of C09 audits this file with `Props/C09.lean` and `Props/C09b.lean`.

**Part 1.**  `glam_eq_kron_C09` (Props/C09b.lean) is about `flattenNd`, whose positions are natural numbers.  The C
routine computes them with `long moduli[]`, `unsigned` ranges and indices, and `k % ncol`, `k / ncol` against a `size_t`
(`flattenC`, Model/GlamFlatten.lean — the definition `psvdriver C09` runs against the real function on every check).
Here: for every number of axes, as long as `Π ranges < 2⁶³` (a normal matrix with fewer than 2⁶³ cells, i.e. fewer than
about 3·10⁹ coefficients) the C-typed routine *is* the natural-number model — in particular beyond 2³² cells (more than
65536 coefficients), where a 32-bit stride type is wrong (`flatten_unsigned_moduli_collides`, `flatten_int_moduli_wrong`:
concrete witnesses for the 257 × 257 case).

**Part 2.**  Multiplying all weights and all smoothing strengths by a common `s > 0` multiplies the objective by `s`, so
it has the same minimiser; no absolute threshold on a smoothing strength (other than `= 0`) is compatible with this.
-/
namespace PsV
open NormalEq

/-- **(a) no conversion changes anything below 2⁶³ cells.**  Ranges that fit their type `unsigned int`, an index tuple
inside the ranges, `Π ranges < 2⁶³`, `0 < ncol < 2⁶⁴` (a `size_t`): the row and column that the C-typed routine
(`long moduli[]`, `k += i[j]*moduli[j]`, `(unsigned long)k / ncol`, `(unsigned long)k % ncol`, results stored as `long`)
computes are quotient and remainder of the mathematical mixed-radix number `Σ_j idx_j · Π_{k>j} ranges_k`. -/
theorem flatten_ctypes_exact (ranges idx : List Nat) (ncol : Nat) (hv : IdxIn idx ranges)
    (h32 : ∀ r ∈ ranges, r < 4294967296) (hb : natProd ranges < 9223372036854775808)
    (hn0 : 0 < ncol) (hn : ncol < 18446744073709551616) :
    flattenC ranges idx ncol
      = .ok (((glamRowMajor ranges idx / ncol : Nat) : Int), ((glamRowMajor ranges idx % ncol : Nat) : Int)) :=
  flattenC_eq_nat ranges idx ncol hv h32 hb hn0 hn

/-- non-vacuity: the last row block of the 257 × 257 normal matrix (flattened position 254·257³ = 4 311 546 622 > 2³²) -/
example : IdxIn [254, 0, 0, 0] [257, 257, 257, 257] ∧ (∀ r ∈ [257, 257, 257, 257], r < 4294967296)
    ∧ natProd [257, 257, 257, 257] < 9223372036854775808
    ∧ flattenC [257, 257, 257, 257] [254, 0, 0, 0] 66049 = .ok (65278, 0) := by
  exact ⟨⟨rfl, by decide +kernel⟩, by decide +kernel, by decide +kernel, by decide +kernel⟩

/-- **(b) row and column are the flat indices of the two halves of the index tuple.**  `ranges = A ++ B`,
`idx = ia ++ ib`, `ncol = Π B` — the way glam.c calls the routine: for `F`, `A = B = (n₁,…,n_d)` and
`nrow = ncol = sidelen`; for `R`, `A = (n₁,…,n_d)`, `B = ()`, `ncol = 1`.  Then `row = glamRowMajor A ia` and
`col = glamRowMajor B ib`. -/
theorem flatten_row_col_halves (A B ia ib : List Nat) (ha : IdxIn ia A) (hb : IdxIn ib B)
    (h32 : ∀ r ∈ A ++ B, r < 4294967296) (hprod : natProd (A ++ B) < 9223372036854775808) :
    flattenC (A ++ B) (ia ++ ib) (natProd B) = .ok ((glamRowMajor A ia : Int), (glamRowMajor B ib : Int)) := by
  have hB := natProd_pos_of_idxIn B ib hb
  have hA := natProd_pos_of_idxIn A ia ha
  have hlt := glamRowMajor_lt B ib hb
  have hBle : natProd B ≤ natProd (A ++ B) := by
    rw [ndFlat_natProd_append]; exact Nat.le_mul_of_pos_left _ hA
  rw [flatten_ctypes_exact (A ++ B) (ia ++ ib) (natProd B) (idxIn_append ia ib A B ha hb) h32 hprod hB (by omega),
    glamRowMajor_append A B ia ib ha.1, Permute.mul_add_div _ hlt, Nat.mul_add_mod_of_lt hlt]

/-- the call for `F`: axes `n₁,…,n_d,n₁,…,n_d`, `ncol = sidelen = Π n` -/
theorem flatten_F_row_col (ns ia ib : List Nat) (ha : IdxIn ia ns) (hb : IdxIn ib ns)
    (h32 : ∀ r ∈ ns, r < 4294967296) (hprod : natProd ns * natProd ns < 9223372036854775808) :
    flattenC (ns ++ ns) (ia ++ ib) (natProd ns) = .ok ((glamRowMajor ns ia : Int), (glamRowMajor ns ib : Int)) :=
  flatten_row_col_halves ns ns ia ib ha hb (fun r hr => h32 r (by simpa using hr))
    (by rw [ndFlat_natProd_append]; exact hprod)

/-- the call for `R`: axes `n₁,…,n_d`, `ncol = 1` -/
theorem flatten_R_row (ns ia : List Nat) (ha : IdxIn ia ns) (h32 : ∀ r ∈ ns, r < 4294967296)
    (hprod : natProd ns < 9223372036854775808) :
    flattenC ns ia 1 = .ok ((glamRowMajor ns ia : Int), 0) := by
  have h := flatten_row_col_halves ns [] ia [] ha ((idxIn_nil_right []).2 rfl) (by rwa [List.append_nil])
    (by rwa [List.append_nil])
  rwa [List.append_nil, List.append_nil] at h

/-- non-vacuity: a 3-dimensional 70 × 50 × 40 coefficient grid (140 000 coefficients, 1.96·10¹⁰ cells): the cell of
`F` with row tuple (69, 49, 39) and column tuple (1, 2, 3) lands in row 139 999, column 2 083; and the `R` call. -/
example : IdxIn [69, 49, 39] [70, 50, 40] ∧ IdxIn [1, 2, 3] [70, 50, 40] ∧ (∀ r ∈ [70, 50, 40], r < 4294967296)
    ∧ natProd [70, 50, 40] * natProd [70, 50, 40] < 9223372036854775808
    ∧ flattenC ([70, 50, 40] ++ [70, 50, 40]) ([69, 49, 39] ++ [1, 2, 3]) (natProd [70, 50, 40]) = .ok (139999, 2083)
    ∧ flattenC [70, 50, 40] [69, 49, 39] 1 = .ok (139999, 0) := by
  exact ⟨⟨rfl, by decide +kernel⟩, ⟨rfl, by decide +kernel⟩, by decide +kernel, by decide +kernel, by decide +kernel, by decide +kernel⟩

/-- **(c) distinct cells of the tensor go to distinct cells of the matrix** (so `triplet_to_sparse` adds up exactly the
entries that the listing repeats, nothing else). -/
theorem flatten_injective (ranges idx idx' : List Nat) (ncol : Nat) (hv : IdxIn idx ranges) (hv' : IdxIn idx' ranges)
    (h32 : ∀ r ∈ ranges, r < 4294967296) (hb : natProd ranges < 9223372036854775808)
    (hn0 : 0 < ncol) (hn : ncol < 18446744073709551616)
    (he : flattenC ranges idx ncol = flattenC ranges idx' ncol) : idx = idx' := by
  rw [flatten_ctypes_exact ranges idx ncol hv h32 hb hn0 hn,
    flatten_ctypes_exact ranges idx' ncol hv' h32 hb hn0 hn] at he
  have h := CRes.ok.inj he
  have h1 : glamRowMajor ranges idx / ncol = glamRowMajor ranges idx' / ncol := by
    have := congrArg Prod.fst h; exact Int.ofNat.inj this
  have h2 : glamRowMajor ranges idx % ncol = glamRowMajor ranges idx' % ncol := by
    have := congrArg Prod.snd h; exact Int.ofNat.inj this
  exact glamRowMajor_inj ranges idx idx' hv hv' (Nat.ext_div_mod h1 h2)

/-- non-vacuity: two cells of the 257 × 257 problem beyond the 2³² boundary are kept apart -/
example : flattenC [257, 257, 257, 257] [254, 0, 0, 0] 66049 ≠ flattenC [257, 257, 257, 257] [0, 251, 3, 256] 66049 := by
  decide +kernel

/-- **The matrix assembled with the C-typed positions is the matrix `glam_eq_kron_C09` is about.**  For a tensor whose
listed entries have valid index tuples (`NdSparse.WF`), below 2⁶³ cells, `flatten_ndarray_to_sparse` with the index
arithmetic in its C types followed by `triplet_to_sparse` (`flattenNdC`) is the natural-number model `flattenNd` that
`glamSystem` uses — so the GLAM identity `glam_eq_kron_C09` holds for the routine as typed in C, for every problem with
fewer than 2⁶³ normal-matrix cells. -/
theorem flatten_ctypes_is_model {α : Type} [A : Arith α] (a : NdSparse α) (nrow ncol : Nat) (ha : a.WF)
    (h32 : ∀ r ∈ a.ranges, r < 4294967296) (hb : natProd a.ranges < 9223372036854775808)
    (hn0 : 0 < ncol) (hn : ncol < 18446744073709551616) :
    flattenNdC a nrow ncol = .ok (flattenNd a nrow ncol) := by
  unfold flattenNdC flattenNd
  rw [flatPositionsC_eq a.ranges ncol a.entries ha h32 hb hn0 hn]

/-- non-vacuity: three entries (one cell listed twice) of the 257 × 257 × 257 × 257 tensor, two of them beyond position 2³² -/
example : (⟨[257, 257, 257, 257], [([254, 0, 0, 0], (1 : Rat)), ([0, 251, 3, 256], 2), ([254, 0, 0, 0], 4)]⟩ : NdSparse Rat).WF := by
  intro e he
  simp only [List.mem_cons, List.not_mem_nil, or_false] at he
  rcases he with rfl | rfl | rfl <;> exact ⟨rfl, by decide⟩

/-- **(d) the width of `moduli[]` matters.**  With `unsigned moduli[]` (each product `i[j]*moduli[j]` computed modulo
2³²) the 257 × 257 problem — 66 049 coefficients, 4 362 470 401 cells — sends the cell (row tuple (254, 0), column tuple
(0, 0)), which belongs in row 65 278, column 0, to row 251, column 1 027, where the different cell
(row tuple (0, 251), column tuple (3, 256)) also goes: the statements (a) and (c) are false for that typing. -/
theorem flatten_unsigned_moduli_collides :
    flattenCT .uint [257, 257, 257, 257] [254, 0, 0, 0] 66049 = .ok (251, 1027)
    ∧ flattenCT .uint [257, 257, 257, 257] [0, 251, 3, 256] 66049 = .ok (251, 1027)
    ∧ flattenCT .long [257, 257, 257, 257] [254, 0, 0, 0] 66049 = .ok (65278, 0)
    ∧ flattenCT .long [257, 257, 257, 257] [0, 251, 3, 256] 66049 = .ok (251, 1027) := by
  decide +kernel

/-- the same for `int moduli[]` (first conjunct; second and third: a 70000 × 70000 tensor, where `int` is wrong and `long`
right); with `unsigned moduli[]` the 256 × 256 problem (2³² cells exactly) still has every in-range position right (fourth). -/
theorem flatten_int_moduli_wrong :
    flattenCT .int [257, 257, 257, 257] [254, 0, 0, 0] 66049 = .ok (251, 1027)
    ∧ flattenCT .int [70000, 70000] [69999, 5] 70000 = .ok (8642, 22709)
    ∧ flattenCT .long [70000, 70000] [69999, 5] 70000 = .ok (69999, 5)
    ∧ flattenCT .uint [256, 256, 256, 256] [255, 255, 255, 255] 65536 = .ok (65535, 65535) := by
  decide +kernel

section
variable {α : Type} [Field α] [LinearOrder α] [IsStrictOrderedRing α] [A : Arith α] [L : LawfulArith α]

/-- Multiplying every weight and every smoothing strength by `s` multiplies the objective by `s` (any `s`, any problem,
any coefficient vector). -/
theorem objective_scales (s : α) (P : FitProblem α) (c : Nat → α) :
    objective (scaleProblem s P) c = s * objective P c := objective_scaleProblem s P c

/-- … and the normal equations: `specM (s·w, s·λ) = s · specM (w, λ)`, `specR (s·w, s·λ) = s · specR (w, λ)`. -/
theorem normal_system_scales (s : α) (P : FitProblem α) :
    (scaleProblem s P).ncoef = P.ncoef
    ∧ (∀ i < P.ncoef, ∀ j < P.ncoef, (specM (scaleProblem s P)).get i j = s * (specM P).get i j)
    ∧ (∀ i < P.ncoef, (specR (scaleProblem s P)).getD i 0 = s * (specR P).getD i 0) :=
  ⟨rfl, fun i hi j hj => Mf_scale s P i j hi hj, fun i hi => rf_scale s P i hi⟩

/-- **Scale equivariance of the fit.**  For `s > 0` the problems `(w, λ)` and `(s·w, s·λ)` have the same minimisers, the
same solutions of the normal equations, and their normal matrices are positive definite together — so when one is
well-posed both are and their unique minimisers coincide.  (In particular a strictly positive smoothing strength can
never be treated as zero because it is small in absolute terms: with weights of the order 10⁻¹⁸, `λ = 3·10⁻¹⁷` is a strong
penalty.) -/
theorem C09_scale_equivariant (P : FitProblem α) (s : α) (hs : 0 < s) (c : Nat → α) :
    ((∀ c' : Nat → α, objective (scaleProblem s P) c ≤ objective (scaleProblem s P) c')
        ↔ ∀ c' : Nat → α, objective P c ≤ objective P c')
    ∧ ((∀ i < P.ncoef, mulVec P.ncoef (Mf (scaleProblem s P)) c i = rf (scaleProblem s P) i)
        ↔ ∀ i < P.ncoef, mulVec P.ncoef (Mf P) c i = rf P i)
    ∧ (PosDef P.ncoef (Mf (scaleProblem s P)) ↔ PosDef P.ncoef (Mf P)) := scaleProblem_equivariant P s hs c

/-- The unique minimiser of the well-posed problem `(w, λ)` is the unique minimiser of `(s·w, s·λ)`: every solution `c`
of the normal equations of the *scaled* problem minimises the *unscaled* objective, uniquely. -/
theorem C09_scaled_solution_is_unique_minimiser (P : FitProblem α) (s : α) (hs : 0 < s) (c : Nat → α)
    (hP : PosDef P.ncoef (Mf P))
    (hc : ∀ i < P.ncoef, mulVec P.ncoef (Mf (scaleProblem s P)) c i = rf (scaleProblem s P) i) :
    (∀ c' : Nat → α, objective P c ≤ objective P c')
      ∧ ∀ c' : Nat → α, objective P c' ≤ objective P c → ∀ i < P.ncoef, c' i = c i :=
  unique_minimiser_of_normal_eq P c hP (((C09_scale_equivariant P s hs c).2.1).1 hc)

end

/-- non-vacuity: the example problem with weights and smoothing multiplied by 2⁻⁶⁰ (smoothing 8.7·10⁻¹⁹, below
`DBL_EPSILON`): its objective is 2⁻⁶⁰ times the original one, and `c = (1,1)` — the minimiser of the original — solves its
normal equations and minimises it. -/
example : (0 : Rat) < 1 / 2 ^ 60 ∧ (scaleProblem (1 / 2 ^ 60) exP).smooth = [1 / 2 ^ 60]
    ∧ (∀ i < exP.ncoef, mulVec exP.ncoef (Mf (scaleProblem (1 / 2 ^ 60) exP)) (fun _ => 1) i
        = rf (scaleProblem (1 / 2 ^ 60) exP) i)
    ∧ ∀ c' : Nat → Rat, objective (scaleProblem (1 / 2 ^ 60) exP) (fun _ => 1) ≤ objective (scaleProblem (1 / 2 ^ 60) exP) c' := by
  have hs : (0 : Rat) < 1 / 2 ^ 60 := one_div_pos.2 (pow_pos two_pos 60)
  refine ⟨hs, congrArg (· :: []) (mul_one _), ?_, ?_⟩
  · exact ((C09_scale_equivariant exP _ hs _).2.1).2 exP_normal
  · exact ((C09_scale_equivariant exP _ hs _).1).2 (((C09_fit_is_minimiser exP _ exP_posDef).1).1 exP_normal)

end PsV
